/-
  The loop of `print_SequenceNode` with the to_remove / to_insert delimiter counters: whichever side is projected,
  two items that survive are always separated by a surviving comma (or the start symbol), so the tokens of the
  projection are the tokens of the surviving items, in script order.  Also: what `resolve` finds, and what the
  projection of one rendered edit has to satisfy (`EditSpec`).
-/
import GtModel.Proofs.RenderVal

namespace GtModel.Render
open GtModel

def absent (side : Bool) (k : Kind) : Bool := if side then k == .insert else k == .remove

/-- the delimiter written before the item (`none` for the first item) -/
def delimM (k : Kind) (tr ti : Nat) (first : Bool) : Option Mark :=
  if first then none else some (delim (bump k tr ti).1 (bump k tr ti).2).1

/-- the counters after the item (`bump`, then the delimiter taken off): the state `renderSubs` goes on with -/
def nextSt (k : Kind) (tr ti : Nat) (first : Bool) : Nat × Nat :=
  if first then bump k tr ti
  else ((delim (bump k tr ti).1 (bump k tr ti).2).2.1, (delim (bump k tr ti).1 (bump k tr ti).2).2.2)

def commaOut : Option Mark → Out
  | none => []
  | some m => [(44, m)]

theorem renderSubs_cons (fcs tcs : List Item) (tr ti : Nat) (first : Bool) (s : Script) (rest : List Script) :
    renderSubs fcs tcs tr ti first (s :: rest) =
      commaOut (delimM s.kind tr ti first) ++
      ((match resolve fcs tcs s with
        | some (x, y) => renderEdit true x y s
        | none => bad) ++
      renderSubs fcs tcs (nextSt s.kind tr ti first).1 (nextSt s.kind tr ti first).2 false rest) := by
  cases first <;> simp [renderSubs, delimM, nextSt, commaOut] <;> rfl

def commaKept (side : Bool) : Option Mark → Bool
  | none => false
  | some m => keepS side m

theorem proj_commaOut (side : Bool) (d : Option Mark) :
    proj (keepS side) (commaOut d) = if commaKept side d then [44] else [] := by
  cases d with
  | none => simp [commaOut, commaKept, proj_nil]
  | some m => by_cases h : keepS side m <;> simp [commaOut, commaKept, proj_cons, proj_nil, h]

/-- the states the two delimiter counters can reach: the invariant `round_facts` keeps and `seq_lemma` runs under -/
def Reach (tr ti : Nat) (first : Bool) : Prop :=
  tr ≤ 1 ∧ ti ≤ 1 ∧ (tr = 0 ∨ ti = 0) ∧ (first = true → tr = 0 ∧ ti = 0)

/-- nothing has survived on this side since the start symbol: no item yet, or the counter of the OTHER side is up
    (which it is exactly while every item so far was an edit of that other kind) -/
def Fresh (side : Bool) (tr ti : Nat) (first : Bool) : Prop := first = true ∨ (if side then ti else tr) = 1

/-- A side stays fresh only over an item that does not show on it; an item that shows is preceded by a delimiter
    that shows as well, unless the side was fresh. -/
theorem round_facts (side : Bool) (k : Kind) (tr ti : Nat) (first : Bool) (h : Reach tr ti first) :
    Reach (nextSt k tr ti first).1 (nextSt k tr ti first).2 false ∧
    (Fresh side (nextSt k tr ti first).1 (nextSt k tr ti first).2 false → absent side k = true ∧ Fresh side tr ti first) ∧
    (absent side k = false → commaKept side (delimM k tr ti first) = false → Fresh side tr ti first) := by
  obtain ⟨h1, h2, h3, h4⟩ := h
  have hst : (tr = 0 ∧ ti = 0) ∨ (tr = 1 ∧ ti = 0) ∨ (tr = 0 ∧ ti = 1) := by omega
  -- the kind enters only through the two tests; what is left is a table: three states, two tests, two sides
  simp only [Reach, Fresh, nextSt, delimM, bump, absent]
  generalize (k == .remove) = r
  generalize (k == .insert) = i
  cases first
  · rcases hst with ⟨rfl, rfl⟩ | ⟨rfl, rfl⟩ | ⟨rfl, rfl⟩ <;> cases r <;> cases i <;> cases side <;> decide
  · obtain ⟨rfl, rfl⟩ := h4 rfl
    cases r <;> cases i <;> cases side <;> decide

theorem map_diag_eq_some {α : Type} {o : Option α} {a b : α} (h : o.map (fun x => (x, x)) = some (a, b)) :
    o = some a ∧ b = a := by
  obtain ⟨z, hz, he⟩ := Option.map_eq_some_iff.1 h
  cases he; exact ⟨hz, rfl⟩

theorem resolve_some {fcs tcs : List Item} {s : Script} {a b : Item} (h : resolve fcs tcs s = some (a, b)) :
    ∃ i, s.fi = .at i ∧
      (s.kind = .remove ∧ fcs[i]? = some a ∧ b = a ∨
       s.kind = .insert ∧ tcs[i]? = some a ∧ b = a ∨
       s.kind ≠ .remove ∧ s.kind ≠ .insert ∧ fcs[i]? = some a ∧
         ((∃ j, s.ti = .at j ∧ tcs[j]? = some b) ∨ s.ti = .same ∧ b = a)) := by
  unfold resolve at h
  split at h
  · exact ⟨_, ‹_›, .inl ⟨‹_›, map_diag_eq_some h⟩⟩
  · exact ⟨_, ‹_›, .inr (.inl ⟨‹_›, map_diag_eq_some h⟩)⟩
  · split at h
    · cases h; exact ⟨_, ‹_›, .inr (.inr ⟨‹_›, ‹_›, ‹_›, .inl ⟨_, ‹_›, ‹_›⟩⟩)⟩
    · cases h
  · exact ⟨_, ‹_›, .inr (.inr ⟨‹_›, ‹_›, (map_diag_eq_some h).1, .inr ⟨‹_›, (map_diag_eq_some h).2⟩⟩)⟩
  · cases h

theorem resolve_forall {P : Item → Prop} {fcs tcs : List Item} {s : Script} {a b : Item}
    (hf : ∀ x ∈ fcs, P x) (ht : ∀ y ∈ tcs, P y) (h : resolve fcs tcs s = some (a, b)) : P a ∧ P b := by
  obtain ⟨i, _, ⟨_, ha, rfl⟩ | ⟨_, ha, rfl⟩ | ⟨_, _, ha, ⟨j, _, hb⟩ | ⟨_, rfl⟩⟩⟩ := resolve_some h
  · exact ⟨hf _ (List.mem_of_getElem? ha), hf _ (List.mem_of_getElem? ha)⟩
  · exact ⟨ht _ (List.mem_of_getElem? ha), ht _ (List.mem_of_getElem? ha)⟩
  · exact ⟨hf _ (List.mem_of_getElem? ha), ht _ (List.mem_of_getElem? hb)⟩
  · exact ⟨hf _ (List.mem_of_getElem? ha), hf _ (List.mem_of_getElem? ha)⟩

theorem resolve_other (fcs tcs : List Item) (s : Script) (i : Nat) (a : Item)
    (hr : s.kind ≠ .remove) (hi : s.kind ≠ .insert) (hf : s.fi = .at i) (ha : fcs[i]? = some a) :
    (∀ j b, s.ti = .at j → tcs[j]? = some b → resolve fcs tcs s = some (a, b)) ∧
    (s.ti = .same → resolve fcs tcs s = some (a, a)) := by
  unfold resolve
  split
  · contradiction
  · contradiction
  · simp_all
  · simp_all
  · rename_i h1 h2; exact ⟨fun j _ ht _ => absurd ht (h1 i j hf), fun ht => absurd ht (h2 i hf)⟩

def sideItem (side : Bool) (p : Item × Item) : Item := if side then p.1 else p.2

/-- the items that survive on this side, in script order -/
def sideItems (side : Bool) (fcs tcs : List Item) (subs : List Script) : List Item :=
  subs.filterMap fun s => if absent side s.kind then none else (resolve fcs tcs s).map (sideItem side)

/-- a complete JSON value whose tokens are those of a value equal (up to member order) to the node of that side -/
def ValueSpec (z : Item) (V : Str) : Prop := ClosedT V ∧ ∃ v', ValPerm v' z.val ∧ T V = v'.toks

def EditSpec (side : Bool) (x y : Item) (s : Script) : Prop :=
  if absent side s.kind then proj (keepS side) (renderEdit true x y s) = []
  else ValueSpec (sideItem side (x, y)) (proj (keepS side) (renderEdit true x y s))

theorem editSpec_absent {side : Bool} {x y : Item} {s : Script} (hk : absent side s.kind = true) :
    EditSpec side x y s ↔ proj (keepS side) (renderEdit true x y s) = [] := by
  rw [EditSpec, if_pos hk]

theorem editSpec_present {side : Bool} {x y : Item} {s : Script} (hk : absent side s.kind = false) :
    EditSpec side x y s ↔ ValueSpec (sideItem side (x, y)) (proj (keepS side) (renderEdit true x y s)) := by
  rw [EditSpec, hk]; rfl

theorem with_comma (kept : Bool) (w : Str) :
    T ((if kept then [44] else []) ++ w) = T w ∧
    ((kept = false → StartsPunct w) → StartsPunct ((if kept then [44] else []) ++ w)) := by
  cases kept
  · exact ⟨rfl, fun h => h rfl⟩
  · exact ⟨T_comma w, fun _ => ⟨44, w, rfl, by decide⟩⟩

/-- the loop from any reachable state of the counters: the tokens of the projection are those of the surviving
    items, and unless the side is still fresh the projection starts with punctuation -/
theorem seq_lemma (side : Bool) (fcs tcs : List Item) (subs : List Script)
    (h : ∀ s ∈ subs, ∃ x y, resolve fcs tcs s = some (x, y) ∧ EditSpec side x y s) :
    ∀ (tr ti : Nat) (first : Bool), Reach tr ti first →
      ∃ vs, ValPermL vs ((sideItems side fcs tcs subs).map Item.val) ∧
        ∀ post : Str, StartsPunct post →
          (¬ Fresh side tr ti first → StartsPunct (proj (keepS side) (renderSubs fcs tcs tr ti first subs) ++ post)) ∧
          T (proj (keepS side) (renderSubs fcs tcs tr ti first subs) ++ post) = toksL vs ++ T post := by
  induction subs with
  | nil =>
    intro tr ti first _
    refine ⟨[], by simpa [sideItems] using ValPermL.nil, ?_⟩
    intro post hpost
    simp only [renderSubs, proj_nil, List.nil_append]
    exact ⟨fun _ => hpost, by simp [toksL]⟩
  | cons s rest ih =>
    intro tr ti first hreach
    obtain ⟨x, y, hres, hspec⟩ := h s (by simp)
    obtain ⟨hreach', hstay, hcomma⟩ := round_facts side s.kind tr ti first hreach
    obtain ⟨vs, hvs, ihP⟩ := ih (fun s hs => h s (by simp [hs])) _ _ false hreach'
    rw [renderSubs_cons, hres]
    simp only [proj_append, proj_commaOut, List.append_assoc]
    generalize hR : proj (keepS side) (renderSubs fcs tcs (nextSt s.kind tr ti first).1
      (nextSt s.kind tr ti first).2 false rest) = R at ihP
    by_cases habs : absent side s.kind = true
    · rw [(editSpec_absent habs).1 hspec]
      have hitems : sideItems side fcs tcs (s :: rest) = sideItems side fcs tcs rest := by
        simp [sideItems, habs]
      rw [hitems]
      refine ⟨vs, hvs, fun post hpost => ?_⟩
      obtain ⟨ihS, ihT⟩ := ihP post hpost
      obtain ⟨hT, hS⟩ := with_comma (commaKept side (delimM s.kind tr ti first)) ([] ++ (R ++ post))
      exact ⟨fun hnf => hS fun _ => ihS fun hf => hnf (hstay hf).2, hT.trans ihT⟩
    · obtain ⟨hclosed, v', hv', hTV⟩ := (editSpec_present (by simpa using habs)).1 hspec
      generalize proj (keepS side) (renderEdit true x y s) = V at hclosed hTV
      have habs' : absent side s.kind = false := by simpa using habs
      have hitems : sideItems side fcs tcs (s :: rest) = sideItem side (x, y) :: sideItems side fcs tcs rest := by
        simp [sideItems, habs', hres]
      rw [hitems]
      refine ⟨v' :: vs, by simpa using ValPermL.cons hv' hvs, fun post hpost => ?_⟩
      obtain ⟨ihS, ihT⟩ := ihP post hpost
      have hRp : StartsPunct (R ++ post) := ihS fun hf => habs (hstay hf).1
      have hsplit : T (V ++ (R ++ post)) = toksL (v' :: vs) ++ T post := by
        rw [hclosed _ (Or.inr hRp), ihT, hTV]; simp [toksL]
      obtain ⟨hT, hS⟩ := with_comma (commaKept side (delimM s.kind tr ti first)) (V ++ (R ++ post))
      exact ⟨fun hnf => hS fun hk => absurd (hcomma habs' hk) hnf, hT.trans hsplit⟩

/-- the whole `print_SequenceNode`: start symbol, loop, end symbol -/
theorem seq_node (side : Bool) (x y : Item) (o c : Nat) (hb : x.brackets = some (o, c)) (subs : List Script)
    (h : ∀ s ∈ subs, ∃ a b, resolve x.children y.children s = some (a, b) ∧ EditSpec side a b s) :
    ∃ vs, ValPermL vs ((sideItems side x.children y.children subs).map Item.val) ∧
      ClosedT (proj (keepS side) (seqWrap x (renderSubs x.children y.children 0 0 true subs))) ∧
      T (proj (keepS side) (seqWrap x (renderSubs x.children y.children 0 0 true subs))) = (Val.seq o c vs).toks := by
  obtain ⟨ho, hc, ho', hc'⟩ := brackets_punct x o c hb
  obtain ⟨vs, hvs, hP⟩ := seq_lemma side x.children y.children subs h 0 0 true (by simp [Reach])
  refine ⟨vs, hvs, ?_⟩
  apply closedT_of_T
  intro w
  obtain ⟨_, hT⟩ := hP (c :: w) ⟨c, w, rfl, hc⟩
  simp only [seqWrap, hb, proj_cons, proj_append, keepS_plain, if_true, proj_nil, List.append_nil, List.cons_append,
    List.nil_append, List.append_assoc, Val.toks]
  rw [T_punct o _ ho ho', hT, T_punct c _ hc hc']

end GtModel.Render
