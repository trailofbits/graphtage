/-
  L3 → L2: `RefP a m sc` says that the ghost script / final cost of the machine `m` are the dump `toD sc` / the cost of
  the L2 script `sc`; one rule per machine class other than MultiSetEdit derives it for a compound machine from its
  parts.  For EditDistance the machine's back-trace `ptrace` is L2's located script of `EditMatrix.solve`; the rule is
  over a positional matrix of cells (`grid`) and serves both the list alignment and the string edit.
-/
import GtModel.Proofs.LazyFreshP

namespace GtModel.Lazy
open GtModel.EditMatrix (Cell Move step spec goLeft goUp goDiag cellAt origin located positionsFrom endPos solve
  step_cases middle trimLens)

attribute [-simp] List.getD_eq_getElem?_getD

mutual
/-- an L2 script as the harness' dump prints it (every cost a single value) -/
def toD : Script → DScript
  | .mk k f t c subs => .mk k f t (Iv.point c) (toDL subs)
def toDL : List Script → List DScript
  | [] => []
  | s :: rest => toD s :: toDL rest
end

theorem toDL_eq_map (l : List Script) : toDL l = l.map toD :=
  (map_eq_of_cons rfl (fun _ _ => rfl) l).symm

theorem toDL_append (l₁ l₂ : List Script) : toDL (l₁ ++ l₂) = toDL l₁ ++ toDL l₂ := by
  simp only [toDL_eq_map, List.map_append]

theorem toD_subs (s : Script) : (toD s).subs = toDL s.subs := by cases s; rfl

def DScript.relabel : DScript → Ix → Ix → DScript
  | .mk k _ _ c subs, f, t => .mk k f t c subs

theorem toD_relabel (s : Script) (f t : Ix) : toD (s.relabel f t) = (toD s).relabel f t := by
  cases s; rfl

theorem scriptG_relabel (a : Ghost) (m : M) (f t : Ix) : scriptG a (m.relabel f t) = (scriptG a m).relabel f t := by
  cases m <;> rfl

theorem map_ofScript (l : List Script) (h : ∀ s ∈ l, s.subs = []) : l.map DScript.ofScript = toDL l := by
  rw [toDL_eq_map]
  exact List.map_congr_left fun s hs => by cases s; cases h _ hs; rfl

structure RefP (a : Ghost) (m : M) (sc : Script) : Prop where
  scr : scriptG a m = toD sc
  fin : finG a m = sc.cost

structure RefL (a : Ghost) (ms : List M) (ss : List Script) : Prop where
  scr : scriptL a ms = toDL ss
  fin : finL a ms = sumCosts ss

section
variable {a : Ghost}

theorem RefP.relabel {m : M} {sc : Script} (h : RefP a m sc) (f t : Ix) : RefP a (m.relabel f t) (sc.relabel f t) :=
  ⟨by rw [scriptG_relabel, toD_relabel, h.scr], (finG_relabel a m f t).trans h.fin⟩

theorem RefP.ofLeaf (a : Ghost) (s : Script) (h : s.subs = []) : RefP a (ofLeafScript s) s := by
  cases s; cases h; exact ⟨rfl, rfl⟩

theorem RefP.const (a : Ghost) (c : Nat) : RefP a (mkConst .match_ c) (mkMatch c) := RefP.ofLeaf a (mkMatch c) rfl

theorem RefP.ite {c : Prop} [Decidable c] {m₁ m₂ : M} {s₁ s₂ : Script} (h₁ : c → RefP a m₁ s₁)
    (h₂ : ¬ c → RefP a m₂ s₂) : RefP a (if c then m₁ else m₂) (if c then s₁ else s₂) := by
  split
  · exact h₁ ‹_›
  · exact h₂ ‹_›

theorem map_toDL {ι : Type} (l : List ι) (sd : ι → DScript) (fn : ι → Nat) (sf : ι → Script)
    (h : ∀ x ∈ l, sd x = toD (sf x) ∧ fn x = (sf x).cost) :
    l.map sd = toDL (l.map sf) ∧ (l.map fn).sum = sumCosts (l.map sf) := by
  rw [toDL_eq_map, sumCosts, List.map_map, List.map_map]
  exact ⟨List.map_congr_left fun x hx => (h x hx).1, congrArg _ (List.map_congr_left fun x hx => (h x hx).2)⟩

theorem RefL.map {ι : Type} (l : List ι) (Mf : ι → M) (Sf : ι → Script) (h : ∀ x ∈ l, RefP a (Mf x) (Sf x)) :
    RefL a (l.map Mf) (l.map Sf) := by
  have := map_toDL l (fun x => scriptG a (Mf x)) (fun x => finG a (Mf x)) Sf fun x hx => ⟨(h x hx).scr, (h x hx).fin⟩
  exact ⟨by rw [scriptL_eq_map, List.map_map]; exact this.1, by rw [finL_eq_sum, List.map_map]; exact this.2⟩

theorem RefL.append {m₁ m₂ : List M} {s₁ s₂ : List Script} (h₁ : RefL a m₁ s₁) (h₂ : RefL a m₂ s₂) :
    RefL a (m₁ ++ m₂) (s₁ ++ s₂) :=
  ⟨by rw [toDL_append, ← h₁.scr, ← h₂.scr]; simp only [scriptL_eq_map, List.map_append],
    by rw [sumCosts_append, ← h₁.fin, ← h₂.fin]; simp only [finL_eq_sum, List.map_append, List.sum_append]⟩

theorem RefP.fixed (k : Kind) {ms : List M} {ss : List Script} (h : RefL a ms ss) (tail : List Script)
    (ht : ∀ s ∈ tail, s.subs = []) : RefP a (.fixed { kind := k } ms tail) (mkCompound k (ss ++ tail)) :=
  ⟨by simp only [scriptG, mkCompound, toD, toDL_append, sumCosts_append, h.scr, h.fin, map_ofScript tail ht]; rfl,
    by simp only [finG, mkCompound_cost, sumCosts_append, h.fin]; rfl⟩

theorem RefP.coll (k : Kind) (st : CollSt) {ms : List M} {ss : List Script} (h : RefL a ms ss) :
    RefP a (.coll { kind := k } st ms []) (mkCompound k ss) :=
  ⟨by simp only [scriptG, finL, scriptL, Nat.zero_add, List.nil_append, h.scr, h.fin, mkCompound, toD],
    by simp only [finG, finL, Nat.zero_add, h.fin, mkCompound_cost]⟩

theorem RefP.kvp {k v : M} {sk sv : Script} (hk : RefP a k sk) (hv : RefP a v sv) :
    RefP a (.kvp { kind := .kvp } k v) (mkCompound .kvp [sk, sv]) :=
  ⟨by simp only [scriptG, mkCompound, toD, toDL, hk.scr, hv.scr, hk.fin, hv.fin, sumCosts_cons, sumCosts_nil,
      Nat.add_zero],
    by simp only [finG, mkCompound_cost, hk.fin, hv.fin, sumCosts_cons, sumCosts_nil, Nat.add_zero]⟩

theorem RefP.str (l : Lbl) {e : M} {sc : Script} (h : RefP a e sc) :
    RefP a (.str l e) (.mk l.kind l.fi l.ti sc.cost sc.subs) :=
  ⟨by simp only [scriptG, h.scr, h.fin, toD_subs, toD], h.fin⟩

end

/-- L2 locates a move at the position before it, the machine's back-trace at the position after it -/
def afterMv (x : Move × Nat × Nat) : Move × Nat × Nat :=
  (x.1, (Move.next x.2.1 x.2.2 x.1).1, (Move.next x.2.1 x.2.2 x.1).2)

theorem positionsFrom_append (r c : Nat) (ms : List Move) (mv : Move) :
    positionsFrom r c (ms ++ [mv]) = positionsFrom r c ms ++ [endPos r c ms] := by
  induction ms generalizing r c with
  | nil => rfl
  | cons m ms ih => simp [positionsFrom, endPos, ih]

theorem located_append (ms : List Move) (mv : Move) :
    located (ms ++ [mv]) = located ms ++ [(mv, endPos 0 0 ms)] := by
  simp only [located, positionsFrom_append]
  rw [List.zip_append (by simp [EditMatrix.positionsFrom_length])]
  rfl

theorem next_sum {r c : Nat} {mv : Move} {p : Nat × Nat} (h : Move.next r c mv = p) : r + c < p.1 + p.2 := by
  subst h
  cases mv
  · exact Nat.add_lt_add (Nat.lt_succ_self r) (Nat.lt_succ_self c)
  · exact Nat.add_lt_add_right (Nat.lt_succ_self r) c
  · exact Nat.add_lt_add_left (Nat.lt_succ_self c) r

section
variable (s : EdSt) (fm : List (List Nat))

theorem edT_endPos (r c : Nat) : endPos 0 0 (edT s fm r c).script.reverse = (r, c) :=
  EditMatrix.spec_endPos s.rem s.ins fm r c

theorem edT_script_step (r c : Nat) (h : ¬ (r = 0 ∧ c = 0)) :
    (edT s fm r c).script
        = moveAt s fm r c :: (edT s fm (predOf (moveAt s fm r c) r c).1 (predOf (moveAt s fm r c) r c).2).script ∧
      Move.next (predOf (moveAt s fm r c) r c).1 (predOf (moveAt s fm r c) r c).2 (moveAt s fm r c) = (r, c) := by
  cases r with
  | zero =>
    cases c with
    | zero => exact absurd ⟨rfl, rfl⟩ h
    | succ c => exact ⟨congrArg Cell.script (spec.eq_2 s.rem s.ins fm c), rfl⟩
  | succ r =>
    cases c with
    | zero => exact ⟨congrArg Cell.script (spec.eq_3 s.rem s.ins fm r), rfl⟩
    | succ c =>
      rw [show moveAt s fm (r + 1) (c + 1) = (edT s fm (r + 1) (c + 1)).script.headD .left from rfl, edT, spec.eq_4]
      rcases step_cases (s.ins.getD r 0) (s.rem.getD c 0) (cellAt fm r c) (spec s.rem s.ins fm r c)
        (spec s.rem s.ins fm (r + 1) c) (spec s.rem s.ins fm r (c + 1)) with ⟨h, _⟩ | h | h <;>
      · rw [h]; exact ⟨rfl, rfl⟩

theorem ptrace_located (k r c : Nat) (hk : r + c ≤ k) :
    (ptrace s fm k r c).reverse = (located (edT s fm r c).script.reverse).map afterMv := by
  induction k generalizing r c with
  | zero =>
    obtain ⟨rfl, rfl⟩ := Nat.add_eq_zero_iff.mp (Nat.le_zero.mp hk)
    rw [edT, spec.eq_1]; rfl
  | succ k ih =>
    by_cases h : r = 0 ∧ c = 0
    · obtain ⟨rfl, rfl⟩ := h
      rw [edT, spec.eq_1]; rfl
    · obtain ⟨e, hn⟩ := edT_script_step s fm r c h
      have hb : ¬ ((r == 0 && c == 0) = true) := by simpa only [Bool.and_eq_true, beq_iff_eq] using h
      rw [ptrace, if_neg hb, List.reverse_cons, ih _ _ (Nat.le_of_lt_succ (Nat.lt_of_lt_of_le (next_sum hn) hk)), e,
        List.reverse_cons, located_append, List.map_append, edT_endPos]
      simp only [List.map_cons, List.map_nil, afterMv, hn]

theorem ptrace_solve :
    (ptrace s fm (s.nt + s.nf + 1) s.nt s.nf).reverse = (located (solve s.rem s.ins fm).2).map afterMv := by
  rw [ptrace_located s fm _ s.nt s.nf (Nat.le_succ _)]
  simp only [solve, EditMatrix.corner_eq_spec, edT, EdSt.nt, EdSt.nf]

def edItem (scr : List (List DScript)) (x : Move × Nat × Nat) : DScript :=
  match x.1 with
  | .diag => (scr.getD x.2.1 []).getD x.2.2 default
  | .up => .mk .insert (.at (x.2.1 + s.pre)) .none (Iv.point (s.ins.getD x.2.1 0)) []
  | .left => .mk .remove (.at (x.2.2 + s.pre)) .none (Iv.point (s.rem.getD x.2.2 0)) []

theorem edPathScripts_after (scr : List (List DScript)) (l : List (Move × Nat × Nat)) :
    edPathScripts s scr (l.map afterMv) = l.map (edItem s scr) := by
  induction l with
  | nil => rfl
  | cons x xs ih =>
    obtain ⟨mv, r, c⟩ := x
    cases mv <;> simp only [List.map_cons, afterMv, Move.next, edPathScripts, ih, edItem, Nat.add_sub_cancel]

end

theorem zipIdx_map_fst {α β : Type} (l : List α) (g : α → β) (k : Nat) :
    (l.zipIdx k).map (fun p => g p.1) = l.map g := by
  induction l generalizing k with
  | nil => rfl
  | cons x xs ih => simp [List.zipIdx_cons, ih]

section
variable (a : Ghost) (s : EdSt)

theorem matchesFrom_eq (fi ti k : Nat) :
    matchesFrom fi ti k = toDL ((List.range k).map fun j => (mkMatch 0).relabel (.at (fi + j)) (.at (ti + j))) := by
  rw [toDL_eq_map, List.map_map]; rfl

def l2Item (D : Nat → Nat → Script) (szT szF : Nat → Nat) (pre pen : Nat) (x : Move × Nat × Nat) : Script :=
  match x.1 with
  | .diag => D x.2.1 x.2.2
  | .up => GtModel.mkInsert (x.2.1 + pre) (szT x.2.1) pen
  | .left => GtModel.mkRemove (x.2.2 + pre) (szF x.2.2) pen

/-- the sub-edit list of L2's `edScript`: prefix matches, located moves, suffix matches -/
def edSubs (pre suf flen tlen : Nat) (D : Nat → Nat → Script) (szT szF : Nat → Nat) (pen : Nat)
    (moves : List Move) : List Script :=
  (List.range pre).map (fun k => (mkMatch 0).relabel (.at k) (.at k))
    ++ (located moves).map (l2Item D szT szF pre pen)
    ++ (List.range suf).map fun k => (mkMatch 0).relabel (.at (flen - suf + k)) (.at (tlen - suf + k))

/-- `res` with `hres : solve … = res` stands for the result of L2's `solve`, so that the statement can speak of `res.1` and
    `res.2` without writing the `solve` term twice; callers pass `_ rfl` -/
theorem RefP.ed (l : Lbl) (kM : Nat → Nat → M) (D : Nat → Nat → Script) (szT szF : Nat → Nat) (pen : Nat)
    (hk : ∀ r c, r < s.nt → c < s.nf → RefP a (kM r c) (D r c))
    (hins : ∀ r, r < s.nt → s.ins.getD r 0 = szT r + pen)
    (hrem : ∀ c, c < s.nf → s.rem.getD c 0 = szF c + pen)
    (res : Nat × List Move) (hres : solve s.rem s.ins (grid s.nt s.nf fun r c => (D r c).cost) = res) :
    RefP a (.ed l s (grid s.nt s.nf kM))
      (.mk l.kind l.fi l.ti res.1 (edSubs s.pre s.suf s.flen s.tlen D szT szF pen res.2)) := by
  have hfm : finLL a (grid s.nt s.nf kM) = grid s.nt s.nf fun r c => (D r c).cost := by
    rw [finLL_eq_map, grid_map]
    exact grid_congr fun r c hr hc => (hk r c hr hc).fin
  have hmid : ∀ x ∈ located res.2, edItem s (scriptLL a (grid s.nt s.nf kM)) x = toD (l2Item D szT szF s.pre pen x) := by
    intro x hx
    -- L2's fact: a located move names a row / a column of the matrix, unless it does not use one
    obtain ⟨h1, h2⟩ := GtModel.solve_located_inRange s.rem s.ins _ x (hres ▸ hx)
    obtain ⟨mv, r, c⟩ := x
    cases mv
    · simp only [edItem, l2Item]
      rw [scriptLL_eq_map, grid_map, grid_getD, if_pos ⟨h1 Move.noConfusion, h2 Move.noConfusion⟩]
      exact (hk r c (h1 Move.noConfusion) (h2 Move.noConfusion)).scr
    · simp only [edItem, l2Item, GtModel.mkInsert, toD, toDL, hins r (h1 Move.noConfusion)]
    · simp only [edItem, l2Item, GtModel.mkRemove, toD, toDL, hrem c (h2 Move.noConfusion)]
  refine ⟨?_, by rw [finG, edFin_eq_solve, hfm, hres]; rfl⟩
  simp only [scriptG]
  rw [ptrace_solve, edPathScripts_after, edFin_eq_solve, hfm, hres, toD, edSubs, toDL_append, toDL_append, matchesFrom_eq,
    matchesFrom_eq, toDL_eq_map (List.map _ (located _)), List.map_map]
  simp only [Nat.zero_add]
  rw [List.map_congr_left hmid]
  rfl

end

/-- L2's `edScript` (and the cost / sub-edits of `strSubs`) over abstract element sizes `sz` and cell scripts `D r c` -/
def edReplay {α : Type} (xs ys : List α) (ps : Nat × Nat) (sz : α → Nat) (pen : Nat) (d : α)
    (D : Nat → Nat → Script) : Script :=
  let mf := middle xs ps
  let mt := middle ys ps
  let res := solve (mf.map fun x => sz x + pen) (mt.map fun y => sz y + pen)
    (grid mt.length mf.length fun r c => (D r c).cost)
  .mk .ed .none .none res.1
    (edSubs ps.1 ps.2 xs.length ys.length D (fun r => sz (mt.getD r d)) (fun c => sz (mf.getD c d)) pen res.2)

theorem ed_refines {α : Type} (a : Ghost) (xs ys : List α) (ps : Nat × Nat) (sz : α → Nat) (pen : Nat) (d : α)
    (kM : Nat → Nat → M) (D : Nat → Nat → Script)
    (hk : ∀ r c, r < (middle ys ps).length → c < (middle xs ps).length → RefP a (kM r c) (D r c)) :
    RefP a (.ed { kind := .ed } (edInit ps (xs.map sz) (ys.map sz) pen)
      (grid (middle ys ps).length (middle xs ps).length kM)) (edReplay xs ys ps sz pen d D) := by
  generalize hs : edInit ps (xs.map sz) (ys.map sz) pen = s
  have hrem : s.rem = (middle xs ps).map fun x => sz x + pen := by
    rw [← hs, edInit_rem, middle_map, List.map_map]; rfl
  have hins : s.ins = (middle ys ps).map fun y => sz y + pen := by
    rw [← hs, edInit_ins, middle_map, List.map_map]; rfl
  have hnf : (middle xs ps).length = s.nf := by rw [EdSt.nf, hrem, List.length_map]
  have hnt : (middle ys ps).length = s.nt := by rw [EdSt.nt, hins, List.length_map]
  have h := RefP.ed a s { kind := .ed } kM D (fun r => sz ((middle ys ps).getD r d))
    (fun c => sz ((middle xs ps).getD c d)) pen
    (fun r c hr hc => hk r c (hnt ▸ hr) (hnf ▸ hc))
    (fun r hr => by rw [hins, getD_map _ _ d _ _ (hnt ▸ hr)])
    (fun c hc => by rw [hrem, getD_map _ _ d _ _ (hnf ▸ hc)]) _ rfl
  have hl : s.flen = xs.length ∧ s.tlen = ys.length := by rw [← hs]; exact ⟨List.length_map _, List.length_map _⟩
  rw [hrem, hins, hl.1, hl.2, ← hnf, ← hnt] at h
  subst hs
  exact h

theorem charCells_eq_grid (u v : Str) :
    EditMatrix.charCells u v = grid v.length u.length fun r c => if u.getD c 0 == v.getD r 0 then 0 else 1 := by
  simp only [EditMatrix.charCells, grid, ← map_range_getD v 0, ← map_range_getD u 0, beq_iff_eq]

theorem mkStr_refines (a : Ghost) (u v : Str) : RefP a (mkStr u v) (strEdits u v) := by
  unfold mkStr strEdits
  rw [strSubs, charCells_eq_grid]
  generalize trimLens u v = ps
  -- the StringEdit proper: an EditDistance over the characters between the shared prefix and suffix
  let f (y r x c : Nat) : M :=
    .const { kind := .match_, fi := .at (c + ps.1), ti := .at (r + ps.1) } (if x == y then 0 else 1)
  have h := (ed_refines a u v ps (fun _ => 1) 0 0
    (fun r c => f ((middle v ps).getD r 0) r ((middle u ps).getD c 0) c)
    (fun r c => (mkMatch (if (middle u ps).getD c 0 == (middle v ps).getD r 0 then 0 else 1)).relabel
      (.at (c + ps.1)) (.at (r + ps.1)))
    fun r c _ _ => (RefP.const a _).relabel _ _).str { kind := .str }
  rw [← zipIdx_grid _ _ 0 0 f] at h
  exact RefP.ite (fun _ => RefP.const a 0) fun _ => RefP.ite (fun _ => RefP.const a 1) fun _ => h

theorem mkKvp_refines {a : Ghost} (fk tk : Str) (veq : Bool) {ve : M} {sc : Script} (h : RefP a ve sc) :
    RefP a (mkKvp fk tk veq ve) (kvpScript fk tk veq sc) :=
  RefP.kvp ((RefP.ite (fun _ => RefP.const a 0) fun _ => mkStr_refines a fk tk).relabel _ _)
    ((RefP.ite (fun _ => RefP.const a 0) fun _ => h).relabel _ _)

end GtModel.Lazy
