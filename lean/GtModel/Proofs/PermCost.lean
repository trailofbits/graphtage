/-
  C08 (3): on trees without `DictNode`s (what `build` makes with `allow_key_edits = False`) a comparison does not
  depend on the order of the pairs of any mapping, at any depth of either operand, nor on node paths or the oracle.
  The sub-edits of a `FixedKeyDictNodeEdit`, read as (from-key, to-key, kind, cost), are the pairing that key look-up
  determines, a multiset that is the same however the pairs are ordered; the cost is the sum of its last components.
-/
import GtModel.Proofs.PermTree
import GtModel.Proofs.ZeroPerm

namespace GtModel

def lookupKV (k : Str) (l : List (Str × Tree)) : Option (Str × Tree) := l.find? (fun p => k == p.1)

theorem findKey_zero_lookup (l : List (Str × Tree)) (k : Str) :
    (findKey k l 0).map (fun j => l.getD j dKV) = lookupKV k l := by
  rw [findKey_eq, lookupKV, List.find?_eq_bind_findIdx?_getElem?]
  cases h : l.findIdx? (fun p => k == p.1) with
  | none => rfl
  | some j =>
    have hj := (List.findIdx?_eq_some_iff_getElem.1 h).1
    simp [List.getD_eq_getElem?_getD, hj]

theorem lookupKV_some {k : Str} {l : List (Str × Tree)} {q : Str × Tree} (h : lookupKV k l = some q) :
    q ∈ l ∧ q.1 = k := by
  simp only [lookupKV] at h
  exact ⟨List.mem_of_find?_eq_some h, by have := List.find?_some h; simp at this; exact this.symm⟩

theorem lookupKV_none {k : Str} {l : List (Str × Tree)} (h : lookupKV k l = none) : k ∉ l.map Prod.fst := by
  simp only [lookupKV, List.find?_eq_none] at h
  intro hk
  obtain ⟨q, hq, rfl⟩ := List.mem_map.1 hk
  exact h q hq (by simp)

theorem lookupKV_congr {tkv tkv' : List (Str × Tree)} (ht : KVPerm tkv tkv') (hn : (tkv.map Prod.fst).Nodup) (k : Str) :
    (∀ q, lookupKV k tkv = some q → ∃ q', lookupKV k tkv' = some q' ∧ PairRel q q') ∧
    (lookupKV k tkv = none → lookupKV k tkv' = none) := by
  have hn' : (tkv'.map Prod.fst).Nodup := ht.keys_perm.nodup hn
  constructor
  · intro q hq
    obtain ⟨hm, hk⟩ := lookupKV_some hq
    obtain ⟨q', hm', hpr⟩ := ht.left q hm
    cases hq'' : lookupKV k tkv' with
    | none => exact absurd (List.mem_map.2 ⟨q', hm', by rw [← hpr.1, hk]⟩) (lookupKV_none hq'')
    | some q'' =>
      obtain ⟨hm'', hk''⟩ := lookupKV_some hq''
      cases eq_of_mem_of_key_eq hn' hm'' hm' (by rw [hk'', ← hpr.1, hk])
      exact ⟨_, rfl, hpr⟩
  · intro hnone
    cases hq : lookupKV k tkv' with
    | none => rfl
    | some q' =>
      exfalso
      obtain ⟨hm', hk'⟩ := lookupKV_some hq
      exact lookupKV_none hnone (ht.keys_perm.symm.subset (List.mem_map.2 ⟨q', hm', hk'⟩))

/-- cost of `KeyValuePairEdit(p, q)` when the value edit costs `C p.2 q.2` -/
def kvpCost (C : Tree → Tree → Nat) (p q : Str × Tree) : Nat :=
  (if p.1 == q.1 then 0 else (strEdits p.1 q.1).cost) + (if p.2.eq q.2 then 0 else C p.2 q.2)

theorem kvpScript_cost (C : Tree → Tree → Nat) (p q : Str × Tree) (cell : Script) (h : cell.cost = C p.2 q.2) :
    (kvpScript p.1 q.1 (p.2.eq q.2) cell).cost = kvpCost C p q := by
  simp only [kvpScript, mkCompound_cost, sumCosts_cons, sumCosts_nil, Script.relabel_cost, kvpCost, Nat.add_zero]
  congr 1
  · split <;> rfl
  · split
    · rfl
    · exact h

/-- (from-key, to-key, kind of edit, cost) -/
abbrev PairT := Option Str × Option Str × Kind × Nat

/-- read a sub-edit of an `fk` script back through its child indices -/
def subTuple (fkv tkv : List (Str × Tree)) (s : Script) : PairT :=
  match s.kind, s.fi, s.ti with
  | .insert, .at j, _ => (none, some (tkv.getD j dKV).1, .insert, s.cost)
  | .remove, .at i, _ => (some (fkv.getD i dKV).1, none, .remove, s.cost)
  | k, .at i, .at j => (some (fkv.getD i dKV).1, some (tkv.getD j dKV).1, k, s.cost)
  | k, _, _ => (none, none, k, s.cost)

/-- what key look-up makes of a from-pair: matched with THE to-pair of the same key, otherwise removed -/
def fromTuple (C : Tree → Tree → Nat) (tkv : List (Str × Tree)) (p : Str × Tree) : PairT :=
  match lookupKV p.1 tkv with
  | some q => (some p.1, some q.1, if kvEq p q then .match_ else .kvp, if kvEq p q then 0 else kvpCost C p q)
  | none => (some p.1, none, .remove, kvSize p + 1)

/-- a to-pair whose key does not occur in the from-mapping is inserted -/
def toTuple (fkv : List (Str × Tree)) (q : Str × Tree) : Option PairT :=
  match lookupKV q.1 fkv with
  | some _ => none
  | none => some (none, some q.1, .insert, kvSize q + 1)

theorem perm_filterMap_split {α β : Type} (g1 g2 : α → Option β) (h : α → β) : ∀ (l : List α),
    (∀ i ∈ l, (g1 i = some (h i) ∧ g2 i = none) ∨ (g1 i = none ∧ g2 i = some (h i))) →
    (l.filterMap g1 ++ l.filterMap g2).Perm (l.map h) := by
  intro l
  induction l with
  | nil => intro _; simp
  | cons a l ih =>
    intro hl
    have ih' := ih (fun i hi => hl i (List.mem_cons_of_mem _ hi))
    rcases hl a List.mem_cons_self with ⟨h1, h2⟩ | ⟨h1, h2⟩
    · simp only [List.filterMap_cons, h1, h2, List.map_cons, List.cons_append]
      exact List.Perm.cons _ ih'
    · simp only [List.filterMap_cons, h1, h2, List.map_cons]
      exact List.perm_middle.trans (List.Perm.cons _ ih')

theorem fkScript_subs_perm (C : Tree → Tree → Nat) (fkv tkv : List (Str × Tree)) (vtbl : List (List Script))
    (hC : ∀ i j, i < fkv.length → j < tkv.length →
      ((vtbl.getD i []).getD j (mkMatch 0)).cost = C (fkv.getD i dKV).2 (tkv.getD j dKV).2) :
    ((fkScript fkv tkv vtbl).subs.map (subTuple fkv tkv)).Perm
      (fkv.map (fromTuple C tkv) ++ tkv.filterMap (toTuple fkv)) := by
  simp only [fkScript, mkCompound, Script.subs, List.map_append, List.map_filterMap]
  apply List.Perm.append
  · rw [← map_range_getD fkv dKV (fromTuple C tkv)]
    apply perm_filterMap_split
    intro i hi
    simp only [List.mem_range] at hi
    have hl := findKey_zero_lookup tkv (fkv.getD i dKV).1
    simp only [fromTuple, ← hl]
    cases hf : findKey (fkv.getD i dKV).1 tkv 0 with
    | none => right; simp [subTuple, mkRemove, Script.kind, Script.fi, Script.ti, Script.cost]
    | some j =>
      have hj := findKey_lt hf
      left
      simp only [Option.map_some, Option.some.injEq]
      split
      · simp [subTuple, mkMatch, Script.relabel, Script.kind, Script.fi, Script.ti, Script.cost]
      · have := kvpScript_cost C _ _ _ (hC i j hi hj)
        simp only [subTuple, Script.relabel, Script.kind, Script.fi, Script.ti, Script.cost]
        simp only [kvpScript, mkCompound] at this ⊢
        simp only [Script.cost] at this ⊢
        rw [this]
        exact ⟨rfl, rfl⟩
  · rw [← filterMap_range_getD tkv dKV (toTuple fkv)]
    apply List.Perm.of_eq
    apply filterMap_congr'
    intro j hj
    have hl := findKey_zero_lookup fkv (tkv.getD j dKV).1
    simp only [toTuple, ← hl]
    cases hf : findKey (tkv.getD j dKV).1 fkv 0 with
    | none => simp [subTuple, mkInsert, Script.kind, Script.fi, Script.ti, Script.cost]
    | some i => simp

theorem fk_tuples_congr (C : Tree → Tree → Nat) {fkv fkv' tkv tkv' : List (Str × Tree)}
    (hf : KVPerm fkv fkv') (ht : KVPerm tkv tkv')
    (hnf : (fkv.map Prod.fst).Nodup) (hnt : (tkv.map Prod.fst).Nodup)
    (hC : ∀ p ∈ fkv, ∀ q ∈ tkv, ∀ p' ∈ fkv', ∀ q' ∈ tkv', PairRel p p' → PairRel q q' → C p.2 q.2 = C p'.2 q'.2) :
    (fkv.map (fromTuple C tkv) ++ tkv.filterMap (toTuple fkv)).Perm
      (fkv'.map (fromTuple C tkv') ++ tkv'.filterMap (toTuple fkv')) := by
  apply List.Perm.append
  · apply hf.map_perm
    intro p hp p' hp' hpp
    obtain ⟨h1, h2⟩ := lookupKV_congr ht hnt p.1
    simp only [fromTuple, ← hpp.1]
    cases hq : lookupKV p.1 tkv with
    | none => rw [h2 hq]; simp only [hpp.kvSize_eq]
    | some q =>
      obtain ⟨q', hq', hqq⟩ := h1 q hq
      rw [hq']
      simp only [hpp.kvEq_congr hqq, kvpCost, hpp.1, hqq.1, hpp.2.eq_congr hqq.2,
        hC p hp q (lookupKV_some hq).1 p' hp' q' (lookupKV_some hq').1 hpp hqq]
  · rw [filterMap_eq_map_filterMap, filterMap_eq_map_filterMap (toTuple fkv')]
    apply List.Perm.filterMap
    apply ht.map_perm
    intro q hq q' hq' hqq
    obtain ⟨h1, h2⟩ := lookupKV_congr hf hnf q.1
    simp only [toTuple, ← hqq.1]
    cases hp : lookupKV q.1 fkv with
    | none => rw [h2 hp]; simp only [hqq.kvSize_eq]
    | some p =>
      obtain ⟨p', hp', -⟩ := h1 p hp
      rw [hp']

theorem subTuple_cost (fkv tkv : List (Str × Tree)) (s : Script) : (subTuple fkv tkv s).2.2.2 = s.cost := by
  unfold subTuple
  split <;> rfl

def cost0 (o : Opts) (v w : Tree) : Nat := (edits o [] [] [] v w).cost

theorem fdict_cost_eq_tuples (o : Opts) (orc : Oracle) (fp tp : List Nat) (fkv tkv : List (Str × Tree)) :
    (edits o orc fp tp (.fdict fkv) (.fdict tkv)).cost =
      (((edits o orc fp tp (.fdict fkv) (.fdict tkv)).subs.map (subTuple fkv tkv)).map (·.2.2.2)).sum := by
  have : ∀ l : List Script, ((l.map (subTuple fkv tkv)).map (·.2.2.2)).sum = sumCosts l := fun l => by
    rw [List.map_map, sumCosts]
    exact congrArg List.sum (List.map_congr_left fun s _ => subTuple_cost fkv tkv s)
  rw [this, edits_fdict_fdict]
  split <;> rfl

section
variable (o : Opts) (orc orc' : Oracle) (fp tp fp' tp' : List Nat) {fkv fkv' tkv tkv' : List (Str × Tree)}

/-- the tuples of a `FixedKeyDictNodeEdit` do not depend on the order of the pairs, provided the costs of the value
    edits do not (in the recursion: the induction hypothesis; afterwards: the theorem itself) -/
theorem fdict_tuples_perm (kf : KVPerm fkv fkv') (kt : KVPerm tkv tkv')
    (hnf : (fkv.map Prod.fst).Nodup) (hnt : (tkv.map Prod.fst).Nodup)
    (H : ∀ p ∈ fkv, ∀ p' ∈ fkv', ∀ q ∈ tkv, ∀ q' ∈ tkv', PairRel p p' → PairRel q q' →
      ∀ (orc orc' : Oracle) (fp tp fp' tp' : List Nat),
        (edits o orc fp tp p.2 q.2).cost = (edits o orc' fp' tp' p'.2 q'.2).cost) :
    ((edits o orc fp tp (.fdict fkv) (.fdict tkv)).subs.map (subTuple fkv tkv)).Perm
      ((edits o orc' fp' tp' (.fdict fkv') (.fdict tkv')).subs.map (subTuple fkv' tkv')) := by
  have heq : (fkv.length == tkv.length && subKV fkv tkv) = (fkv'.length == tkv'.length && subKV fkv' tkv') := by
    have := ((TPerm_fdict_iff _ _).2 kf).eq_congr ((TPerm_fdict_iff _ _).2 kt)
    rwa [Tree.eq, Tree.eq] at this
  rw [edits_fdict_fdict, edits_fdict_fdict, ← heq]
  split
  · exact List.Perm.refl _
  · -- a value edit costs `cost0`, whatever the paths and the oracle are
    have hcell : ∀ i j, i < fkv.length → j < tkv.length →
        (((kvTbl o orc fp tp fkv tkv).getD i []).getD j (mkMatch 0)).cost =
          cost0 o (fkv.getD i dKV).2 (tkv.getD j dKV).2 := by
      intro i j hi hj
      rw [kvTbl_getD _ _ _ _ _ _ _ _ _ hi hj, getD_eq_getElem _ _ hi, getD_eq_getElem _ _ hj]
      obtain ⟨p', hp', hp⟩ := kf.left _ (List.getElem_mem hi)
      obtain ⟨q', hq', hq⟩ := kt.left _ (List.getElem_mem hj)
      exact (H _ (List.getElem_mem hi) p' hp' _ (List.getElem_mem hj) q' hq' hp hq _ [] _ _ [] []).trans
        (H _ (List.getElem_mem hi) p' hp' _ (List.getElem_mem hj) q' hq' hp hq [] [] [] [] [] []).symm
    have hcell' : ∀ i j, i < fkv'.length → j < tkv'.length →
        (((kvTbl o orc' fp' tp' fkv' tkv').getD i []).getD j (mkMatch 0)).cost =
          cost0 o (fkv'.getD i dKV).2 (tkv'.getD j dKV).2 := by
      intro i j hi hj
      rw [kvTbl_getD _ _ _ _ _ _ _ _ _ hi hj, getD_eq_getElem _ _ hi, getD_eq_getElem _ _ hj]
      obtain ⟨p, hp', hp⟩ := kf.right _ (List.getElem_mem hi)
      obtain ⟨q, hq', hq⟩ := kt.right _ (List.getElem_mem hj)
      exact (H p hp' _ (List.getElem_mem hi) q hq' _ (List.getElem_mem hj) hp hq [] _ [] [] _ _).symm.trans
        (H p hp' _ (List.getElem_mem hi) q hq' _ (List.getElem_mem hj) hp hq [] [] [] [] [] [])
    refine (fkScript_subs_perm (cost0 o) fkv tkv _ hcell).trans
      (List.Perm.trans ?_ (fkScript_subs_perm (cost0 o) fkv' tkv' _ hcell').symm)
    exact fk_tuples_congr (cost0 o) kf kt hnf hnt fun p hp q hq p' hp' q' hq' hpp hqq =>
      H p hp p' hp' q hq q' hq' hpp hqq [] [] [] [] [] []

end

theorem cost_perm (o : Opts) (orc orc' : Oracle) (fp tp fp' tp' : List Nat) {f f' t t' : Tree}
    (hf : TPerm f f') (ht : TPerm t t') (wf : f.WF = true) (wt : t.WF = true) :
    (edits o orc fp tp f t).cost = (edits o orc' fp' tp' f' t').cost := by
  -- oracle and paths are generalised: the cells of a table sit at other paths than the node, on both sides
  induction f using Tree.ind generalizing f' t t' orc orc' fp tp fp' tp' with
  | leaf s =>
    cases hf
    rw [edits_leaf, edits_leaf]
    exact leafEdits_cost_congr s ht
  | list as ih =>
    have hsz := hf.size_eq
    have hst := ht.size_eq
    cases hf with
    | @list _ as' hL =>
      rw [Tree.size, Tree.size] at hsz
      cases ht with
      | @list bs bs' hL' =>
        rw [Tree.wf_list] at wf wt
        rw [TPermL_iff_forall₂] at hL hL'
        have la := hL.length_eq
        have lb := hL'.length_eq
        have H : ∀ i j, i < as.length → j < bs.length →
            (((listTbl o orc fp tp as bs).getD i []).getD j (mkMatch 0)).cost =
              (((listTbl o orc' fp' tp' as' bs').getD i []).getD j (mkMatch 0)).cost := by
          intro i j hi hj
          have hi' : i < as'.length := la ▸ hi
          have hj' : j < bs'.length := lb ▸ hj
          rw [listTbl_getD _ _ _ _ _ _ _ _ _ hi hj, listTbl_getD _ _ _ _ _ _ _ _ _ hi' hj']
          exact ih _ (List.getElem_mem hi) _ _ _ _ _ _ (hL.get i hi hi')
            (hL'.get j hj hj') (wf _ (List.getElem_mem hi)) (wt _ (List.getElem_mem hj))
        rw [edits_list_list, edits_list_list, ← eqL_congr hL hL' fun a _ a' b b' h h' => h.eq_congr h', ← la, ← lb,
          ← allLeaves_congr hL, ← allLeaves_congr hL', ← allPositive_congr hL, ← allPositive_congr hL']
        split
        · rfl
        · split
          · exact fixedScript_cost_congr _ _ hL hL' fun i hi hj => H i i hi hj
          · exact edScript_cost_congr _ _ _ hL hL' H
      | leaf b =>
        rw [edits_list_other _ _ _ _ _ _ (by intro _ h; cases h), edits_list_other _ _ _ _ _ _ (by intro _ h; cases h), hsz]
      | fdict h1 h2 =>
        rw [edits_list_other _ _ _ _ _ _ (by intro _ h; cases h), edits_list_other _ _ _ _ _ _ (by intro _ h; cases h),
          hsz, hst]
  | dict kvs => cases hf
  | fdict fkv ih =>
    have hsz := hf.size_eq
    have hst := ht.size_eq
    cases hf with
    | @fdict _ cs fkv' hKV hperm =>
      rw [Tree.size, Tree.size] at hsz
      cases ht with
      | @fdict tkv ds tkv' hKV' hperm' =>
        rw [Tree.wf_fdict] at wf wt
        rw [fdict_cost_eq_tuples, fdict_cost_eq_tuples]
        refine ((fdict_tuples_perm o orc orc' fp tp fp' tp' ⟨cs, hKV, hperm⟩ ⟨ds, hKV', hperm'⟩ wf.1 wt.1 ?_).map _).sum_nat
        intro p hp p' hp' q hq q' hq' hpp hqq orc orc' fp tp fp' tp'
        exact ih p hp _ _ _ _ _ _ hpp.2 hqq.2 (wf.2 p hp) (wt.2 q hq)
      | leaf b =>
        rw [edits_fdict_other _ _ _ _ _ _ (by intro _ h; cases h), edits_fdict_other _ _ _ _ _ _ (by intro _ h; cases h), hsz]
      | list hL =>
        rw [edits_fdict_other _ _ _ _ _ _ (by intro _ h; cases h), edits_fdict_other _ _ _ _ _ _ (by intro _ h; cases h),
          hsz, hst]

theorem fdict_subs_perm (o : Opts) (orc orc' : Oracle) (fp tp fp' tp' : List Nat)
    {fkv fkv' tkv tkv' : List (Str × Tree)}
    (hf : TPerm (.fdict fkv) (.fdict fkv')) (ht : TPerm (.fdict tkv) (.fdict tkv'))
    (wf : (Tree.fdict fkv).WF = true) (wt : (Tree.fdict tkv).WF = true) :
    ((edits o orc fp tp (.fdict fkv) (.fdict tkv)).subs.map (subTuple fkv tkv)).Perm
      ((edits o orc' fp' tp' (.fdict fkv') (.fdict tkv')).subs.map (subTuple fkv' tkv')) := by
  rw [Tree.wf_fdict] at wf wt
  refine fdict_tuples_perm o orc orc' fp tp fp' tp' ((TPerm_fdict_iff _ _).1 hf) ((TPerm_fdict_iff _ _).1 ht) wf.1 wt.1 ?_
  intro p hp p' hp' q hq q' hq' hpp hqq orc orc' fp tp fp' tp'
  exact cost_perm o _ _ _ _ _ _ hpp.2 hqq.2 (wf.2 p hp) (wt.2 q hq)

theorem build_TPerm (o : Opts) (hake : o.ake = false) {a b : Doc} (h : Doc.PermEq a b) :
    TPerm (build o a) (build o b) := by
  induction a using Doc.ind generalizing b with
  | scalar s => cases h; exact .leaf s
  | list as ih =>
    cases h with
    | list hL =>
      rw [build_list, build_list]
      exact .list (TPermL_iff_forall₂.2 (.map ((PermEqL_iff_forall₂.1 hL).imp fun a ha b _ => ih a ha)))
  | obj as ih =>
    cases h with
    | @obj _ cs bs hKV hperm =>
      rw [build_obj, build_obj, if_neg (by simp [hake]), if_neg (by simp [hake]), buildKV_eq_map, buildKV_eq_map]
      exact .fdict (TPermKV_iff_forall₂.2 (.map ((PermEqKV_iff_forall₂.1 hKV).imp fun p hp q _ r => ⟨r.1, ih p hp r.2⟩)))
        (hperm.map _)

end GtModel
