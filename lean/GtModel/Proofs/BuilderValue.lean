/-
  `buildVal`: what `BasicBuilder` builds from a tree-shaped (already unfolded) value, as a plain structural recursion
  (`PyObjBuilder` agrees with it except on custom objects, which `buildVal` rejects like `BasicBuilder.default_builder`) —
  the bridge between the work-stack machine on stores and `to_obj` / `json.build_tree`.
-/
import GtModel.Proofs.BuilderToObj

namespace GtModel.Builder

/-- the leaf node BasicBuilder makes for a scalar (`build_int`, `build_bool`, `build_float`, `build_str`, `build_none`) -/
def scalarLeaf (s : Scalar) : Tree :=
  match s.kind with
  | .int => .leaf .integer s true
  | .bool => .leaf .bool s true
  | .float => .leaf .float s true
  | .str => .leaf .string s true
  | .bytes => .leaf .string s true
  | .none => .leaf .null Scalar.none true

mutual
def buildVal (o : Opts) : PyVal → Except BErr Tree
  | .scalar _ s => pure (scalarLeaf s)
  | .list _ xs => do
      let ts ← buildValList o xs
      pure (.node (.list o.ale o.alesl) ts)
  | .tuple _ xs => do
      let ts ← buildValList o xs
      pure (.node (.list o.ale o.alesl) ts)
  | .set _ xs => do
      let ts ← buildValList o xs
      pure (.node (.mset true) (mkCounter Tree.pyEq ts))
  | .dict _ kvs => do
      let ks ← buildValKeys o kvs
      let vs ← buildValVals o kvs
      buildDict o (ks ++ vs)
  | .custom _ _ _ => throw .notImplemented
def buildValList (o : Opts) : List PyVal → Except BErr (List Tree)
  | [] => pure []
  | x :: xs => do
      let t ← buildVal o x
      let ts ← buildValList o xs
      pure (t :: ts)
def buildValKeys (o : Opts) : List (PyVal × PyVal) → Except BErr (List Tree)
  | [] => pure []
  | (k, _) :: rest => do
      let t ← buildVal o k
      let ts ← buildValKeys o rest
      pure (t :: ts)
def buildValVals (o : Opts) : List (PyVal × PyVal) → Except BErr (List Tree)
  | [] => pure []
  | (_, v) :: rest => do
      let t ← buildVal o v
      let ts ← buildValVals o rest
      pure (t :: ts)
end

def IsScalarVal : PyVal → Prop
  | .scalar _ s => s.kind = .none → s = Scalar.none
  | _ => False

def valEqc : PyVal → String
  | .scalar _ s => s.eqc
  | _ => ""

mutual
/-- lists, tuples, sets of scalars, dicts with scalar keys, scalars; Python's guarantee that set members / dict keys
are pairwise `!=` is part of the domain -/
def Plain : PyVal → Prop
  | .scalar _ s => s.kind = .none → s = Scalar.none
  | .list _ xs => PlainList xs
  | .tuple _ xs => PlainList xs
  | .set _ xs => (∀ x ∈ xs, IsScalarVal x) ∧ (xs.map valEqc).Pairwise (· ≠ ·)
  | .dict _ kvs => PlainPairs kvs ∧ (kvs.map (fun p => valEqc p.1)).Pairwise (· ≠ ·)
  | .custom _ _ _ => False
def PlainList : List PyVal → Prop
  | [] => True
  | x :: xs => Plain x ∧ PlainList xs
def PlainPairs : List (PyVal × PyVal) → Prop
  | [] => True
  | (k, v) :: rest => IsScalarVal k ∧ Plain v ∧ PlainPairs rest
end

theorem buildValList_eq_mapM (o : Opts) (xs : List PyVal) : buildValList o xs = xs.mapM (buildVal o) := by
  induction xs with
  | nil => rfl
  | cons x xs ih => rw [buildValList, ih, List.mapM_cons]

theorem buildValKeys_eq_mapM (o : Opts) (kvs : List (PyVal × PyVal)) :
    buildValKeys o kvs = kvs.mapM fun p => buildVal o p.1 := by
  induction kvs with
  | nil => rfl
  | cons p kvs ih => rw [buildValKeys, ih, List.mapM_cons]

theorem buildValVals_eq_mapM (o : Opts) (kvs : List (PyVal × PyVal)) :
    buildValVals o kvs = kvs.mapM fun p => buildVal o p.2 := by
  induction kvs with
  | nil => rfl
  | cons p kvs ih => rw [buildValVals, ih, List.mapM_cons]

theorem normaliseList_eq_map (xs : List PyVal) : normaliseList xs = xs.map normalise := by
  induction xs with
  | nil => rfl
  | cons x xs ih => rw [normaliseList, ih, List.map_cons]

theorem normalisePairs_eq_map (kvs : List (PyVal × PyVal)) :
    normalisePairs kvs = kvs.map fun p => (normalise p.1, normalise p.2) := by
  induction kvs with
  | nil => rfl
  | cons p kvs ih => rw [normalisePairs, ih, List.map_cons]

theorem plainList_iff {xs : List PyVal} : PlainList xs ↔ ∀ x ∈ xs, Plain x :=
  forall_mem_of_rec trivial fun _ _ => Iff.rfl

theorem plainPairs_iff {kvs : List (PyVal × PyVal)} : PlainPairs kvs ↔ ∀ p ∈ kvs, IsScalarVal p.1 ∧ Plain p.2 :=
  forall_mem_of_rec trivial fun _ _ => and_assoc.symm

theorem plainPairs_keys (kvs : List (PyVal × PyVal)) (h : PlainPairs kvs) : ∀ p ∈ kvs, IsScalarVal p.1 :=
  fun p hp => (plainPairs_iff.1 h p hp).1

theorem buildDict_append (o : Opts) {ks vs : List Tree} (h : ks.length = vs.length) :
    buildDict o (ks ++ vs) = mappingFrom false o (dictOf Tree.pyEq (ks.zip vs)) := by
  have hn : (ks ++ vs).length / 2 = ks.length := by rw [List.length_append, ← h]; omega
  rw [buildDict, hn, List.take_left' rfl, List.drop_left' rfl]

theorem IsScalarVal.eq_scalar {x : PyVal} (h : IsScalarVal x) :
    ∃ m s, x = .scalar m s ∧ (s.kind = .none → s = Scalar.none) := by
  cases x with
  | scalar m s => exact ⟨m, s, rfl, h⟩
  | _ => exact h.elim

theorem isScalarVal_plain {x : PyVal} (h : IsScalarVal x) : Plain x := by
  obtain ⟨m, s, rfl, hs⟩ := h.eq_scalar
  exact hs

theorem scalarLeaf_keyLeaf (s : Scalar) (h : s.kind = .none → s = Scalar.none) :
    IsKeyLeaf (scalarLeaf s) ∧ leafEqc (scalarLeaf s) = s.eqc ∧ toObj (scalarLeaf s) = .ok (.scalar s) := by
  unfold scalarLeaf
  cases hk : s.kind
  case none =>
    have := h hk
    exact ⟨⟨_, _, _, rfl, fun _ => rfl⟩, by rw [this]; rfl, by rw [this]; rfl⟩
  all_goals exact ⟨⟨_, _, _, rfl, nofun⟩, rfl, rfl⟩

/-- `t` is what a builder makes of the scalar dict key / set member `x` -/
def KeyOf (x : PyVal) (t : Tree) : Prop :=
  IsKeyLeaf t ∧ leafEqc t = valEqc x ∧ ∃ s, normalise x = .scalar s ∧ toObj t = .ok (.scalar s)

theorem buildVal_scalar (o : Opts) {x : PyVal} (h : IsScalarVal x) : ∃ t, buildVal o x = .ok t ∧ KeyOf x t := by
  obtain ⟨m, s, rfl, hs⟩ := h.eq_scalar
  obtain ⟨k1, k2, k3⟩ := scalarLeaf_keyLeaf s hs
  exact ⟨_, rfl, k1, k2, s, rfl, k3⟩

theorem buildValList_scalars (o : Opts) (xs : List PyVal) (h : ∀ x ∈ xs, IsScalarVal x) :
    ∃ ts, buildValList o xs = .ok ts ∧ (∀ t ∈ ts, IsKeyLeaf t) ∧ ts.map leafEqc = xs.map valEqc ∧
      Forall2 (fun t x => toObj t = .ok x) ts (normaliseList xs) := by
  rw [buildValList_eq_mapM, normaliseList_eq_map]
  obtain ⟨ts, hts, hq⟩ := mapM_ok_of_forall_exists fun x hx => buildVal_scalar o (h x hx)
  refine ⟨ts, hts, fun t ht => ?_, hq.flip.map_eq fun _ _ _ _ h => h.2.1,
    Forall2.map_right _ (hq.flip.imp fun _ _ _ _ ⟨_, _, s, hn, ho⟩ => hn ▸ ho)⟩
  obtain ⟨_, _, h⟩ := hq.mem_right ht
  exact h.1

theorem buildValKeys_keyOf (o : Opts) (kvs : List (PyVal × PyVal)) (h : ∀ p ∈ kvs, IsScalarVal p.1) :
    ∃ ks, buildValKeys o kvs = .ok ks ∧ Forall2 (fun (p : PyVal × PyVal) t => KeyOf p.1 t) kvs ks := by
  rw [buildValKeys_eq_mapM]
  exact mapM_ok_of_forall_exists fun p hp => buildVal_scalar o (h p hp)

theorem buildValKeys_scalars (o : Opts) : ∀ (kvs : List (PyVal × PyVal)), (∀ p ∈ kvs, IsScalarVal p.1) →
    ∃ ks, buildValKeys o kvs = .ok ks ∧ (∀ t ∈ ks, IsKeyLeaf t) ∧ ks.map leafEqc = kvs.map (fun p => valEqc p.1) ∧
      Forall2 (fun t (p : PyVal × PyVal) => ∃ s, normalise p.1 = .scalar s ∧ toObj t = .ok (.scalar s)) ks kvs := by
  intro kvs h
  obtain ⟨ks, hks, hq⟩ := buildValKeys_keyOf o kvs h
  refine ⟨ks, hks, fun t ht => ?_, hq.flip.map_eq fun _ _ _ _ h => h.2.1, hq.flip.imp fun _ _ _ _ h => h.2.2⟩
  obtain ⟨_, _, h⟩ := hq.mem_right ht
  exact h.1

theorem goodItems_zip {ks vs : List Tree} (hk : ∀ t ∈ ks, IsKeyLeaf t) (hd : (ks.map leafEqc).Pairwise (· ≠ ·))
    (hlen : ks.length ≤ vs.length) : GoodItems (ks.zip vs) :=
  ⟨fun _ hit => hk _ (List.of_mem_zip hit).1, by
    rw [← List.map_fst_zip hlen, List.map_map] at hd
    exact hd⟩

theorem buildVal_dict (o : Opts) (m : List String) {kvs : List (PyVal × PyVal)} (hk : ∀ p ∈ kvs, IsScalarVal p.1)
    (hd : (kvs.map fun p => valEqc p.1).Pairwise (· ≠ ·)) :
    ∃ ks, Forall2 (fun (p : PyVal × PyVal) t => KeyOf p.1 t) kvs ks ∧
      ∀ vs, buildValVals o kvs = .ok vs →
        GoodItems (ks.zip vs) ∧ buildVal o (.dict m kvs) = mappingFrom false o (ks.zip vs) := by
  obtain ⟨ks, hks, hkq⟩ := buildValKeys_keyOf o kvs hk
  refine ⟨ks, hkq, fun vs hvs => ?_⟩
  have hlen : ks.length = vs.length := by
    rw [← forall2_length hkq, forall2_length (mapM_ok_iff.1 (buildValVals_eq_mapM o kvs ▸ hvs))]
  have hg : GoodItems (ks.zip vs) := by
    refine goodItems_zip (fun t ht => ?_) ?_ (Nat.le_of_eq hlen)
    · obtain ⟨_, _, h, _⟩ := hkq.mem_right ht
      exact h
    · rw [hkq.flip.map_eq fun _ _ _ _ h => h.2.1]
      exact hd
  refine ⟨hg, ?_⟩
  rw [buildVal, hks, hvs]
  show buildDict o (ks ++ vs) = _
  rw [buildDict_append o hlen, dictOf_good hg]

/-- `it` is what a builder makes of the pair `p` -/
def ItemOf (it : Tree × Tree) (p : PyVal × PyVal) : Prop :=
  KeyOf p.1 it.1 ∧ ∃ y, toObj it.2 = .ok y ∧ ObjEquiv y (normalise p.2)

theorem mappingFrom_items (py : Bool) (o : Opts) {items : List (Tree × Tree)} {kvs : List (PyVal × PyVal)}
    (h : Forall2 ItemOf items kvs) (hd : (kvs.map fun p => valEqc p.1).Pairwise (· ≠ ·)) :
    GoodItems items ∧ ∃ t x, mappingFrom py o items = .ok t ∧ toObj t = .ok x ∧
      ObjEquiv x (.dict (normalisePairs kvs)) := by
  have hg : GoodItems items := by
    refine ⟨fun it hi => ?_, by rw [h.map_eq fun _ _ _ _ h => h.1.2.1]; exact hd⟩
    obtain ⟨_, _, ⟨hk, _⟩, _⟩ := h.mem_left hi
    exact hk
  obtain ⟨rs, hobj, hrs⟩ := Forall2.comp (R := ItemObj) (S := fun r p => PairEquiv r (normalise p.1, normalise p.2))
    (h.imp fun it _ p _ ⟨⟨_, _, s, hs, hk⟩, y, hy, he⟩ => ⟨(.scalar s, y), ⟨hk, hy⟩, hs ▸ .scalar s, he⟩)
  obtain ⟨t, ht⟩ := mappingFrom_ok py o items hg
  obtain ⟨rs', hr', hp⟩ := mappingFrom_toObj py o items rs hg hobj t ht
  refine ⟨hg, t, _, ht, hr', ObjEquiv.dict_perm hp ?_⟩
  rw [normalisePairs_eq_map]
  exact objEquivPairs_of_forall2 (Forall2.map_right _ hrs)

theorem mapM_reads {build : PyVal → Except BErr Tree} {xs : List PyVal}
    (h : ∀ x ∈ xs, ∃ t y, build x = .ok t ∧ toObj t = .ok y ∧ ObjEquiv y (normalise x)) :
    ∃ ts ys, xs.mapM build = .ok ts ∧ Forall2 (fun t y => toObj t = .ok y) ts ys ∧
      ObjEquivList ys (normaliseList xs) := by
  rw [normaliseList_eq_map]
  obtain ⟨ts, hts, hq⟩ := mapM_ok_of_forall_exists
    (Q := fun x t => ∃ y, toObj t = .ok y ∧ ObjEquiv y (normalise x)) fun x hx =>
      let ⟨t, y, h1, h2⟩ := h x hx
      ⟨t, h1, y, h2⟩
  obtain ⟨ys, hys, he⟩ := Forall2.comp hq.flip
  exact ⟨ts, ys, hts, hys, objEquivList_of_forall2 (Forall2.map_right _ he)⟩

/-- **to_obj_build, value level.**  What the builders make of a plain value reads back as that value. -/
theorem buildVal_toObj (o : Opts) (v : PyVal) (h : Plain v) :
    ∃ t y, buildVal o v = .ok t ∧ toObj t = .ok y ∧ ObjEquiv y (normalise v) := by
  induction v using PyVal.induct with
  | scalar m s => exact ⟨_, _, rfl, (scalarLeaf_keyLeaf s h).2.2, .scalar s⟩
  | list m xs ih =>
    obtain ⟨ts, ys, h1, h2, h3⟩ := mapM_reads fun x hx => ih x hx (plainList_iff.1 h x hx)
    exact ⟨.node (.list o.ale o.alesl) ts, .list ys, by rw [buildVal, buildValList_eq_mapM, h1]; rfl, toObj_list_node _ _ h2, .list h3⟩
  | tuple m xs hl => exact hl h
  | set m xs _ =>
    obtain ⟨hsc, hd⟩ := h
    obtain ⟨ts, h1, h2, h3, h4⟩ := buildValList_scalars o xs hsc
    -- the member nodes are pairwise different, so the Counter keeps them all, in order
    have hpw : ts.Pairwise fun a b => Tree.pyEq a b = false :=
      (pairwise_pyEq_of_eqc (key := id) h2 (h3 ▸ hd)).imp And.left
    -- on the value side the members are scalars with pairwise different eqc
    have hN : ∀ x ∈ xs, ∃ s, normalise x = .scalar s ∧ s.eqc = valEqc x := fun x hx => by
      obtain ⟨m, s, rfl, _⟩ := (hsc x hx).eq_scalar
      exact ⟨s, rfl, rfl⟩
    have hkeys : (normaliseList xs).Pairwise fun a b => Obj.keyEq a b = false := by
      rw [normaliseList_eq_map]
      refine List.pairwise_map.2 ((List.pairwise_map.1 hd).imp_of_mem fun ha hb hne => ?_)
      obtain ⟨s, hs, he⟩ := hN _ ha
      obtain ⟨s', hs', he'⟩ := hN _ hb
      rw [hs, hs', keyEq_scalar, he, he']
      exact beq_eq_false_iff_ne.2 hne
    have hhash : (normaliseList xs).all Obj.hashable = true := by
      rw [normaliseList_eq_map]
      refine List.all_eq_true.2 fun y hy => ?_
      obtain ⟨x, hx, rfl⟩ := List.mem_map.1 hy
      obtain ⟨s, hs, _⟩ := hN x hx
      rw [hs]; rfl
    refine ⟨.node (.mset true) ts, .mset (normaliseList xs), ?_, ?_, .mset ?_ (.refl _)⟩
    · rw [buildVal, h1]
      simp only [bind, Except.bind, mkCounter_id _ _ hpw]
      rfl
    · simp only [toObj, (toObjList_forall2 ts _).2 h4, hhash, mkCounter_id _ _ hkeys, bind, Except.bind, pure,
        Except.pure, if_true]
    · rw [normaliseList_eq_map]
      refine objEquivList_of_forall2 (Forall2.map (Forall2.same fun x hx => ?_))
      obtain ⟨s, hs, _⟩ := hN x hx
      rw [hs]; exact .scalar s
  | dict m kvs ih =>
    obtain ⟨hpp, hd⟩ := h
    have hp := plainPairs_iff.1 hpp
    obtain ⟨ks, hkq, hdict⟩ := buildVal_dict o m (fun p hp' => (hp p hp').1) hd
    obtain ⟨vs, hvs, hvq⟩ := mapM_ok_of_forall_exists
      (Q := fun (p : PyVal × PyVal) t => ∃ y, toObj t = .ok y ∧ ObjEquiv y (normalise p.2)) fun p hp' =>
        let ⟨t, y, h1, h2⟩ := (ih p hp').2 (hp p hp').2
        ⟨t, h1, y, h2⟩
    obtain ⟨_, t, x, ht, hx, he⟩ := mappingFrom_items false o (Forall2.zip hkq.flip hvq.flip) hd
    exact ⟨t, x, ((hdict vs (buildValVals_eq_mapM o kvs ▸ hvs)).2.trans ht), hx, he⟩
  | custom m cls attrs _ => exact h.elim

theorem buildValList_toObj (o : Opts) : ∀ (xs : List PyVal), PlainList xs →
    ∃ ts ys, buildValList o xs = .ok ts ∧ Forall2 (fun t y => toObj t = .ok y) ts ys ∧ ObjEquivList ys (normaliseList xs) :=
  fun xs h => buildValList_eq_mapM o xs ▸ mapM_reads fun x hx => buildVal_toObj o x (plainList_iff.1 h x hx)

theorem buildValVals_toObj (o : Opts) : ∀ (kvs : List (PyVal × PyVal)), PlainPairs kvs →
    ∃ vs, buildValVals o kvs = .ok vs ∧
      Forall2 (fun t (p : PyVal × PyVal) => ∃ y, toObj t = .ok y ∧ ObjEquiv y (normalise p.2)) vs kvs := by
  intro kvs h
  rw [buildValVals_eq_mapM]
  obtain ⟨vs, hvs, hq⟩ := mapM_ok_of_forall_exists
    (Q := fun (p : PyVal × PyVal) t => ∃ y, toObj t = .ok y ∧ ObjEquiv y (normalise p.2)) fun p hp =>
      let ⟨t, y, h1, h2⟩ := buildVal_toObj o p.2 (plainPairs_iff.1 h p hp).2
      ⟨t, h1, y, h2⟩
  exact ⟨vs, hvs, hq.flip⟩

end GtModel.Builder
