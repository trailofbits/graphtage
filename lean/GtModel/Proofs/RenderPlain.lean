/-
  Projections of a marked output, and the token structure of a node printed without edits.  A float leaf carries an
  opaque repr, so all of it is under `litOK` (every float of the tree prints as a literal); last, the same condition on
  documents (`Doc.floatsOK`, what the `*_docs` theorems of Props/C06 assume), which `build` carries over (`build_litOK`).
-/
import GtModel.Proofs.RenderTokens
import GtModel.Proofs.ZeroSort

namespace GtModel.Render
open GtModel

/-- what survives when everything inserted (and the arrows) is deleted -/
def keepFrom : Mark → Bool
  | .inserted => false
  | .arrow => false
  | _ => true

/-- what survives when everything removed (and the arrows) is deleted -/
def keepTo : Mark → Bool
  | .removed => false
  | .arrow => false
  | _ => true

def proj (keep : Mark → Bool) (r : Out) : Str := (r.filter fun p => keep p.2).map (·.1)

def projFrom (r : Out) : Str := proj keepFrom r
def projTo (r : Out) : Str := proj keepTo r

/-- side `true` = the first document, `false` = the second -/
def keepS (side : Bool) : Mark → Bool := if side then keepFrom else keepTo

@[simp] theorem keepS_plain (side : Bool) : keepS side .plain = true := by cases side <;> rfl
@[simp] theorem keepS_arrow (side : Bool) : keepS side .arrow = false := by cases side <;> rfl
@[simp] theorem keepS_removed (side : Bool) : keepS side .removed = side := by cases side <;> rfl
@[simp] theorem keepS_inserted (side : Bool) : keepS side .inserted = !side := by cases side <;> rfl

theorem proj_append (k : Mark → Bool) (a b : Out) : proj k (a ++ b) = proj k a ++ proj k b := by simp [proj]

theorem proj_cons (k : Mark → Bool) (c : Nat) (m : Mark) (r : Out) :
    proj k ((c, m) :: r) = (if k m then [c] else []) ++ proj k r := by
  by_cases h : k m <;> simp [proj, h]

theorem proj_nil (k : Mark → Bool) : proj k [] = [] := rfl

theorem proj_mk (k : Mark → Bool) (m : Mark) (s : Str) : proj k (mk m s) = if k m then s else [] := by
  by_cases h : k m
  · simp only [h, if_true, proj, mk, List.filter_map, List.map_map]
    rw [List.filter_eq_self.2 (by intro a _; simpa using h)]
    simp [Function.comp_def]
  · simp only [h, proj, mk, List.filter_map, List.map_map]
    rw [List.filter_eq_nil_iff.2 (by intro a _; simpa using h)]
    simp

theorem litChar_of_digit (c : Char) (h : c.isDigit = true) : litChar c.toNat = true := by
  simp only [Char.isDigit, Bool.and_eq_true, decide_eq_true_eq] at h
  have h1 : 48 ≤ c.toNat := UInt32.le_iff_toNat_le.1 h.1
  have h2 : c.toNat ≤ 57 := UInt32.le_iff_toNat_le.1 h.2
  simp only [litChar, isPunct, Bool.and_eq_true, Bool.not_eq_true', Bool.or_eq_false_iff, beq_eq_false_iff_ne,
    bne_iff_ne, ne_eq]
  omega

theorem natDigits_eq (n : Nat) : natDigits n = (Nat.toDigits 10 n).map Char.toNat := by
  simp [natDigits, strOfString, toString, Nat.repr]

theorem natDigits_lit (n : Nat) : (natDigits n).all litChar = true := by
  simp only [natDigits_eq, List.all_map, List.all_eq_true, Function.comp_apply]
  exact fun c hc => litChar_of_digit c (Nat.isDigit_of_mem_toDigits (by decide) (by decide) hc)

theorem intStr_lit (i : Int) : (intStr i).all litChar = true := by
  unfold intStr
  split
  · simp only [List.all_cons, natDigits_lit, Bool.and_true]; decide
  · exact natDigits_lit _

/-- float leaves carry an opaque repr; it must be non-empty and consist of literal characters (true of every Python
    float repr: digits, `.`, `e`, `+`, `-`, `inf`, `nan`) -/
def Scalar.litOK : Scalar → Bool
  | .float r => r.all litChar && !r.isEmpty
  | _ => true

mutual
def litOK : Tree → Bool
  | .leaf s => Scalar.litOK s
  | .list cs => litOKL cs
  | .dict kvs => litOKKV kvs
  | .fdict kvs => litOKKV kvs
def litOKL : List Tree → Bool
  | [] => true
  | c :: cs => litOK c && litOKL cs
def litOKKV : List (Str × Tree) → Bool
  | [] => true
  | (_, v) :: rest => litOK v && litOKKV rest
end

theorem litOKL_iff (cs : List Tree) : litOKL cs = true ↔ ∀ c ∈ cs, litOK c = true := by
  induction cs with
  | nil => simp [litOKL]
  | cons c cs ih => simp [litOKL, ih]

theorem litOKKV_iff (kvs : List (Str × Tree)) : litOKKV kvs = true ↔ ∀ kv ∈ kvs, litOK kv.2 = true := by
  induction kvs with
  | nil => simp [litOKKV]
  | cons kv kvs ih => obtain ⟨k, v⟩ := kv; simp [litOKKV, ih]

def Item.litOK : Item → Bool
  | .tree t => Render.litOK t
  | .kv _ v => Render.litOK v

theorem mem_children {x c : Item} (hc : c ∈ x.children) :
    (∃ cs t, x = .tree (.list cs) ∧ t ∈ cs ∧ c = .tree t) ∨
    (∃ kvs kv, (x = .tree (.dict kvs) ∨ x = .tree (.fdict kvs)) ∧ kv ∈ kvs ∧ c = .kv kv.1 kv.2) ∨
    (∃ k v, x = .kv k v ∧ (c = .tree (.leaf (.str k)) ∨ c = .tree v)) := by
  match x with
  | .tree (.leaf _) => simp [Item.children] at hc
  | .tree (.list cs) =>
    obtain ⟨t, ht, rfl⟩ := List.mem_map.1 hc
    exact .inl ⟨cs, t, rfl, ht, rfl⟩
  | .tree (.dict kvs) =>
    obtain ⟨kv, hkv, rfl⟩ := List.mem_map.1 hc
    exact .inr (.inl ⟨kvs, kv, .inl rfl, hkv, rfl⟩)
  | .tree (.fdict kvs) =>
    obtain ⟨kv, hkv, rfl⟩ := List.mem_map.1 hc
    exact .inr (.inl ⟨kvs, kv, .inr rfl, hkv, rfl⟩)
  | .kv k v => exact .inr (.inr ⟨k, v, rfl, by simpa [Item.children] using hc⟩)

theorem children_litOK (x : Item) (h : x.litOK = true) : ∀ c ∈ x.children, c.litOK = true := by
  intro c hc
  rcases mem_children hc with ⟨cs, t, rfl, ht, rfl⟩ | ⟨kvs, kv, rfl | rfl, hkv, rfl⟩ | ⟨k, v, rfl, rfl | rfl⟩
  · exact (litOKL_iff cs).1 (by simpa [Item.litOK, litOK] using h) t ht
  · exact (litOKKV_iff kvs).1 (by simpa [Item.litOK, litOK] using h) kv hkv
  · exact (litOKKV_iff kvs).1 (by simpa [Item.litOK, litOK] using h) kv hkv
  · rfl
  · exact h

def joinTexts (first : Bool) : List Str → Str
  | [] => []
  | v :: vs => (if first then [] else [44]) ++ (v ++ joinTexts false vs)

theorem jsonList_join (first : Bool) (cs : List Tree) : jsonList first cs = joinTexts first (cs.map jsonText) := by
  induction cs generalizing first with
  | nil => rfl
  | cons c cs ih => simp [jsonList, joinTexts, ih]

theorem jsonKVs_join (first : Bool) (kvs : List (Str × Tree)) :
    jsonKVs first kvs = joinTexts first (kvs.map fun kv => (Item.kv kv.1 kv.2).text) := by
  induction kvs generalizing first with
  | nil => rfl
  | cons kv kvs ih => obtain ⟨k, v⟩ := kv; simp [jsonKVs, joinTexts, ih, Item.text]

theorem T_join (vs : List Str) (hv : ∀ v ∈ vs, ClosedT v) (first : Bool) (post : Str) (hp : StartsPunct post) :
    T (joinTexts first vs ++ post) = vs.flatMap T ++ T post := by
  induction vs generalizing first with
  | nil => simp [joinTexts]
  | cons v vs ih =>
    have hv1 := hv v (by simp)
    have hrest : StartsPunct (joinTexts false vs ++ post) := by
      cases vs with
      | nil => simpa [joinTexts] using hp
      | cons w ws => exact ⟨44, w ++ (joinTexts false ws ++ post), by simp [joinTexts], by decide⟩
    have key : T (v ++ (joinTexts false vs ++ post)) = T v ++ (vs.flatMap T ++ T post) := by
      rw [hv1 _ (Or.inr hrest), ih (fun w hw => hv w (by simp [hw])) false]
    simp only [joinTexts, List.append_assoc, List.flatMap_cons, ← key]
    cases first <;> simp [T_comma]

theorem T_bracket (o c : Nat) (ho : isPunct o = true) (hc : isPunct c = true) (ho' : o ≠ 44) (hc' : c ≠ 44)
    (vs : List Str) (hv : ∀ v ∈ vs, ClosedT v) (w : Str) :
    T (o :: (joinTexts true vs ++ [c]) ++ w) = .punct o :: (vs.flatMap T ++ .punct c :: T w) := by
  have : o :: (joinTexts true vs ++ [c]) ++ w = o :: (joinTexts true vs ++ (c :: w)) := by simp
  rw [this, T_punct o _ ho ho', T_join vs hv true (c :: w) ⟨c, w, rfl, hc⟩, T_punct c _ hc hc']

theorem T_kv (k : Str) (v : Str) : T (quote k ++ (58 :: v)) = .str (escStr k) :: .punct 58 :: T v := by
  rw [T_quote, T_punct 58 _ (by decide) (by decide)]

theorem closedT_kv (k : Str) (v : Str) (hv : ClosedT v) : ClosedT (quote k ++ (58 :: v)) := by
  intro b hb
  rw [List.append_assoc, List.cons_append, T_kv, T_kv, hv b hb]
  rfl

theorem closedT_scalar (s : Scalar) (h : Scalar.litOK s = true) : ClosedT (scalarText s) := by
  cases s with
  | null => exact closedT_lit _ (by decide)
  | bool b => cases b <;> exact closedT_lit _ (by decide)
  | int i => exact closedT_lit _ (intStr_lit i)
  | float r =>
    simp only [Scalar.litOK, Bool.and_eq_true] at h
    exact closedT_lit _ (by simpa [scalarText] using h.1)
  | str s => exact closedT_quote s

theorem brackets_cases (x : Item) (o c : Nat) (h : x.brackets = some (o, c)) :
    (∃ cs, x = .tree (.list cs) ∧ o = 91 ∧ c = 93) ∨
    (∃ kvs, (x = .tree (.dict kvs) ∨ x = .tree (.fdict kvs)) ∧ o = 123 ∧ c = 125) := by
  match x, h with
  | .tree (.list cs), h => cases h; exact .inl ⟨cs, rfl, rfl, rfl⟩
  | .tree (.dict kvs), h => cases h; exact .inr ⟨kvs, .inl rfl, rfl, rfl⟩
  | .tree (.fdict kvs), h => cases h; exact .inr ⟨kvs, .inr rfl, rfl, rfl⟩

theorem text_of_brackets (x : Item) (o c : Nat) (h : x.brackets = some (o, c)) :
    x.text = o :: (joinTexts true (x.children.map Item.text) ++ [c]) := by
  rcases brackets_cases x o c h with ⟨cs, rfl, rfl, rfl⟩ | ⟨kvs, rfl | rfl, rfl, rfl⟩ <;>
    simp [Item.text, jsonText, jsonList_join, jsonKVs_join, Item.children, Function.comp_def]

theorem brackets_punct (x : Item) (o c : Nat) (h : x.brackets = some (o, c)) :
    isPunct o = true ∧ isPunct c = true ∧ o ≠ 44 ∧ c ≠ 44 := by
  rcases brackets_cases x o c h with ⟨_, _, rfl, rfl⟩ | ⟨_, _, rfl, rfl⟩ <;> decide

end GtModel.Render

namespace GtModel

mutual
/-- every float of the document has a non-empty repr made of literal characters (`Scalar.litOK`) -/
def Doc.floatsOK : Doc → Bool
  | .scalar s => Render.Scalar.litOK s
  | .list cs => floatsOKL cs
  | .obj kvs => floatsOKKV kvs
def floatsOKL : List Doc → Bool
  | [] => true
  | c :: cs => c.floatsOK && floatsOKL cs
def floatsOKKV : List (Str × Doc) → Bool
  | [] => true
  | (_, v) :: rest => v.floatsOK && floatsOKKV rest
end

mutual
theorem build_litOK (o : Opts) : ∀ d : Doc, d.floatsOK = true → Render.litOK (build o d) = true
  | .scalar _, h => by simpa [build, Render.litOK, Doc.floatsOK] using h
  | .list cs, h => by
    simp only [Doc.floatsOK] at h
    simp only [build, Render.litOK]
    exact buildL_litOK o cs h
  | .obj kvs, h => by
    simp only [Doc.floatsOK] at h
    have h2 := buildKV_litOK o kvs h
    simp only [build]
    split
    · simp only [Render.litOK]
      rw [Render.litOKKV_iff] at h2 ⊢
      intro kv hkv
      exact h2 kv (mem_sortKV.1 hkv)
    · simpa [Render.litOK] using h2
theorem buildL_litOK (o : Opts) : ∀ cs : List Doc, floatsOKL cs = true → Render.litOKL (build.buildL o cs) = true
  | [], _ => rfl
  | c :: cs, h => by
    simp only [floatsOKL, Bool.and_eq_true] at h
    simp only [build.buildL, Render.litOKL, Bool.and_eq_true]
    exact ⟨build_litOK o c h.1, buildL_litOK o cs h.2⟩
theorem buildKV_litOK (o : Opts) : ∀ kvs : List (Str × Doc), floatsOKKV kvs = true →
    Render.litOKKV (build.buildKV o kvs) = true
  | [], _ => rfl
  | (k, v) :: rest, h => by
    simp only [floatsOKKV, Bool.and_eq_true] at h
    simp only [build.buildKV, Render.litOKKV, Bool.and_eq_true]
    exact ⟨build_litOK o v h.1, buildKV_litOK o rest h.2⟩
end

end GtModel
