/- `make_distinct`: separation of two items (both definitive, or disjoint) is stable under tightening; the inner loop. -/
import GtModel.Proofs.BoundedLemmas

namespace GtModel.Bounded
open GtModel

variable {σ σ' : St} {fs : List Int}

def SepAt (σ : St) (i j : Nat) : Prop := ∀ a b, σ[i]? = some a → σ[j]? = some b → sepB a.cur b.cur = true

theorem sepB_comm (x y : Range) : sepB x y = sepB y x := by
  unfold sepB
  cases x.definitive <;> cases y.definitive <;> cases Bound.lt x.hi y.lo <;> cases Bound.lt y.hi x.lo <;> rfl

theorem SepAt.symm {i j : Nat} (h : SepAt σ i j) : SepAt σ j i := by
  intro a b ha hb; rw [sepB_comm]; exact h b a hb ha

theorem sepB_shrink {x x' y : Range} {n : Int} (hc : x.contains x' = true) (hn : x'.contains (Range.point n) = true)
    (h : sepB x y = true) : sepB x' y = true := by
  obtain ⟨c1, c2⟩ := Range.contains_iff.mp hc
  simp only [sepB, Bool.or_eq_true, Bool.and_eq_true] at h ⊢
  rcases h with (⟨hx, hy⟩ | h) | h
  · obtain ⟨v, rfl⟩ := Range.definitive_iff.mp hx
    rw [Range.eq_point_of_contains hc hn]
    exact .inl (.inl ⟨hx, hy⟩)
  · exact .inl (.inr (Bound.lt_of_le_of_lt c2 h))
  · exact .inr (Bound.lt_of_lt_of_le h c1)

theorem SepAt.reach (hr : Reach σ σ') (hv : ValidSt σ fs) {i j : Nat}
    (h : SepAt σ i j) : SepAt σ' i j := by
  intro a' b' ha' hb'
  obtain ⟨a, _, ha, _, va', ca⟩ := hr.get hv ha'
  obtain ⟨b, _, hb, _, vb', cb⟩ := hr.get hv hb'
  have h1 := sepB_shrink ca va'.contains_point (h a b ha hb)
  rw [sepB_comm] at h1 ⊢
  exact sepB_shrink cb vb'.contains_point h1

theorem sepLoop_spec (σ : St) (b s : Nat) : ∀ σ', sepLoop σ b s = some σ' →
    Reach σ σ' ∧ SepAt σ' b s ∧ (∀ m, m ≠ b → m ≠ s → σ'[m]? = σ[m]?) ∧
    ((∀ x y, σ[b]? = some x → σ[s]? = some y → sepB x.cur y.cur = false) → total σ' < total σ) := by
  fun_induction sepLoop σ b s with
  | case1 σ x y hy hx hc =>
    intro σ' h; cases h
    refine ⟨.refl _, ?_, fun _ _ _ => rfl, ?_⟩
    · intro a c ha hc'
      rw [hx] at ha; rw [hy] at hc'; cases ha; cases hc'; exact hc
    · intro hf
      have := hf x y hx hy
      rw [this] at hc; cases hc
  | case2 σ x y _ _ hc h ih =>
    intro σ' hs
    obtain ⟨r, sp, fr, _⟩ := ih σ' hs
    refine ⟨.step b (.step s r), sp, ?_, ?_⟩
    · intro m hb hs'
      rw [fr m hb hs', tightenAt_get_ne hs', tightenAt_get_ne hb]
    · intro _
      have l := r.total_le
      rcases h with h | h
      · have := total_tightenAt_true h; have := total_tightenAt_le (tightenAt σ b).2 s; omega
      · have := total_tightenAt_true h; have := total_tightenAt_le σ b; omega
  | case3 σ x y _ _ hc h => intro σ' hs; cases hs
  | case4 σ hno => intro σ' hs; cases hs

theorem sepLoop_some (hv : ValidSt σ fs) {b s : Nat} (hb : b < σ.length) (hs : s < σ.length) : ∃ σ', sepLoop σ b s = some σ' := by
  fun_induction sepLoop σ b s with
  | case1 σ x y _ _ hc => exact ⟨_, rfl⟩
  | case2 σ x y _ _ hc h ih =>
    exact ih ((hv.tightenAt b).tightenAt s) (by simp [tightenAt_length]; exact hb) (by simp [tightenAt_length]; exact hs)
  | case3 σ x y hy hx hc h =>
    exfalso
    simp only [not_or, Bool.not_eq_true] at h
    obtain ⟨rx, ry⟩ := rest_nil_of_both_false hx hy h.1 h.2
    obtain ⟨nx, _, vx⟩ := hv.get hx
    obtain ⟨ny, _, vy⟩ := hv.get hy
    apply hc
    simp [sepB, vx.definitive_iff.mpr rx, vy.definitive_iff.mpr ry]
  | case4 σ hno =>
    exfalso
    exact hno _ _ (List.getElem?_eq_getElem hb) (List.getElem?_eq_getElem hs)

end GtModel.Bounded
