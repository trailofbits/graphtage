/-
  WeightedBipartiteMatcher, static part: matrices of intervals, the exposed interval of the matcher as a function of
  the edges' intervals (`wmForm`) with its monotonicity and the chain
      k smallest row minima ≤ Σ matched lo ≤ Σ matched final ≤ Σ matched hi ≤ k largest row maxima,
  the invariant `WmInv`, and what every operation of the matcher keeps (`WmKeeps`).
-/
import GtModel.Proofs.LazyMatrix
import GtModel.Proofs.LazySort

namespace GtModel.Lazy

theorem nmax (a b : Nat) : Nat.max a b = max a b := rfl

def SubL : List Iv → List Iv → Prop
  | [], [] => True
  | x :: xs, y :: ys => (x.lo ≤ y.lo ∧ y.hi ≤ x.hi) ∧ SubL xs ys
  | _, _ => False

def SubLL : List (List Iv) → List (List Iv) → Prop
  | [], [] => True
  | r :: rs, r' :: rs' => SubL r r' ∧ SubLL rs rs'
  | _, _ => False

theorem SubL.iff {a b : List Iv} : SubL a b ↔ Forall2 (fun x y => x.lo ≤ y.lo ∧ y.hi ≤ x.hi) a b :=
  Builder.Forall2.iff_of_rec trivial Iff.rfl id id

theorem SubLL.iff {a b : List (List Iv)} : SubLL a b ↔ Forall2 SubL a b := Builder.Forall2.iff_of_rec trivial Iff.rfl id id

theorem SubL.refl : ∀ (a : List Iv), SubL a a :=
  fun _ => SubL.iff.2 (.same fun _ _ => iv_sub_refl _)

theorem SubLL.refl : ∀ (a : List (List Iv)), SubLL a a :=
  fun _ => SubLL.iff.2 (.same fun r _ => SubL.refl r)

theorem SubL.pw {a b : List Iv} (h : SubL a b) :
    PW (a.map (·.lo)) (b.map (·.lo)) ∧ PW (b.map (·.hi)) (a.map (·.hi)) :=
  ⟨PW.iff.2 (.map ((SubL.iff.1 h).imp fun _ _ _ _ hh => hh.1)),
    PW.iff.2 (.map ((SubL.iff.1 h).flip.imp fun _ _ _ _ hh => hh.2))⟩

theorem SubL.get {a b : List Iv} (j : Nat) (h : SubL a b) :
    (a.getD j ⟨0, 0⟩).lo ≤ (b.getD j ⟨0, 0⟩).lo ∧ (b.getD j ⟨0, 0⟩).hi ≤ (a.getD j ⟨0, 0⟩).hi :=
  (SubL.iff.1 h).getD (iv_sub_refl _) j

theorem SubLL.row {a b : List (List Iv)} (i : Nat) (h : SubLL a b) : SubL (a.getD i []) (b.getD i []) :=
  (SubLL.iff.1 h).getD (SubL.refl []) i

theorem SubLL.at {a b : List (List Iv)} (h : SubLL a b) (p : Nat × Nat) :
    (ivAt a p).lo ≤ (ivAt b p).lo ∧ (ivAt b p).hi ≤ (ivAt a p).hi :=
  SubL.get p.2 (SubLL.row p.1 h)

theorem foldl_mono {op : Nat → Nat → Nat} (hop : ∀ {x y u v : Nat}, x ≤ y → u ≤ v → op x u ≤ op y v) :
    ∀ {a b : List Nat}, PW a b → ∀ {x y : Nat}, x ≤ y → a.foldl op x ≤ b.foldl op y
  | [], [], _, _, _, hxy => hxy
  | _ :: _, _ :: _, h, _, _, hxy => foldl_mono hop h.2 (hop hxy h.1)
  | [], _ :: _, h, _, _, _ => h.elim
  | _ :: _, [], h, _, _, _ => h.elim

theorem minD_mono : ∀ {a b : List Nat}, PW a b → minD a ≤ minD b
  | [], [], _ => Nat.le_refl _
  | _ :: _, _ :: _, h => foldl_mono (op := Nat.min) (fun h1 h2 =>
      Nat.le_min.mpr ⟨Nat.le_trans (Nat.min_le_left _ _) h1, Nat.le_trans (Nat.min_le_right _ _) h2⟩) h.2 h.1
  | [], _ :: _, h => h.elim
  | _ :: _, [], h => h.elim

theorem maxD_mono : ∀ {a b : List Nat}, PW a b → maxD a ≤ maxD b
  | [], [], _ => Nat.le_refl _
  | _ :: _, _ :: _, h => foldl_mono (op := Nat.max) (fun h1 h2 =>
      Nat.max_le.mpr ⟨Nat.le_trans h1 (Nat.le_max_left _ _), Nat.le_trans h2 (Nat.le_max_right _ _)⟩) h.2 h.1
  | [], _ :: _, h => h.elim
  | _ :: _, [], h => h.elim

theorem SubLL.pw {a b : List (List Iv)} (h : SubLL a b) :
    PW (a.map rowMinV) (b.map rowMinV) ∧ PW (b.map rowMaxV) (a.map rowMaxV) :=
  ⟨PW.iff.2 (.map ((SubLL.iff.1 h).imp fun _ _ _ _ hh => minD_mono hh.pw.1)),
    PW.iff.2 (.map ((SubLL.iff.1 h).flip.imp fun _ _ _ _ hh => maxD_mono hh.pw.2))⟩

theorem sum_eq_pointwise {α : Type} (l : List α) (f h : α → Nat) (hle : ∀ x ∈ l, f x ≤ h x)
    (hs : (l.map h).sum ≤ (l.map f).sum) : ∀ x ∈ l, f x = h x := by
  induction l with
  | nil => simp
  | cons y ys ih =>
    have h1 := hle y List.mem_cons_self
    have h2 := sum_map_le ys f h (fun x hx => hle x (List.mem_cons_of_mem _ hx))
    simp only [List.map_cons, List.sum_cons] at hs
    intro x hx
    rcases List.mem_cons.mp hx with rfl | hx
    · omega
    · exact ih (fun z hz => hle z (List.mem_cons_of_mem _ hz)) (by omega) x hx

section
variable {w : WmSt} (vm : List (List Iv))

theorem wmForm_empty (hz : (w.nf == 0 || w.nt == 0) = true) : wmForm w vm = Iv.point 0 := by
  simp only [wmForm, hz, if_true]

theorem wmForm_none (hz : ¬ (w.nf == 0 || w.nt == 0) = true) (hm : w.mtch = none) :
    wmForm w vm = ⟨ksm (Nat.min w.nf w.nt) (vm.map rowMinV), klg (Nat.min w.nf w.nt) (vm.map rowMaxV)⟩ := by
  simp only [wmForm, hz, Bool.false_eq_true, if_false, hm]

theorem wmForm_some (hz : ¬ (w.nf == 0 || w.nt == 0) = true) {pairs : List (Nat × Nat)} (hm : w.mtch = some pairs) :
    wmForm w vm = ⟨(pairs.map fun p => (ivAt vm p).lo).sum, (pairs.map fun p => (ivAt vm p).hi).sum⟩ := by
  simp only [wmForm, hz, Bool.false_eq_true, if_false, hm]

theorem AssignOK.empty (ok : AssignOK w) (hz : (w.nf == 0 || w.nt == 0) = true) : w.assign = [] := by
  apply List.eq_nil_of_length_eq_zero
  rw [ok.full]
  simp only [Bool.or_eq_true, beq_iff_eq] at hz
  show min w.nf w.nt = 0
  omega

end

theorem wmForm_mono (w : WmSt) {a b : List (List Iv)} (h : SubLL a b) (hk : Nat.min w.nf w.nt ≤ a.length) :
    (wmForm w a).lo ≤ (wmForm w b).lo ∧ (wmForm w b).hi ≤ (wmForm w a).hi := by
  by_cases hz : (w.nf == 0 || w.nt == 0) = true
  · rw [wmForm_empty a hz, wmForm_empty b hz]
    exact iv_sub_refl _
  · cases hm : w.mtch with
    | none =>
      rw [wmForm_none a hz hm, wmForm_none b hz hm]
      exact ⟨ksm_mono h.pw.1 _ (by rw [List.length_map]; exact hk),
        klg_mono h.pw.2 _ (by rw [h.pw.2.length, List.length_map]; exact hk)⟩
    | some pairs =>
      rw [wmForm_some a hz hm, wmForm_some b hz hm]
      exact ⟨sum_map_le _ _ _ (fun p _ => (h.at p).1), sum_map_le _ _ _ (fun p _ => (h.at p).2)⟩

theorem AssignOK.rows_sublist {w : WmSt} (ok : AssignOK w) {vm : List (List Iv)} (hl : vm.length = w.nf)
    (f : List Iv → Nat) : (w.assign.map fun p => f (vm.getD p.1 [])).Sublist (vm.map f) := by
  have hlt : ∀ i ∈ w.assign.map (·.1), i < vm.length :=
    List.forall_mem_map.mpr fun p hp => hl ▸ (ok.inRange p hp).1
  have s := idx_sublist 0 (vm.map f) (w.assign.map (·.1)) ok.sortedF (by rw [List.length_map]; exact hlt)
  rw [List.map_map] at s
  rwa [List.map_congr_left fun p hp => getD_map vm f [] 0 p.1 (hl ▸ (ok.inRange p hp).1)] at s

theorem wm_chain_outer (w : WmSt) (vm : List (List Iv)) (ok : AssignOK w) (hl : vm.length = w.nf)
    (hr : ∀ row ∈ vm, row.length = w.nt) :
    ksm (Nat.min w.nf w.nt) (vm.map rowMinV) ≤ (w.assign.map fun p => (ivAt vm p).lo).sum ∧
    (w.assign.map fun p => (ivAt vm p).hi).sum ≤ klg (Nat.min w.nf w.nt) (vm.map rowMaxV) := by
  have hrow : ∀ p ∈ w.assign, (ivAt vm p) ∈ vm.getD p.1 [] := by
    intro p hp
    have h1 := ok.inRange p hp
    have hm := getD_mem vm p.1 [] (hl ▸ h1.1)
    exact getD_mem _ p.2 _ (by rw [hr _ hm]; exact h1.2)
  have lo := ksm_le_sublist _ _ (ok.rows_sublist hl rowMinV)
  have hi := sublist_le_klg _ _ (ok.rows_sublist hl rowMaxV)
  rw [List.length_map, ok.full] at lo hi
  exact ⟨Nat.le_trans lo (sum_map_le _ _ _ fun p hp => minD_le (List.mem_map_of_mem (hrow p hp))),
    Nat.le_trans (sum_map_le _ _ _ fun p hp => maxD_ge (List.mem_map_of_mem (hrow p hp))) hi⟩

def viewM (g : Ghost) (edges : List (List M)) : List (List Iv) := edges.map (·.map g.view)

def wmFin (g : Ghost) (w : WmSt) (edges : List (List M)) : Nat := (w.assign.map (finAt (finM g edges))).sum

structure WmInv (g : Ghost) (w : WmSt) (edges : List (List M)) : Prop where
  shape : MShape edges w.nf w.nt
  edgesI : ∀ row ∈ edges, ∀ m ∈ row, g.I m
  ok : AssignOK w
  mt : ∀ pairs, w.mtch = some pairs → pairs = w.assign
  memo : ∀ b, w.memo = some b →
    b = Iv.point (wmFin g w edges) ∧ ∀ p ∈ w.assign, (ivAt (viewM g edges) p).lo = (ivAt (viewM g edges) p).hi

section
variable {rec : Ops} {g : Ghost} {w : WmSt} {edges : List (List M)}

theorem viewM_length : (viewM g edges).length = edges.length := by simp [viewM]

theorem viewM_row (inv : WmInv g w edges) : ∀ row ∈ viewM g edges, row.length = w.nt := by
  intro row hrow
  obtain ⟨r, hr, rfl⟩ := List.mem_map.mp hrow
  simp [inv.shape.2 r hr]

theorem WmInv.min_le (inv : WmInv g w edges) : Nat.min w.nf w.nt ≤ (viewM g edges).length := by
  rw [viewM_length, inv.shape.1]
  show min w.nf w.nt ≤ w.nf
  omega

theorem ivAt_mget {p : Nat × Nat} {m : M} (hm : mget edges p.1 p.2 = .ok m) : ivAt (viewM g edges) p = g.view m :=
  mget_map g.view ⟨0, 0⟩ hm

theorem mget_at {nf nt : Nat} (sh : MShape edges nf nt) {p : Nat × Nat} (h1 : p.1 < nf) (h2 : p.2 < nt) :
    ∃ m, mget edges p.1 p.2 = .ok m ∧ ivAt (viewM g edges) p = g.view m ∧ finAt (finM g edges) p = g.fin m := by
  obtain ⟨m, hm⟩ := mget_ok sh h1 h2
  exact ⟨m, hm, ivAt_mget hm, mget_map g.fin 0 hm⟩

theorem WmInv.edge (inv : WmInv g w edges) {p : Nat × Nat} (hp : p ∈ w.assign) :
    ∃ m, g.I m ∧ ivAt (viewM g edges) p = g.view m ∧ finAt (finM g edges) p = g.fin m := by
  obtain ⟨m, hm, e1, e2⟩ := mget_at (g := g) inv.shape (inv.ok.inRange p hp).1 (inv.ok.inRange p hp).2
  exact ⟨m, mget_inv inv.edgesI hm, e1, e2⟩

theorem wm_chain_mid (h : Protocol rec g) (inv : WmInv g w edges) :
    (w.assign.map fun p => (ivAt (viewM g edges) p).lo).sum ≤ wmFin g w edges ∧
    wmFin g w edges ≤ (w.assign.map fun p => (ivAt (viewM g edges) p).hi).sum := by
  have key : ∀ p ∈ w.assign, (ivAt (viewM g edges) p).lo ≤ finAt (finM g edges) p ∧
      finAt (finM g edges) p ≤ (ivAt (viewM g edges) p).hi := by
    intro p hp
    obtain ⟨m, hI, e1, e2⟩ := inv.edge hp
    rw [e1, e2]
    exact h.wf m hI
  exact ⟨sum_map_le _ _ _ fun p hp => (key p hp).1, sum_map_le _ _ _ fun p hp => (key p hp).2⟩

theorem wmForm_outer (inv : WmInv g w edges) :
    (wmForm w (viewM g edges)).lo ≤ (w.assign.map fun p => (ivAt (viewM g edges) p).lo).sum ∧
    (w.assign.map fun p => (ivAt (viewM g edges) p).hi).sum ≤ (wmForm w (viewM g edges)).hi := by
  by_cases hz : (w.nf == 0 || w.nt == 0) = true
  · rw [wmForm_empty _ hz, inv.ok.empty hz]
    exact ⟨Nat.le_refl _, Nat.le_refl _⟩
  · cases hm : w.mtch with
    | none =>
      rw [wmForm_none _ hz hm]
      exact wm_chain_outer w (viewM g edges) inv.ok (by rw [viewM_length, inv.shape.1]) (viewM_row inv)
    | some pairs =>
      rw [wmForm_some _ hz hm, inv.mt pairs hm]
      exact ⟨Nat.le_refl _, Nat.le_refl _⟩

theorem wmForm_wf (h : Protocol rec g) (inv : WmInv g w edges) :
    (wmForm w (viewM g edges)).lo ≤ wmFin g w edges ∧ wmFin g w edges ≤ (wmForm w (viewM g edges)).hi := by
  have mid := wm_chain_mid h inv
  have outer := wmForm_outer inv
  omega

theorem wmView_wf (h : Protocol rec g) (inv : WmInv g w edges) :
    (wmViewV w (viewM g edges)).lo ≤ wmFin g w edges ∧ wmFin g w edges ≤ (wmViewV w (viewM g edges)).hi := by
  unfold wmViewV
  cases hm : w.memo with
  | none => exact wmForm_wf h inv
  | some b =>
    rw [(inv.memo b hm).1]
    exact ⟨Nat.le_refl _, Nat.le_refl _⟩

theorem wmForm_def_edges (h : Protocol rec g) (inv : WmInv g w edges)
    (hd : (wmForm w (viewM g edges)).Single) :
    ∀ p ∈ w.assign, (ivAt (viewM g edges) p).Single := by
  have outer := wmForm_outer inv
  apply sum_eq_pointwise
  · intro p hp
    obtain ⟨m, hI, e1, _⟩ := inv.edge hp
    rw [e1]
    have := h.wf m hI
    omega
  · omega

theorem wm_def_edges (h : Protocol rec g) (inv : WmInv g w edges)
    (hd : (wmViewV w (viewM g edges)).Single) :
    ∀ p ∈ w.assign, (ivAt (viewM g edges) p).Single := by
  cases hmemo : w.memo with
  | some b => exact (inv.memo b hmemo).2
  | none =>
    apply wmForm_def_edges h inv
    simpa [wmViewV, hmemo] using hd

theorem wm_def_of_edges (inv : WmInv g w edges) (hm : w.mtch = some w.assign)
    (hd : ∀ p ∈ w.assign, (ivAt (viewM g edges) p).Single) :
    (wmViewV w (viewM g edges)).Single := by
  unfold wmViewV
  cases hmemo : w.memo with
  | some b =>
    rw [(inv.memo b hmemo).1]
    rfl
  | none =>
    show (wmForm w (viewM g edges)).Single
    by_cases hz : (w.nf == 0 || w.nt == 0) = true
    · rw [wmForm_empty _ hz]
      rfl
    · rw [wmForm_some _ hz hm]
      exact congrArg List.sum (List.map_congr_left hd)

theorem WmInv.congr {w' : WmSt} (inv : WmInv g w edges) (h1 : w'.nf = w.nf)
    (h2 : w'.nt = w.nt) (h3 : w'.assign = w.assign) (h4 : w'.mtch = w.mtch) (h5 : w'.memo = w.memo) :
    WmInv g w' edges := by
  refine ⟨by rw [h1, h2]; exact inv.shape, inv.edgesI, ⟨?_, ?_, ?_, ?_⟩, ?_, ?_⟩
  · rw [h3, h1, h2]; exact inv.ok.inRange
  · rw [h3]; exact inv.ok.sortedF
  · rw [h3]; exact inv.ok.nodupT
  · rw [h3, h1, h2]; exact inv.ok.full
  · rw [h3, h4]; exact inv.mt
  · rw [h5, h3]
    intro b hb
    have := inv.memo b hb
    simpa [wmFin, h3] using this

end

section
variable {rec : Ops} {g : Ghost}

def PresL (g : Ghost) (a b : List M) : Prop := KeepsL g a b ∧ b.map g.view = a.map g.view

def PresLL (g : Ghost) (a b : List (List M)) : Prop := KeepsLL g a b ∧ viewM g b = viewM g a

theorem PresLL.refl (t : List (List M)) (h : ∀ row ∈ t, ∀ m ∈ row, g.I m) : PresLL g t t :=
  ⟨KeepsLL.refl t h, rfl⟩

theorem PresLL.trans {a b c : List (List M)} (h1 : PresLL g a b) (h2 : PresLL g b c) : PresLL g a c :=
  ⟨h1.1.trans h2.1, h2.2.trans h1.2⟩

theorem KeepsL.subV {a b : List M} (h : KeepsL g a b) : SubL (a.map g.view) (b.map g.view) :=
  SubL.iff.2 (.map ((KeepsL.pw.1 h).imp fun _ _ _ _ k => k.sub))

theorem KeepsLL.subV {a b : List (List M)} (h : KeepsLL g a b) : SubLL (viewM g a) (viewM g b) :=
  SubLL.iff.2 (.map ((KeepsLL.pw.1 h).imp fun _ _ _ _ k => k.subV))

theorem KeepsLL.length : ∀ {a b : List (List M)}, KeepsLL g a b → b.length = a.length :=
  fun h => (KeepsLL.pw.mp h).length_eq.symm

variable {w : WmSt} {a b : List (List M)}

theorem KeepsLL.def_at (h : Protocol rec g) (k : KeepsLL g a b) {nf nt : Nat} (sh : MShape b nf nt)
    (hI : ∀ row ∈ b, ∀ m ∈ row, g.I m) {p : Nat × Nat} (hp : p.1 < nf ∧ p.2 < nt)
    (hd : (ivAt (viewM g a) p).Single) :
    (ivAt (viewM g b) p).Single := by
  have hs := k.subV.at p
  obtain ⟨m, hm, e, _⟩ := mget_at (g := g) sh hp.1 hp.2
  have hw := h.wf m (mget_inv hI hm)
  rw [e] at hs ⊢
  omega

theorem WmInv.keeps (h : Protocol rec g) (inv : WmInv g w a) (k : KeepsLL g a b) : WmInv g w b := by
  refine ⟨k.shape inv.shape, k.inv, inv.ok, inv.mt, fun bb hb => ?_⟩
  obtain ⟨e1, e2⟩ := inv.memo bb hb
  exact ⟨by rw [e1]; simp only [wmFin, k.finM],
    fun p hp => k.def_at h (k.shape inv.shape) k.inv (inv.ok.inRange p hp) (e2 p hp)⟩

theorem wmView_mono (inv : WmInv g w a) (k : KeepsLL g a b) :
    (wmViewV w (viewM g a)).lo ≤ (wmViewV w (viewM g b)).lo ∧ (wmViewV w (viewM g b)).hi ≤ (wmViewV w (viewM g a)).hi := by
  unfold wmViewV
  cases w.memo with
  | some b => exact iv_sub_refl _
  | none => exact wmForm_mono w k.subV inv.min_le

/-- `(w', e')` is the matcher `(w, e)` after one of its operations: the analogue of `Keeps` for a matcher's control
    state and edges; `fuel` is what bounds the `repeat_until_tightened` loop -/
structure WmKeeps (g : Ghost) (w : WmSt) (e : List (List M)) (w' : WmSt) (e' : List (List M)) : Prop where
  kl : KeepsLL g e e'
  inv : WmInv g w' e'
  nf : w'.nf = w.nf
  nt : w'.nt = w.nt
  assign : w'.assign = w.assign
  sub : (wmViewV w (viewM g e)).lo ≤ (wmViewV w' (viewM g e')).lo ∧
    (wmViewV w' (viewM g e')).hi ≤ (wmViewV w (viewM g e)).hi
  fuel : wmFlags w' + muLLg g e' ≤ wmFlags w + muLLg g e
  mtch : ∀ pairs, w.mtch = some pairs → w'.mtch = some pairs

theorem WmKeeps.refl (inv : WmInv g w a) : WmKeeps g w a w a :=
  ⟨KeepsLL.refl a inv.edgesI, inv, rfl, rfl, rfl, iv_sub_refl _, Nat.le_refl _, fun _ hp => hp⟩

theorem WmKeeps.trans {w1 w2 w3 : WmSt} {e1 e2 e3 : List (List M)} (a : WmKeeps g w1 e1 w2 e2)
    (b : WmKeeps g w2 e2 w3 e3) : WmKeeps g w1 e1 w3 e3 :=
  ⟨a.kl.trans b.kl, b.inv, b.nf.trans a.nf, b.nt.trans a.nt, b.assign.trans a.assign,
    iv_sub_trans a.sub b.sub, Nat.le_trans b.fuel a.fuel,
    fun p hp => b.mtch p (a.mtch p hp)⟩

theorem WmKeeps.ofEdges (h : Protocol rec g) (inv : WmInv g w a) (kl : KeepsLL g a b) : WmKeeps g w a w b :=
  ⟨kl, inv.keeps h kl, rfl, rfl, rfl, wmView_mono inv kl, Nat.add_le_add_left kl.mu _, fun _ hp => hp⟩

/-- the sums over the matched edges lie inside the formula -/
theorem WmKeeps.fixMatching (inv : WmInv g w a) (hm : w.mtch = none) :
    WmKeeps g w a { w with mtch := some w.assign } a ∧ wmFlags { w with mtch := some w.assign } < wmFlags w := by
  have hf : wmForm { w with mtch := some w.assign } (viewM g a) =
      ⟨(w.assign.map fun p => (ivAt (viewM g a) p).lo).sum, (w.assign.map fun p => (ivAt (viewM g a) p).hi).sum⟩ := by
    by_cases hz : (w.nf == 0 || w.nt == 0) = true
    · rw [wmForm_empty (w := { w with mtch := some w.assign }) _ hz, inv.ok.empty hz]
      rfl
    · exact wmForm_some (w := { w with mtch := some w.assign }) _ hz rfl
  refine ⟨⟨KeepsLL.refl a inv.edgesI,
    ⟨inv.shape, inv.edgesI, ⟨inv.ok.inRange, inv.ok.sortedF, inv.ok.nodupT, inv.ok.full⟩,
      fun _ hp => (Option.some.inj hp).symm, inv.memo⟩,
    rfl, rfl, rfl, ?_, ?_, fun _ hp => by rw [hm] at hp; cases hp⟩, ?_⟩
  · unfold wmViewV
    cases w.memo with
    | some b => exact iv_sub_refl _
    | none =>
      show (wmForm w (viewM g a)).lo ≤ (wmForm { w with mtch := some w.assign } (viewM g a)).lo ∧
        (wmForm { w with mtch := some w.assign } (viewM g a)).hi ≤ (wmForm w (viewM g a)).hi
      rw [hf]
      exact wmForm_outer inv
  · simp [wmFlags, hm]
  · simp [wmFlags, hm]

end

end GtModel.Lazy
