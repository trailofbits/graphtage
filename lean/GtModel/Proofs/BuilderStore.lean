/-
  Stores of standard classes (`StdCell`, `StdStore`: dispatch as the generated tables give it for the built-in types): the
  traversal of such a store is the value-level builder `buildVal` on its unfolding (`dfs_eq_buildVal`); stores of lists,
  tuples and scalars (`ListStore`), on which the builders neither fail nor drop a child.  Both predicates are finite checks
  on a concrete store.
  Declared in `GtModel.C18`: `StdStore` and `ListStore` are the words of the property statements.
-/
import GtModel.Proofs.BuilderDfs
import GtModel.Proofs.BuilderValue

namespace GtModel.C18
open GtModel.Builder

theorem expand_of_none (b : BKind) (s : Store) (i : Nat) (cell : Cell) (hc : s[i]? = some cell)
    (he : resolve (expanders b) cell.mro = none) (hb : (resolve (builders b) cell.mro).isSome = true) :
    expand b s (.obj i) = [] := by
  unfold expand expand? Store.cell?
  simp only [hc, he]
  cases b
  · simp only; cases Gen.basicDefaultExpander <;> simp
  · simp only [hb]; cases Gen.pyobjOwnDefaults <;> simp

theorem expand_of_list (b : BKind) (s : Store) (i : Nat) (cell : Cell) (hc : s[i]? = some cell)
    (he : resolve (expanders b) cell.mro = some "expand_list") (items : List Ref) (hi : iterPayload cell.val = some items) :
    expand b s (.obj i) = items := by
  unfold expand expand? Store.cell?
  simp [hc, he, hi]

theorem expand_of_dict (b : BKind) (s : Store) (i : Nat) (cell : Cell) (hc : s[i]? = some cell)
    (he : resolve (expanders b) cell.mro = some "expand_dict") (items : List (Nat × Nat)) (hv : cell.val = .dict items) :
    expand b s (.obj i) = items.map (fun p => .obj p.1) ++ items.map (fun p => .obj p.2) := by
  unfold expand expand? Store.cell?
  simp [hc, he, hv]

theorem buildNode_of (b : BKind) (o : Opts) (s : Store) (i : Nat) (cell : Cell) (hc : s[i]? = some cell) (m : String)
    (hb : resolve (builders b) cell.mro = some m) (ts : List Tree) :
    buildNode b o s (.obj i) ts = applyBuilder m o cell.val ts := by
  unfold buildNode Store.cell?
  simp [hc, hb]

theorem optMapM_forall2 {α β} {f : α → Option β} {l : List α} {r : List β} (h : optMapM f l = some r) :
    Forall2 (fun a y => f a = some y) l r := by
  induction l generalizing r with
  | nil => cases h; exact .nil
  | cons x l ih =>
    rw [optMapM] at h
    cases hx : f x with
    | none => rw [hx] at h; cases h
    | some y =>
      cases hm : optMapM f l with
      | none => rw [hx, hm] at h; cases h
      | some ys => rw [hx, hm] at h; cases h; exact .cons hx (ih hm)

theorem pairOpt_some {f : Nat → Option PyVal} {p : Nat × Nat} {kv : PyVal × PyVal} (h : pairOpt f p = some kv) :
    f p.1 = some kv.1 ∧ f p.2 = some kv.2 := by
  unfold pairOpt at h
  cases h1 : f p.1 <;> cases h2 : f p.2 <;> rw [h1, h2] at h <;> cases h
  exact ⟨rfl, rfl⟩

def stdBuilderName : Kind → String
  | .int => "build_int" | .bool => "build_bool" | .float => "build_float"
  | .str => "build_str" | .bytes => "build_str" | .none => "build_none"

/-- the class of a stored object is dispatched the standard way: what the generated `@builder` / `@expander`
tables give for the built-in types (and their subclasses) -/
def StdCell (b : BKind) (c : Cell) : Prop :=
  match c.val with
  | .scalar sc => resolve (expanders b) c.mro = none ∧ resolve (builders b) c.mro = some (stdBuilderName sc.kind)
  | .list _ => resolve (expanders b) c.mro = some "expand_list" ∧ resolve (builders b) c.mro = some "build_list"
  | .tuple _ => resolve (expanders b) c.mro = some "expand_list" ∧ resolve (builders b) c.mro = some "build_list"
  | .set _ => resolve (expanders b) c.mro = some "expand_list" ∧ resolve (builders b) c.mro = some "build_set"
  | .dict _ => resolve (expanders b) c.mro = some "expand_dict" ∧ resolve (builders b) c.mro = some "build_dict"
  | .custom _ _ => True

def StdStore (b : BKind) (s : Store) : Prop := ∀ (i : Nat) (c : Cell), s[i]? = some c → StdCell b c

instance (b : BKind) : (c : Cell) → Decidable (StdCell b c)
  | ⟨_, .scalar _⟩ | ⟨_, .list _⟩ | ⟨_, .tuple _⟩ | ⟨_, .set _⟩ | ⟨_, .dict _⟩ => inferInstanceAs (Decidable (_ ∧ _))
  | ⟨_, .custom _ _⟩ => inferInstanceAs (Decidable True)

/-- for a concrete store `StdStore` (like `Ranked`, see `ranked_of_forall`) is a finite check against the generated
dispatch tables, hence decided by evaluation -/
theorem stdStore_of_forall {b : BKind} {s : Store} (h : ∀ c ∈ s, StdCell b c) : StdStore b s :=
  fun _ c hc => h c (List.mem_of_getElem? hc)

/-- `PyObjBuilder` registers no builder or expander of its own: it dispatches through `BasicBuilder`'s tables.  The tables
are regenerated from /repo; this stops building when that is no longer so. -/
theorem tables_agree (b : BKind) : builders b = builders .basic ∧ expanders b = expanders .basic := by
  cases b <;> exact ⟨rfl, rfl⟩

theorem stdCell_basic {c : Cell} (h : StdCell .basic c) (b : BKind) : StdCell b c := by
  unfold StdCell at h ⊢
  rwa [(tables_agree b).1, (tables_agree b).2]

theorem stdStore_of_basic {s : Store} (h : ∀ c ∈ s, StdCell .basic c) (b : BKind) : StdStore b s :=
  stdStore_of_forall fun c hc => stdCell_basic (h c hc) b

theorem applyBuilder_scalar (o : Opts) (sc : Scalar) :
    applyBuilder (stdBuilderName sc.kind) o (.scalar sc) [] = .ok (scalarLeaf sc) := by
  unfold scalarLeaf
  cases hk : sc.kind <;> simp [stdBuilderName, applyBuilder, leafOf, hk, pure, Except.pure]

/-- the induction hypothesis of `dfs_eq_buildVal` at depth `d` -/
def BuildsAt (b : BKind) (o : Opts) (s : Store) (d : Nat) : Prop :=
  ∀ (i : Nat) (v : PyVal) (path : List Ref), unfold s d (.obj i) = some v → Plain v →
    dfs b (noCheck o) s d path (.obj i) = liftB (buildVal o v)

section
variable {b : BKind} {o : Opts} {s : Store} {d i : Nat} {cell : Cell}

theorem dfs_seq_cell (ih : BuildsAt b o s d) (path : List Ref) (hc : s[i]? = some cell) (he : resolve (expanders b) cell.mro = some "expand_list") {m : String}
    (hb : resolve (builders b) cell.mro = some m) {items : List Nat}
    (hi : iterPayload cell.val = some (items.map .obj)) {vs : List PyVal}
    (hm : optMapM (fun i => unfold s d (.obj i)) items = some vs) (hp : ∀ v ∈ vs, Plain v) :
    dfs b (noCheck o) s (d + 1) path (.obj i) =
      liftB (buildValList o vs >>= fun ts => applyBuilder m o cell.val ts) := by
  rw [dfs_noCheck_succ, expand_of_list b s i cell hc he _ hi, liftB_bind, buildValList_eq_mapM,
    mapM_eq_liftB Ref.obj (buildVal o) ((optMapM_forall2 hm).imp fun j _ w hw hjw => ih j w _ hjw (hp w hw))]
  simp only [buildNode_of b o s i cell hc m hb]

end

/-- **the store-level traversal equals the value-level builder** on the unfolding of the store (sharing is
simply unfolded), for standard classes -/
theorem dfs_eq_buildVal (b : BKind) (o : Opts) (s : Store) (hstd : StdStore b s) :
    ∀ (d i : Nat) (v : PyVal) (path : List Ref), unfold s d (.obj i) = some v → Plain v →
      dfs b (noCheck o) s d path (.obj i) = liftB (buildVal o v) := by
  intro d
  induction d with
  | zero => intro i v path h; cases h
  | succ d ih =>
    intro i v path hu hp
    rw [unfold, Store.cell?] at hu
    cases hc : s[i]? with
    | none => rw [hc] at hu; cases hu
    | some cell =>
      simp only [hc] at hu
      have hcell := hstd i cell hc
      unfold StdCell at hcell
      cases hval : cell.val <;> rw [hval] at hu hcell <;> simp only at hcell
      case scalar sc =>
        cases hu
        rw [dfs_noCheck_succ, expand_of_none b s i cell hc hcell.1 (by rw [hcell.2]; rfl), List.mapM_nil]
        show liftB (buildNode b o s (.obj i) []) = _
        rw [buildNode_of b o s i cell hc _ hcell.2, hval, applyBuilder_scalar]
        rfl
      case list items | tuple items =>
        obtain ⟨vs, hm, rfl⟩ := Option.map_eq_some_iff.1 hu
        exact dfs_seq_cell ih path hc hcell.1 hcell.2 (by rw [hval]; rfl) hm (plainList_iff.1 hp)
      case set items =>
        obtain ⟨vs, hm, rfl⟩ := Option.map_eq_some_iff.1 hu
        exact dfs_seq_cell ih path hc hcell.1 hcell.2 (by rw [hval]; rfl) hm fun v hv => isScalarVal_plain (hp.1 v hv)
      case dict items =>
        obtain ⟨kvs, hm, rfl⟩ := Option.map_eq_some_iff.1 hu
        have hpp := plainPairs_iff.1 hp.1
        have hpairs := (optMapM_forall2 hm).imp fun p _ kv hkv h => (⟨pairOpt_some h, hpp kv hkv⟩ : _ ∧ _)
        rw [dfs_noCheck_succ, expand_of_dict b s i cell hc hcell.1 items hval, List.mapM_append,
          mapM_eq_liftB (fun p : Nat × Nat => Ref.obj p.1) (fun kv : PyVal × PyVal => buildVal o kv.1)
            (hpairs.imp fun p _ kv _ h => ih p.1 kv.1 _ h.1.1 (isScalarVal_plain h.2.1)),
          mapM_eq_liftB (fun p : Nat × Nat => Ref.obj p.2) (fun kv : PyVal × PyVal => buildVal o kv.2)
            (hpairs.imp fun p _ kv _ h => ih p.2 kv.2 _ h.1.2 h.2.2),
          buildVal, buildValKeys_eq_mapM, buildValVals_eq_mapM]
        simp only [buildNode_of b o s i cell hc _ hcell.2]
        cases kvs.mapM fun kv => buildVal o kv.1 with
        | error e => rfl
        | ok ks => cases kvs.mapM fun kv => buildVal o kv.2 <;> rfl
      case custom cls attrs =>
        obtain ⟨as, _, rfl⟩ := Option.map_eq_some_iff.1 hu
        exact hp.elim


mutual
def hasCyc : Tree → Bool
  | .leaf .. => false
  | .cyc .. => true
  | .node _ cs => hasCycList cs
def hasCycList : List Tree → Bool
  | [] => false
  | t :: ts => hasCyc t || hasCycList ts
end

theorem hasCycList_mem : ∀ (ts : List Tree), hasCycList ts = false → ∀ t ∈ ts, hasCyc t = false := by
  intro ts
  induction ts with
  | nil => intro _ t ht; simp at ht
  | cons a ts ih =>
    intro h t ht
    simp only [hasCycList, Bool.or_eq_false_iff] at h
    simp only [List.mem_cons] at ht
    cases ht with
    | inl h' => subst h'; exact h.1
    | inr h' => exact ih h.2 t h'

/-- stores made of lists, tuples and scalars of standard classes, with no dangling reference -/
def ListStore (b : BKind) (s : Store) : Prop :=
  ∀ (i : Nat) (c : Cell), s[i]? = some c → StdCell b c ∧
    ((∃ sc, c.val = .scalar sc) ∨ (∃ items, (c.val = .list items ∨ c.val = .tuple items) ∧ ∀ j ∈ items, j < s.length))

def listShape (n : Nat) : Payload → Bool
  | .scalar _ => true
  | .list items | .tuple items => items.all (· < n)
  | _ => false

theorem listStore_of_forall {s : Store} (h : ∀ c ∈ s, StdCell .basic c ∧ listShape s.length c.val = true) (b : BKind) :
    ListStore b s := fun i c hc => by
  obtain ⟨hstd, hsh⟩ := h c (List.mem_of_getElem? hc)
  refine ⟨stdCell_basic hstd b, ?_⟩
  cases hv : c.val <;> rw [hv] at hsh <;> try cases hsh
  · exact .inl ⟨_, rfl⟩
  · exact .inr ⟨_, .inl rfl, fun j hj => of_decide_eq_true (List.all_eq_true.1 hsh j hj)⟩
  · exact .inr ⟨_, .inr rfl, fun j hj => of_decide_eq_true (List.all_eq_true.1 hsh j hj)⟩

theorem listStore_cases {b : BKind} {s : Store} (hls : ListStore b s) {i : Nat} (hi : i < s.length) :
    (expand b s (.obj i) = [] ∧ ∃ sc, ∀ o, buildNode b o s (.obj i) [] = .ok (scalarLeaf sc)) ∨
    ∃ items : List Nat, expand b s (.obj i) = items.map .obj ∧ (∀ j ∈ items, j < s.length) ∧
      ∀ o ts, buildNode b o s (.obj i) ts = .ok (.node (.list o.ale o.alesl) ts) := by
  have hget : s[i]? = some s[i] := by simp [hi]
  obtain ⟨hstd, hshape⟩ := hls i s[i] hget
  unfold StdCell at hstd
  rcases hshape with ⟨sc, hv⟩ | ⟨items, hv, hclosed⟩
  · rw [hv] at hstd
    refine .inl ⟨expand_of_none b s i _ hget hstd.1 (by rw [hstd.2]; rfl), sc, fun o => ?_⟩
    rw [buildNode_of b o s i _ hget _ hstd.2, hv, applyBuilder_scalar]
  · have : resolve (expanders b) s[i].mro = some "expand_list" ∧ resolve (builders b) s[i].mro = some "build_list" := by
      rcases hv with hv | hv <;> rw [hv] at hstd <;> exact hstd
    refine .inr ⟨items, expand_of_list b s i _ hget this.1 _ (by rcases hv with hv | hv <;> rw [hv] <;> rfl), hclosed,
      fun o ts => ?_⟩
    rw [buildNode_of b o s i _ hget _ this.2]
    rfl

theorem dfs_ok_nocyc_acc (b : BKind) (o : Opts) (s : Store) (hls : ListStore b s) :
    ∀ (d : Nat) (x : Ref) (path : List Ref) (t : Tree), dfs b o s d path x = .ok t → hasCyc t = false →
      Acc (childRel b s) x := by
  intro d
  induction d with
  | zero => intro x path t h; cases h
  | succ d ih =>
    intro x path t h hnc
    obtain ⟨ts, hts, hb⟩ := dfs_ok h
    refine ⟨x, fun c (hc : c ∈ expand b s x) => ?_⟩
    obtain ⟨i, hi, rfl⟩ := lt_length_of_mem_expand hc
    rcases listStore_cases hls hi with ⟨he, _⟩ | ⟨items, _, _, hbn⟩
    · rw [he] at hc; cases hc
    · rw [hbn] at hb
      cases hb
      obtain ⟨tc, htc, hR⟩ := hts.mem_left hc
      have hnc' := hasCycList_mem ts hnc tc htc
      rcases hR with ⟨_, rfl⟩ | h'
      · cases hnc'
      · exact ih c _ tc h' hnc'

theorem dfs_liststore_error (b : BKind) (o : Opts) (s : Store) (hls : ListStore b s) :
    ∀ (d i : Nat) (path : List Ref) (e : Err), i < s.length → dfs b o s d path (.obj i) = .error e →
      e = .outOfFuel ∨ e = .cycle := by
  intro d
  induction d with
  | zero => intro i path e _ h; cases h; exact .inl rfl
  | succ d ih =>
    intro i path e hi h
    rcases dfs_error h with ⟨_, _, _, _, he⟩ | ⟨c, hc, _, he⟩ | ⟨ts, hlen, he⟩
    · exact .inr he
    · rcases listStore_cases hls hi with ⟨hex, _⟩ | ⟨items, hex, hclosed, _⟩
      · rw [hex] at hc; cases hc
      · rw [hex] at hc
        obtain ⟨j, hj, rfl⟩ := List.mem_map.1 hc
        exact ih j _ e (hclosed j hj) he
    · rcases listStore_cases hls hi with ⟨hex, sc, hbn⟩ | ⟨_, _, _, hbn⟩
      · rw [hex] at hlen
        rw [List.length_eq_zero_iff.1 hlen, hbn] at he
        cases he
      · rw [hbn] at he
        cases he

end GtModel.C18
