/-
  Static facts about the greedy matrix that `EditDistance.bounds()` relies on while the matrix is being built:
  the minimum cost over two consecutive anti-diagonals is a lower bound of the final cost and only grows with the
  diagonal index (`FringeLB`, `fringeLB_step`, `fringeLB_sound`).
-/
import GtModel.Proofs.EditMatrix

namespace GtModel.EditMatrix

section
variable (rem ins : List Nat) (cells : List (List Nat))

theorem spec_pred (r c : Nat) (h : 0 < r + c) :
    ∃ r' c', r' ≤ r ∧ c' ≤ c ∧ (r' + c' + 1 = r + c ∨ r' + c' + 2 = r + c) ∧
      (spec rem ins cells r' c').cost ≤ (spec rem ins cells r c).cost := by
  match r, c, h with
  | 0, c + 1, _ =>
    refine ⟨0, c, Nat.le_refl _, Nat.le_succ _, Or.inl (by omega), ?_⟩
    rw [spec.eq_2]; simp [goLeft]
  | r + 1, 0, _ =>
    refine ⟨r, 0, Nat.le_succ _, Nat.le_refl _, Or.inl (by omega), ?_⟩
    rw [spec.eq_3]; simp [goUp]
  | r + 1, c + 1, _ =>
    rw [spec.eq_4]
    rcases step_cases (ins.getD r 0) (rem.getD c 0) (cellAt cells r c) (spec rem ins cells r c)
      (spec rem ins cells (r + 1) c) (spec rem ins cells r (c + 1)) with ⟨h, _, _⟩ | h | h
    · exact ⟨r, c, Nat.le_succ _, Nat.le_succ _, Or.inr (by omega), by rw [h]; simp [goDiag]⟩
    · exact ⟨r, c + 1, Nat.le_succ _, Nat.le_refl _, Or.inl (by omega), by rw [h]; simp [goUp]⟩
    · exact ⟨r + 1, c, Nat.le_refl _, Nat.le_succ _, Or.inl (by omega), by rw [h]; simp [goLeft]⟩

/-- `x` is a lower bound of the costs on the anti-diagonals `k` and `k - 1` (inside an `m × n` matrix):
    what `EditDistance.bounds()` computes from `_fringe_diagonal()` and `_last_fringe` -/
def FringeLB (m n k x : Nat) : Prop :=
  ∀ r c, r ≤ m → c ≤ n → (r + c = k ∨ r + c + 1 = k) → x ≤ (spec rem ins cells r c).cost

theorem fringeLB_step (m n k x : Nat) (h : FringeLB rem ins cells m n k x) : FringeLB rem ins cells m n (k + 1) x := by
  intro r c hr hc hk
  rcases hk with hk | hk
  · obtain ⟨r', c', hr', hc', hs, hle⟩ := spec_pred rem ins cells r c (by omega)
    have := h r' c' (by omega) (by omega) (by omega)
    omega
  · exact h r c hr hc (Or.inl (by omega))

theorem fringeLB_mono (m n k j x : Nat) (h : FringeLB rem ins cells m n k x) :
    FringeLB rem ins cells m n (k + j) x := by
  induction j with
  | zero => exact h
  | succ j ih => exact fringeLB_step rem ins cells m n (k + j) x ih

theorem fringeLB_sound (k x : Nat) (hk : k ≤ ins.length + rem.length)
    (h : FringeLB rem ins cells ins.length rem.length k x) : x ≤ (solve rem ins cells).1 := by
  have h' := fringeLB_mono rem ins cells ins.length rem.length k (ins.length + rem.length - k) x h
  have := h' ins.length rem.length (Nat.le_refl _) (Nat.le_refl _) (Or.inl (by omega))
  rw [solve_eq_spec]
  exact this

end

end GtModel.EditMatrix
