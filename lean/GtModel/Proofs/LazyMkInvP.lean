/-
  With MultiSetEdit: on trees without fixed-key dictionaries (`DictNode` documents: the default dict strategy) the
  machine of `from.edits(to)` satisfies the invariant, if the recorded answers of the assignment solver have full size.
-/
import GtModel.Proofs.LazyMkFresh

namespace GtModel.Lazy
open GtModel.EditMatrix (middle trimLens)

attribute [-simp] List.getD_eq_getElem?_getD

theorem insertPair_map_fst (p : Nat × Nat) : ∀ l : List (Nat × Nat),
    (insertPair p l).map (·.1) = insertNat p.1 (l.map (·.1))
  | [] => rfl
  | q :: l => by
    simp only [insertPair, List.map_cons, insertNat]
    split
    · rfl
    · rw [List.map_cons, insertPair_map_fst p l]

theorem sortPairs_map_fst : ∀ l : List (Nat × Nat), (sortPairs l).map (·.1) = sortNat (l.map (·.1))
  | [] => rfl
  | p :: l => by rw [sortPairs, insertPair_map_fst, sortPairs_map_fst l]; rfl

theorem sortPairs_sorted (l : List (Nat × Nat)) : ((sortPairs l).map (·.1)).Pairwise (· ≤ ·) :=
  sortPairs_map_fst l ▸ sortNat_sorted _

theorem pairwise_lt_of_le_nodup {l : List Nat} (h : l.Pairwise (· ≤ ·)) (hn : l.Nodup) : l.Pairwise (· < ·) :=
  (h.and hn).imp fun ⟨hle, hne⟩ => Nat.lt_of_le_of_ne hle hne

theorem assignOK_of_orc (orc : Oracle) (hfull : OrcFull orc) (fps tps : List (List Nat)) (w : WmSt)
    (h1 : w.nf = fps.length) (h2 : w.nt = tps.length) (h3 : w.assign = sortPairs (orc.lookup fps tps)) : AssignOK w := by
  have pinj := sorted_lookup_pinj orc fps tps
  refine ⟨?_, ?_, ?_, ?_⟩
  · rw [h3, h1, h2]; exact pinj.2.2
  · rw [h3]; exact pairwise_lt_of_le_nodup (sortPairs_sorted _) pinj.1
  · rw [h3]; exact pinj.2.1
  · rw [h3, h1, h2, (sortPairs_perm _).length_eq]; exact hfull fps tps


theorem mkMs_invP (a : Ghost) (amk : Bool) (orc : Orc) (hfull : OrcFull orc.assign) (fp tp : List Nat)
    (fkv tkv : List (Str × Tree)) (vtbl : List (List M))
    (hv : ∀ i j, InvP a ((vtbl.getD i []).getD j (mkConst .match_ 0))) :
    InvP a (mkMs amk orc fp tp fkv tkv vtbl) := by
  refine InvP.ms ?_ ?_ _ _ _ (MShape.map_map _ _ _) (assignOK_of_orc orc.assign hfull _ _ _ (by simp) (by simp) rfl) rfl rfl
    (by simp) (by simp)
  · exact List.forall_mem_map.mpr fun p _ => (mkKvp_invP a _ _ _ _ (hv p.1 p.2)).relabel _ _
  · exact List.forall_mem_map.mpr fun i _ =>
      List.forall_mem_map.mpr fun j _ => (mkKvp_invP a _ _ _ _ (hv i j)).relabel _ _

theorem mkEdit_invP (a : Ghost) (o : Opts) (orc : Orc) (hfull : OrcFull orc.assign) :
    ∀ f : Tree, f.noFdict = true → ∀ (t : Tree) (fp tp : List Nat), InvP a (mkEdit o orc fp tp f t) := by
  intro f
  induction f using Tree.ind with
  | leaf x =>
    intro _ t fp tp
    rw [mkEdit_leaf]
    exact (mkLeaf_fresh a x t).1.toInvP
  | list fcs ih =>
    intro hnf t fp tp
    rw [Tree.noFdict, nfL_iff] at hnf
    by_cases ht : ∃ tcs, t = .list tcs
    · obtain ⟨tcs, rfl⟩ := ht
      exact mkEdit_list_invP (fun fc hfc tc _ fp tp => ih fc hfc (hnf fc hfc) tc fp tp) fp tp
    · rw [mkEdit_list_other (fun tcs e => ht ⟨tcs, e⟩)]
      exact InvP.const a _ _
  | fdict kvs _ =>
    intro hnf
    simp [Tree.noFdict] at hnf
  | dict fkv ih =>
    intro hnf t fp tp
    rw [Tree.noFdict, nfKV_iff] at hnf
    by_cases ht : ∃ tkv, t = .dict tkv
    · obtain ⟨tkv, rfl⟩ := ht
      rw [mkEdit_dict_dict]
      split
      · exact InvP.const a _ 0
      · exact mkMs_invP a o.amk orc hfull fp tp fkv tkv _
          (kvTblM_forall (InvP.const a _ _) (fun f hf t _ fp tp => ih f hf (hnf f hf) t.2 fp tp) fp tp)
    · rw [mkEdit_dict_other (fun tkv e => ht ⟨tkv, e⟩)]
      exact InvP.const a _ _

end GtModel.Lazy
