/-
  C02 for XML, "whenever the elements differ, at least one edit of positive cost is reported": every XML script of
  positive cost contains a non-compound edit (Match / Replace / Remove / Insert, possibly inside an embedded L2
  script) of positive cost, because every compound node reports the sum of its sub-edits (`XScript.CostOK`).
-/
import GtModel.Proofs.XmlCost
namespace GtModel.Xml
open GtModel

def XKind.atomic : XKind → Bool
  | .match_ | .remove | .insert => true
  | _ => false

inductive XPosAtom : XScript → Prop
  | emb {s : Script} : PosAtom s → XPosAtom (.emb s)
  | here {k : XKind} {f t : Ix} {c : Nat} {subs : List XScript} : k.atomic = true → 0 < c → XPosAtom (.mk k f t c subs)
  | sub {k : XKind} {f t : Ix} {c : Nat} {subs : List XScript} {s' : XScript} :
      k.atomic = false → s' ∈ subs → XPosAtom s' → XPosAtom (.mk k f t c subs)

theorem XKind.atomic_eq (k : XKind) : k.atomic = !k.hasSubs := by cases k <;> rfl

mutual
theorem xposAtom_of_costOK : ∀ (s : XScript), s.CostOK → 0 < s.cost → XPosAtom s
  | .emb s, h, hc => .emb (posAtom_of_costOK s ((XScript.costOK_emb s).1 h) hc)
  | .mk k f t c subs, h, hc => by
    rw [XScript.CostOK] at h
    cases hk : k.hasSubs with
    | false => exact .here (by rw [XKind.atomic_eq, hk]; rfl) hc
    | true =>
      rw [hk, if_pos rfl] at h
      obtain ⟨s', hm, hp⟩ := xposAtomL_of_costOK subs h.2 (h.1 ▸ hc)
      exact .sub (by rw [XKind.atomic_eq, hk]; rfl) hm hp
theorem xposAtomL_of_costOK : ∀ (l : List XScript), XCostOKL l → 0 < xsum l → ∃ s ∈ l, XPosAtom s
  | [], _, hc => absurd hc (Nat.lt_irrefl 0)
  | s :: rest, h, hc => by
    rw [XCostOKL] at h
    rw [xsum_cons] at hc
    by_cases hs : 0 < s.cost
    · exact ⟨s, List.mem_cons_self, xposAtom_of_costOK s h.1 hs⟩
    · obtain ⟨s', hm, hp⟩ := xposAtomL_of_costOK rest h.2 (by omega)
      exact ⟨s', List.mem_cons_of_mem _ hm, hp⟩
end

end GtModel.Xml
