/- `IterativeTighteningSearch`: progress measure, termination of `tighten_bounds` and `search` from every state. -/
import GtModel.Model.Search
import GtModel.Proofs.BoundLemmas

namespace GtModel.Bounded
open GtModel

def StepRes.st : StepRes → SS
  | .ret _ s => s
  | .cont s => s

def Same (s s' : SS) : Prop := s'.σ = s.σ ∧ s'.unproc = s.unproc

theorem Same.measure {s s' : SS} (h : Same s s') : s'.measure = s.measure := by
  unfold SS.measure; rw [h.1, h.2]

theorem Same.trans {a b c : SS} (h1 : Same a b) (h2 : Same b c) : Same a c :=
  ⟨h2.1.trans h1.1, h2.2.trans h1.2⟩

theorem popNode_same (sel : Sel) (s : SS) (isT : Bool) (node : HEntry) : Same s (popNode sel s isT node) := by
  unfold popNode
  dsimp only
  split <;> exact ⟨rfl, rfl⟩

theorem pushU_same (s : SS) (i : Nat) : Same s (pushU s i) := by
  unfold pushU; split <;> exact ⟨rfl, rfl⟩

theorem pushT_same (s : SS) (i : Nat) : Same s (pushT s i) := by
  unfold pushT; split <;> exact ⟨rfl, rfl⟩

theorem pushByDef_same (s : SS) (i : Nat) : Same s (pushByDef s i) := by
  unfold pushByDef; split
  · exact ⟨rfl, rfl⟩
  · split
    · exact pushT_same s i
    · exact pushU_same s i

/-- used instead of `split`, which is slow to check on a large goal -/
theorem ite_ind {α : Sort _} {P : α → Prop} {c : Prop} [Decidable c] {a b : α} (h1 : c → P a) (h2 : ¬ c → P b) :
    P (if c then a else b) := by
  split
  · exact h1 ‹_›
  · exact h2 ‹_›

theorem updateBounds_same (sel : Sel) (s : SS) (node : HEntry) : Same s (updateBounds sel s node) := by
  have hp := popNode_same sel s false node
  unfold updateBounds
  split
  · exact ⟨rfl, rfl⟩
  · refine ite_ind (P := Same s) (fun _ => hp) fun _ => ite_ind (fun _ => hp) fun _ => ite_ind
      (fun _ => hp.trans (pushT_same _ _)) fun _ => ite_ind (fun _ => hp.trans (pushU_same _ _)) fun _ => ⟨rfl, rfl⟩

def WorkLe (s s' : SS) : Prop := total s'.σ ≤ total s.σ ∧ s'.unproc = s.unproc

theorem WorkLe.refl (s : SS) : WorkLe s s := ⟨Nat.le_refl _, rfl⟩

theorem WorkLe.trans {a b c : SS} (h1 : WorkLe a b) (h2 : WorkLe b c) : WorkLe a c :=
  ⟨Nat.le_trans h2.1 h1.1, h2.2.trans h1.2⟩

theorem WorkLe.measure {s s' : SS} (h : WorkLe s s') : s'.measure ≤ s.measure := by
  unfold SS.measure; rw [h.2]; exact Nat.add_le_add_right h.1 _

theorem WorkLe.measure_lt {s s' : SS} (h : WorkLe s s') (hlt : total s'.σ < total s.σ) : s'.measure < s.measure := by
  unfold SS.measure; rw [h.2]; exact Nat.add_lt_add_right hlt _

theorem WorkLe.tighten {s0 s' : SS} (x : Nat) (hσ : s'.σ = (tightenAt s0.σ x).2) (hun : s'.unproc = s0.unproc) :
    WorkLe s0 s' ∧ ((tightenAt s0.σ x).1 = true → total s'.σ < total s0.σ) :=
  ⟨⟨hσ ▸ total_tightenAt_le s0.σ x, hun⟩, fun ht => by have := total_tightenAt_true ht; rw [hσ]; omega⟩

theorem lenOne_le (s : SS) : WorkLe s (lenOne s) := by
  unfold lenOne
  split
  · split
    · exact WorkLe.refl s
    · rename_i x _
      dsimp only
      have le := total_tightenAt_le s.σ x
      split
      · exact ⟨le, rfl⟩
      · split
        · have sm := pushT_same { s with σ := (tightenAt s.σ x).2, u := Heap.empty } x
          exact (WorkLe.tighten x sm.1 sm.2).1
        · exact ⟨le, rfl⟩
  · exact WorkLe.refl s

theorem intake_none {s : SS} (h : s.unproc = none) : intake s = (none, s) := by
  unfold intake; rw [h]

theorem intake_lt {s : SS} {l : List Nat} (h : s.unproc = some l) : (intake s).2.measure < s.measure := by
  have hm : s.measure = total s.σ + (l.length + 1) := by rw [SS.measure, h]
  unfold intake
  rw [h]
  cases l with
  | nil => rw [hm]; exact Nat.lt_succ_self _
  | cons k ks =>
    dsimp only
    split
    · rw [hm]; exact Nat.lt_succ_self _
    · split
      · rw [(pushByDef_same _ k).measure, hm]
        exact Nat.add_lt_add_left (Nat.succ_pos _) _
      · rw [(pushByDef_same _ k).measure, hm]; exact Nat.lt_succ_self _

theorem tbFin_cases (start : Range) (s : SS) (tg : Bool) :
    (boundsMoved start s = true ∧ tbFin start s tg = .ret true s) ∨
    (boundsMoved start s = false ∧ s.unproc = none ∧ tg = false ∧ tbFin start s tg = .ret false s) ∨
    (boundsMoved start s = false ∧ (s.unproc.isSome = true ∨ tg = true) ∧ tbFin start s tg = .cont s) := by
  unfold tbFin
  cases hm : boundsMoved start s
  · cases hu : s.unproc <;> cases tg <;> simp
  · exact .inl ⟨rfl, rfl⟩

/-- the ways the body of an iteration can go; `s1` is the state after the `len == 1` block.  The last three are the
model's `unsupported` exits: no best match at the goal, no minimum node, a node that refuses to tighten. -/
theorem tbBody_cases (sel : Sel) (start : Range) (s : SS) :
    (s.u.isEmpty = true ∧ tbBody sel start s = tbFin start s false) ∨
    ∃ s1, ¬ s.u.isEmpty = true ∧ (if s.unproc.isNone = true then lenOne s else s) = s1 ∧
      ((∃ best, (s.unproc.isNone && goalTest s1) = true ∧ bestMatch s1 = some best ∧
          tbBody sel start s = .ret (tightenAt s1.σ best).1
            (pushByDef { s1 with σ := (tightenAt s1.σ best).2, u := Heap.empty, t := Heap.empty } best)) ∨
       (∃ node, ¬ (s.unproc.isNone && goalTest s1) = true ∧ s1.u.min = some node ∧
          (tightenAt s1.σ node.item).1 = true ∧ tbBody sel start s =
            tbFin start (updateBounds sel { s1 with σ := (tightenAt s1.σ node.item).2 } node) true) ∨
       ((s.unproc.isNone && goalTest s1) = true ∧ bestMatch s1 = none ∧
          tbBody sel start s = .ret false { s1 with unsupported := true }) ∨
       (¬ (s.unproc.isNone && goalTest s1) = true ∧ s1.u.min = none ∧
          tbBody sel start s = .ret false { s1 with unsupported := true }) ∨
       (∃ node, ¬ (s.unproc.isNone && goalTest s1) = true ∧ s1.u.min = some node ∧
          ¬ (tightenAt s1.σ node.item).1 = true ∧
          tbBody sel start s = .ret false { s1 with σ := (tightenAt s1.σ node.item).2, unsupported := true })) := by
  generalize hr : tbBody sel start s = r
  unfold tbBody at hr
  split at hr
  · rename_i hemp
    exact .inl ⟨hemp, hr.symm⟩
  · rename_i hemp
    dsimp only at hr
    generalize hs1 : (if s.unproc.isNone = true then lenOne s else s) = s1 at hr
    refine .inr ⟨s1, hemp, rfl, ?_⟩
    split at hr
    · rename_i hgoal
      split at hr
      · rename_i hb
        exact .inr (.inr (.inl ⟨hgoal, hb, hr.symm⟩))
      · rename_i best hb
        exact .inl ⟨best, hgoal, hb, hr.symm⟩
    · rename_i hgoal
      split at hr
      · rename_i hm
        exact .inr (.inr (.inr (.inl ⟨hgoal, hm, hr.symm⟩)))
      · rename_i node hm
        split at hr
        · rename_i ht
          exact .inr (.inl ⟨node, hgoal, hm, ht, hr.symm⟩)
        · rename_i ht
          exact .inr (.inr (.inr (.inr ⟨node, hgoal, hm, ht, hr.symm⟩)))

/-- what the termination argument needs of the body of an iteration from `s` -/
def BodyOK (start : Range) (s : SS) : StepRes → Prop
  | .cont s' => WorkLe s s' ∧ boundsMoved start s' = false ∧ (total s'.σ < total s.σ ∨ s.unproc.isSome = true)
  | .ret true s' => WorkLe s s' ∧ (total s'.σ < total s.σ ∨ (s' = s ∧ boundsMoved start s = true))
  | .ret false s' => WorkLe s s'

theorem BodyOK.le {start : Range} {s : SS} : ∀ {r : StepRes}, BodyOK start s r → WorkLe s r.st
  | .cont _, h => h.1
  | .ret true _, h => h.1
  | .ret false _, h => h

theorem tbFin_ok (start : Range) {s U : SS} {tg : Bool} (le : WorkLe s U) (prog : tg = true → total U.σ < total s.σ)
    (same : tg = false → U = s) : BodyOK start s (tbFin start U tg) := by
  rcases tbFin_cases start U tg with ⟨hm, e⟩ | ⟨_, _, _, e⟩ | ⟨hm, hp, e⟩ <;> rw [e]
  · cases tg
    · cases same rfl; exact ⟨le, .inr ⟨rfl, hm⟩⟩
    · exact ⟨le, .inl (prog rfl)⟩
  · exact le
  · exact ⟨le, hm, hp.elim (fun h => .inr (le.2 ▸ h)) fun h => .inl (prog h)⟩

theorem tbBody_spec (sel : Sel) (start : Range) (s : SS) : BodyOK start s (tbBody sel start s) := by
  rcases tbBody_cases sel start s with ⟨_, e⟩ | ⟨s1, _, hs1, hcase⟩
  · rw [e]; exact tbFin_ok start (WorkLe.refl s) (fun h => nomatch h) fun _ => rfl
  · have h1 : WorkLe s s1 := by
      rw [← hs1]; split
      · exact lenOne_le s
      · exact WorkLe.refl s
    rcases hcase with ⟨best, _, _, e⟩ | ⟨node, _, _, ht, e⟩ | ⟨_, _, e⟩ | ⟨_, _, e⟩ | ⟨node, _, _, _, e⟩ <;> rw [e]
    · -- goal reached: the best match is tightened once more
      have sm := pushByDef_same { s1 with σ := (tightenAt s1.σ best).2, u := Heap.empty, t := Heap.empty } best
      obtain ⟨le, lt⟩ := WorkLe.tighten (s0 := s1) best sm.1 sm.2
      cases ht : (tightenAt s1.σ best).1
      · exact h1.trans le
      · exact ⟨h1.trans le, .inl (Nat.lt_of_lt_of_le (lt ht) h1.1)⟩
    · -- the minimum untightened node is tightened and filed again
      have sm := updateBounds_same sel { s1 with σ := (tightenAt s1.σ node.item).2 } node
      obtain ⟨le, lt⟩ := WorkLe.tighten (s0 := s1) node.item sm.1 sm.2
      exact tbFin_ok start (h1.trans le) (fun _ => Nat.lt_of_lt_of_le (lt ht) h1.1) fun h => nomatch h
    · exact h1
    · exact h1
    · exact h1.trans ⟨total_tightenAt_le s1.σ node.item, rfl⟩

theorem tbIter_spec (sel : Sel) (start : Range) (s : SS) :
    (tbIter sel start s).st.measure ≤ s.measure ∧
    (∀ s', tbIter sel start s = .cont s' → boundsMoved start s' = false ∧ s'.measure < s.measure) ∧
    (∀ s', tbIter sel start s = .ret true s' → s'.measure < s.measure ∨ boundsMoved start s = true) := by
  cases hu : s.unproc with
  | none =>
    have ok := tbBody_spec sel start s
    rw [show tbIter sel start s = tbBody sel start s by unfold tbIter; rw [intake_none hu]]
    refine ⟨ok.le.measure, fun s' h => ?_, fun s' h => ?_⟩
    · rw [h] at ok
      exact ⟨ok.2.1, ok.1.measure_lt (ok.2.2.resolve_right (by simp [hu]))⟩
    · rw [h] at ok
      exact ok.2.imp ok.1.measure_lt (·.2)
  | some l =>
    -- the intake block made progress; whatever follows does not undo it
    have lt := intake_lt hu
    unfold tbIter
    generalize intake s = p at lt
    obtain ⟨ob, s1⟩ := p
    cases ob with
    | some b => exact ⟨Nat.le_of_lt lt, (fun _ h => nomatch h), fun _ h => by cases h; exact .inl lt⟩
    | none =>
      have ok := tbBody_spec sel start s1
      have lt' := Nat.lt_of_le_of_lt ok.le.measure lt
      refine ⟨Nat.le_of_lt lt', fun s' h => ?_, fun s' h => ?_⟩
      · have h : tbBody sel start s1 = .cont s' := h
        rw [h] at ok lt'
        exact ⟨ok.2.1, lt'⟩
      · exact .inl (by simp only [h] at lt'; exact lt')

theorem tbLoop_spec (sel : Sel) (start : Range) : ∀ (f : Nat) (s : SS), s.measure + 1 ≤ f →
    boundsMoved start s = false →
    ∃ b s', tbLoop sel start f s = some (b, s') ∧ s'.measure ≤ s.measure ∧ (b = true → s'.measure < s.measure) := by
  intro f
  induction f with
  | zero => intro s h; exact absurd h (Nat.not_succ_le_zero _)
  | succ f ih =>
    intro s hf hm
    obtain ⟨a1, a2, a3⟩ := tbIter_spec sel start s
    unfold tbLoop
    cases hres : tbIter sel start s with
    | ret b s' =>
      dsimp only
      refine ⟨b, s', rfl, by rw [hres] at a1; exact a1, ?_⟩
      intro hb; subst hb
      rcases a3 s' hres with p | p
      · exact p
      · rw [hm] at p; cases p
    | cont s' =>
      dsimp only
      obtain ⟨m, p⟩ := a2 s' hres
      obtain ⟨b, s'', e, l1, l2⟩ := ih s' (Nat.le_of_lt_succ (Nat.lt_of_lt_of_le (Nat.succ_lt_succ p) hf)) m
      exact ⟨b, s'', e, Nat.le_trans l1 (Nat.le_of_lt p), fun hb => Nat.lt_trans (l2 hb) p⟩

theorem boundsMoved_self (s : SS) : boundsMoved (boundsOf s) s = false := by
  simp [boundsMoved, Bound.lt_irrefl]

theorem tightenBounds_spec (sel : Sel) (s : SS) :
    ∃ b s', tightenBounds sel s = some (b, s') ∧ s'.measure ≤ s.measure ∧ (b = true → s'.measure < s.measure) :=
  tbLoop_spec sel (boundsOf s) _ s (Nat.le_refl _) (boundsMoved_self s)

theorem searchLoop_spec (sel : Sel) : ∀ (f : Nat) (s : SS), s.measure + 1 ≤ f →
    ∃ s', searchLoop sel f s = some s' ∧ s'.measure ≤ s.measure := by
  intro f
  induction f with
  | zero => intro s h; exact absurd h (Nat.not_succ_le_zero _)
  | succ f ih =>
    intro s hf
    obtain ⟨b, s', e, l1, l2⟩ := tightenBounds_spec sel s
    unfold searchLoop
    rw [e]
    cases b with
    | false => exact ⟨s', rfl, l1⟩
    | true =>
      dsimp only
      obtain ⟨s'', e', l⟩ := ih s' (Nat.le_of_lt_succ (Nat.lt_of_lt_of_le (Nat.succ_lt_succ (l2 rfl)) hf))
      exact ⟨s'', e', Nat.le_trans l l1⟩

theorem searchLoop_ind {sel : Sel} {P : SS → SS → Prop}
    (last : ∀ {s s'}, tightenBounds sel s = some (false, s') → P s s')
    (more : ∀ {s s1 s'}, tightenBounds sel s = some (true, s1) → P s1 s' → P s s') :
    ∀ (f : Nat) (s s' : SS), searchLoop sel f s = some s' → P s s'
  | 0, _, _, h => nomatch h
  | f + 1, s, s', h => by
    unfold searchLoop at h
    cases ht : tightenBounds sel s with
    | none => rw [ht] at h; cases h
    | some p =>
      obtain ⟨b, s1⟩ := p
      rw [ht] at h
      cases b with
      | true => exact more ht (searchLoop_ind last more f s1 s' h)
      | false => cases h; exact last ht

end GtModel.Bounded
