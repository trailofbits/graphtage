/-
  Unit-cost character matrices: the greedy (cost, path-length) rule of `EditDistance._best_match` computes exactly the
  optimal insert/delete distance `indel`, which is `|a| + |b| - 2·lcs a b`; `lcs` is specified independently as the
  maximum length of a common `List.Sublist` (`lcs_le`, `lcs_attained`).
-/
import GtModel.Proofs.EditMatrix

namespace GtModel.EditMatrix

variable {α : Type}

theorem take_succ_reverse (a : List α) (c : Nat) (h : c < a.length) :
    (a.take (c + 1)).reverse = a[c] :: (a.take c).reverse := by
  rw [List.take_succ_eq_append_getElem h]; simp

variable [DecidableEq α]

def IsCommonSubseq (s a b : List α) : Prop := s.Sublist a ∧ s.Sublist b

/-- Length of a longest common subsequence (see `lcs_le`, `lcs_attained`). -/
def lcs : List α → List α → Nat
  | [], _ => 0
  | _ :: _, [] => 0
  | x :: a, y :: b => if x = y then lcs a b + 1 else max (lcs a (y :: b)) (lcs (x :: a) b)
termination_by a b => a.length + b.length

/-- Optimal insert/delete distance (insert and remove cost 1, only equal characters can be matched). -/
def indel : List α → List α → Nat
  | [], b => b.length
  | x :: a, [] => a.length + 1
  | x :: a, y :: b => if x = y then indel a b else min (indel a (y :: b)) (indel (x :: a) b) + 1
termination_by a b => a.length + b.length

theorem lcs_nil_right (a : List α) : lcs a ([] : List α) = 0 := by
  cases a <;> simp [lcs]

theorem indel_nil_left (b : List α) : indel ([] : List α) b = b.length := by simp [indel]
theorem indel_nil_right (a : List α) : indel a ([] : List α) = a.length := by
  cases a <;> simp [indel]

theorem lcs_cons_cons (x y : α) (a b : List α) :
    lcs (x :: a) (y :: b) = if x = y then lcs a b + 1 else max (lcs a (y :: b)) (lcs (x :: a) b) := by
  rw [lcs]

theorem indel_cons_cons (x y : α) (a b : List α) :
    indel (x :: a) (y :: b) = if x = y then indel a b else min (indel a (y :: b)) (indel (x :: a) b) + 1 := by
  rw [indel]

theorem lcs_le (a b : List α) : ∀ s : List α, IsCommonSubseq s a b → s.length ≤ lcs a b := by
  fun_induction lcs a b with
  | case1 b => intro s ⟨h, _⟩; simp [List.sublist_nil.1 h]
  | case2 x a => intro s ⟨_, h⟩; simp [List.sublist_nil.1 h]
  | case3 a x b ih =>
    intro s ⟨h1, h2⟩
    have := ih s.tail ⟨h1.tail, h2.tail⟩
    rw [List.length_tail] at this
    omega
  | case4 x a y b hxy ih1 ih2 =>
    intro s ⟨h1, h2⟩
    rcases List.sublist_cons_iff.1 h1 with h | ⟨r, e, h⟩
    · have := ih1 s ⟨h, h2⟩; omega
    · subst e
      rcases List.sublist_cons_iff.1 h2 with h' | ⟨r', e', h'⟩
      · have := ih2 _ ⟨h1, h'⟩; omega
      · cases e'; exact absurd rfl hxy

theorem lcs_attained (a b : List α) : ∃ s : List α, IsCommonSubseq s a b ∧ s.length = lcs a b := by
  fun_induction lcs a b with
  | case1 b => exact ⟨[], ⟨by simp, by simp⟩, rfl⟩
  | case2 x a => exact ⟨[], ⟨by simp, by simp⟩, rfl⟩
  | case3 a x b ih =>
    obtain ⟨s, ⟨h1, h2⟩, hl⟩ := ih
    exact ⟨x :: s, ⟨h1.cons_cons x, h2.cons_cons x⟩, by simp [hl]⟩
  | case4 x a y b hxy ih1 ih2 =>
    obtain ⟨s1, ⟨h1, h2⟩, hl1⟩ := ih1
    obtain ⟨s2, ⟨h3, h4⟩, hl2⟩ := ih2
    by_cases hm : lcs a (y :: b) ≤ lcs (x :: a) b
    · exact ⟨s2, ⟨h3, h4.cons y⟩, by omega⟩
    · exact ⟨s1, ⟨h1.cons x, h2⟩, by omega⟩

/-- Comparing `lcs` of two pairs: a map of common subsequences to common subsequences that shortens by at most `k`. -/
theorem lcs_le_lcs_add {a b a' b' : List α} (f : List α → List α) (k : Nat)
    (hf : ∀ s, IsCommonSubseq s a b → IsCommonSubseq (f s) a' b') (hk : ∀ s, s.length ≤ (f s).length + k) :
    lcs a b ≤ lcs a' b' + k := by
  obtain ⟨s, hs, hl⟩ := lcs_attained a b
  have := lcs_le a' b' (f s) (hf s hs)
  have := hk s
  omega

theorem indel_add_lcs (a b : List α) : indel a b + 2 * lcs a b = a.length + b.length := by
  fun_induction lcs a b with
  | case1 b => simp [indel_nil_left]
  | case2 x a => simp [indel_nil_right]
  | case3 a x b ih => rw [indel_cons_cons, if_pos rfl]; simp only [List.length_cons]; omega
  | case4 x a y b hxy ih1 ih2 => rw [indel_cons_cons, if_neg hxy]; simp only [List.length_cons] at *; omega

theorem lcs_le_left (a b : List α) : lcs a b ≤ a.length := by
  obtain ⟨s, ⟨h, _⟩, e⟩ := lcs_attained a b
  rw [← e]; exact h.length_le

theorem lcs_le_right (a b : List α) : lcs a b ≤ b.length := by
  obtain ⟨s, ⟨_, h⟩, e⟩ := lcs_attained a b
  rw [← e]; exact h.length_le

theorem lcs_reverse (a b : List α) : lcs a.reverse b.reverse = lcs a b := by
  have h : ∀ a b : List α, lcs a b ≤ lcs a.reverse b.reverse := fun a b =>
    lcs_le_lcs_add List.reverse 0 (fun _ hs => ⟨hs.1.reverse, hs.2.reverse⟩) (fun _ => by simp)
  have := h a.reverse b.reverse
  rw [List.reverse_reverse, List.reverse_reverse] at this
  exact Nat.le_antisymm this (h a b)

theorem lcs_comm (a b : List α) : lcs a b = lcs b a := by
  have h : ∀ a b : List α, lcs a b ≤ lcs b a := fun a b =>
    lcs_le_lcs_add id 0 (fun _ hs => ⟨hs.2, hs.1⟩) (fun _ => Nat.le_refl _)
  exact Nat.le_antisymm (h a b) (h b a)

theorem indel_reverse (a b : List α) : indel a.reverse b.reverse = indel a b := by
  have h := indel_add_lcs a.reverse b.reverse
  have := indel_add_lcs a b
  rw [lcs_reverse, List.length_reverse, List.length_reverse] at h
  omega

theorem lcs_append_left (p a b : List α) : lcs (p ++ a) (p ++ b) = p.length + lcs a b := by
  induction p with
  | nil => simp
  | cons x p ih => simp [lcs_cons_cons, ih]; omega

theorem lcs_append_right (a b s : List α) : lcs (a ++ s) (b ++ s) = lcs a b + s.length := by
  rw [← lcs_reverse, List.reverse_append, List.reverse_append, lcs_append_left, lcs_reverse]
  simp; omega

theorem lcs_trim (p a b s : List α) : lcs (p ++ a ++ s) (p ++ b ++ s) = p.length + lcs a b + s.length := by
  rw [lcs_append_right, lcs_append_left]

theorem lcs_self (a : List α) : lcs a a = a.length := by
  have := lcs_append_left a ([] : List α) []
  simpa [lcs] using this

theorem indel_cons_left (x : α) (a b : List α) :
    indel (x :: a) b + 1 = indel a b ∨ indel (x :: a) b = indel a b + 1 := by
  have h1 : lcs a b ≤ lcs (x :: a) b :=
    lcs_le_lcs_add id 0 (fun _ hs => ⟨hs.1.cons x, hs.2⟩) (fun _ => Nat.le_refl _)
  have h2 : lcs (x :: a) b ≤ lcs a b + 1 :=
    lcs_le_lcs_add List.tail 1 (fun s hs => ⟨hs.1.tail, (List.tail_sublist s).trans hs.2⟩) (fun _ => by simp; omega)
  have := indel_add_lcs a b
  have := indel_add_lcs (x :: a) b
  rw [List.length_cons] at this
  omega

theorem indel_comm (a b : List α) : indel a b = indel b a := by
  have h1 := indel_add_lcs a b
  have h2 := indel_add_lcs b a
  rw [lcs_comm] at h1
  omega

theorem indel_cons_right (y : α) (a b : List α) :
    indel a (y :: b) + 1 = indel a b ∨ indel a (y :: b) = indel a b + 1 := by
  rw [indel_comm a (y :: b), indel_comm a b]; exact indel_cons_left y b a

theorem lexLe_of_ne {p q : Cell} (h : p.cost ≠ q.cost) : lexLe p q = true ↔ p.cost < q.cost := by
  simp [lexLe]; omega

/-- With both neighbours one off the diagonal value `D`, extending the cheaper one (the upper one on a tie) costs
    `D` as soon as one of them is below `D`, and `min L U + 1` in any case. -/
theorem greedy_unit {D L U : Nat} (hl : L + 1 = D ∨ L = D + 1) (hu : U + 1 = D ∨ U = D + 1) :
    (¬ (D < L ∧ D < U) → (if U < D then U + 1 else L + 1) = D) ∧
      (if U < D then U + 1 else L + 1) = min L U + 1 := by
  by_cases h : U < D <;> simp only [h, if_true, if_false] <;> omega

/-- The greedy rule with unit costs, where the left and the upper neighbour each differ from the diagonal one by
    exactly one: a free match is taken from the diagonal or costs as much, otherwise the cheaper neighbour is
    extended.  (Ties in cost never occur here, so the path lengths play no role.) -/
theorem step_unit (p : Prop) [Decidable p] (d l u : Cell)
    (hl : l.cost + 1 = d.cost ∨ l.cost = d.cost + 1) (hu : u.cost + 1 = d.cost ∨ u.cost = d.cost + 1) :
    (step 1 1 (if p then 0 else 1) d l u).cost = if p then d.cost else min l.cost u.cost + 1 := by
  have hdl : d.cost ≠ l.cost := by omega
  have hdu : d.cost ≠ u.cost := by omega
  obtain ⟨g1, g2⟩ := greedy_unit hl hu
  simp only [step, Bool.and_eq_true, decide_eq_true_eq, lexLe_of_ne hdl, lexLe_of_ne hdu, lexLe_of_ne hdu.symm,
    apply_ite Cell.cost, goUp_cost, goLeft_cost, goDiag_cost]
  by_cases hp : p
  · simp only [hp, if_true, Nat.lt_one_iff, and_true, Nat.add_zero]
    split
    · rfl
    · exact g1 ‹_›
  · simpa [hp] using g2

/-- Cell (r, c) of the unit-cost character matrix holds the optimal insert/delete distance between the prefixes
    `a[:c]` and `b[:r]` (stated on the reversed prefixes, which is how the recurrence peels characters). -/
theorem spec_unit_cost (a b : List α) (r c : Nat) (hr : r ≤ b.length) (hc : c ≤ a.length) :
    (spec (ones a) (ones b) (charCells a b) r c).cost = indel (a.take c).reverse (b.take r).reverse := by
  fun_induction spec (ones a) (ones b) (charCells a b) r c with
  | case1 => simp [indel]
  | case2 c ih =>
    rw [ones_getD a c hc, goLeft_cost, ih hr (Nat.le_of_lt hc)]
    simp [indel_nil_right]; omega
  | case3 r ih =>
    rw [ones_getD b r hr, goUp_cost, ih (Nat.le_of_lt hr) hc]
    simp [indel_nil_left]; omega
  | case4 r c ihd ihl ihu =>
    have ed := ihd (Nat.le_of_lt hr) (Nat.le_of_lt hc)
    have el := ihl hr (Nat.le_of_lt hc)
    have eu := ihu (Nat.le_of_lt hr) hc
    rw [take_succ_reverse b r hr] at el
    rw [take_succ_reverse a c hc] at eu
    rw [ones_getD a c hc, ones_getD b r hr, cellAt_charCells a b r c hr hc, take_succ_reverse b r hr,
      take_succ_reverse a c hc, indel_cons_cons, ← ed, ← el, ← eu]
    apply step_unit
    · rw [el, ed]; exact indel_cons_right ..
    · rw [eu, ed]; exact indel_cons_left ..

theorem solve_unit_cost (a b : List α) :
    (solve (ones a) (ones b) (charCells a b)).1 = indel a b := by
  rw [solve_eq_spec]
  simp only [ones_length]
  rw [spec_unit_cost a b _ _ (Nat.le_refl _) (Nat.le_refl _)]
  simp [indel_reverse]

theorem solve_unit_cost_lcs (a b : List α) :
    (solve (ones a) (ones b) (charCells a b)).1 + 2 * lcs a b = a.length + b.length := by
  rw [solve_unit_cost]; exact indel_add_lcs a b

end GtModel.EditMatrix
