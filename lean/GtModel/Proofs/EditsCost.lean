/-
  C03: cost bookkeeping of the script produced by `edits`.
  `Script.CostOK`: every compound node reports exactly the sum of its sub-edits, at every level.
  `flatSum`: the sum over the flat edit list of `TreeNode.get_all_edit_contexts`.
  `PosAtom`: a positive cost sits on some atomic edit (`posAtom_of_costOK`).
-/
import GtModel.Proofs.EditsParts
namespace GtModel
open List
open GtModel.EditMatrix

mutual
/-- a node with sub-edits reports the sum of their costs (recursively); a leaf edit has no sub-edits -/
def Script.CostOK : Script → Prop
  | .mk k _ _ c subs => (if k.hasSubs then c = sumCosts subs else subs = []) ∧ CostOKL subs
def CostOKL : List Script → Prop
  | [] => True
  | s :: rest => s.CostOK ∧ CostOKL rest
end

theorem costOKL_iff (l : List Script) : CostOKL l ↔ ∀ s ∈ l, s.CostOK := by
  induction l with
  | nil => simp [CostOKL]
  | cons s l ih => simp [CostOKL, ih]

theorem Script.costOK_iff (s : Script) :
    s.CostOK ↔ (if s.kind.hasSubs then s.cost = sumCosts s.subs else s.subs = []) ∧ ∀ x ∈ s.subs, x.CostOK := by
  cases s; simp only [Script.CostOK, costOKL_iff, Script.kind_mk, Script.cost_mk, Script.subs_mk]
  exact Iff.rfl

@[simp] theorem costOK_mkMatch (c : Nat) : (mkMatch c).CostOK := by simp [mkMatch, Script.CostOK, Kind.hasSubs, CostOKL]
@[simp] theorem costOK_mkReplace (a b : Nat) : (mkReplace a b).CostOK := by simp [mkReplace, Script.CostOK, Kind.hasSubs, CostOKL]
@[simp] theorem costOK_mkRemove (i s p : Nat) : (mkRemove i s p).CostOK := by simp [mkRemove, Script.CostOK, Kind.hasSubs, CostOKL]
@[simp] theorem costOK_mkInsert (i s p : Nat) : (mkInsert i s p).CostOK := by simp [mkInsert, Script.CostOK, Kind.hasSubs, CostOKL]
@[simp] theorem costOK_relabel (s : Script) (f t : Ix) : (s.relabel f t).CostOK ↔ s.CostOK := by
  cases s; simp [Script.relabel, Script.CostOK]

theorem costOK_mkCompound (k : Kind) (subs : List Script) (hk : k.hasSubs = true) (h : ∀ s ∈ subs, s.CostOK) :
    (mkCompound k subs).CostOK := by
  simp [mkCompound, Script.CostOK, hk, costOKL_iff]; exact h

theorem Script.Flat.costOK {s : Script} (h : s.Flat) : s.CostOK := by
  rw [Script.costOK_iff, h.1, h.2]; exact ⟨rfl, fun _ hx => nomatch hx⟩

theorem sum_map_zero {α : Type} (l : List α) (w : α → Nat) (h : ∀ a, w a = 0) : (l.map w).sum = 0 := by
  induction l <;> simp [*]

/-- The sub-edits of an `EditDistance` / `StringEdit` over any script type: matches of the shared prefix, one edit per
    move of the matrix path, matches of the shared suffix.  If the matches are free and every move's edit costs what the
    matrix charged for the move, the costs add up to the matrix total. -/
theorem threeSeg_sum {σ : Type} (cost : σ → Nat) (A B : Nat → σ) (g : Move × Nat × Nat → σ) (p s : Nat)
    (rem ins : List Nat) (cells : List (List Nat)) (hA : ∀ k, cost (A k) = 0) (hB : ∀ k, cost (B k) = 0)
    (hg : ∀ x ∈ located (solve rem ins cells).2, cost (g x) = moveCost rem ins cells x.2.1 x.2.2 x.1) :
    (((List.range p).map A ++ (located (solve rem ins cells).2).map g ++ (List.range s).map B).map cost).sum
      = (solve rem ins cells).1 := by
  simp only [List.map_append, List.map_map, List.sum_append]
  rw [sum_map_zero _ (cost ∘ A) hA, sum_map_zero _ (cost ∘ B) hB, sum_located rem ins cells (cost ∘ g) hg, Nat.zero_add,
    Nat.add_zero]

theorem moveCost_tabulate {α : Type} (mf mt : List α) (sz : α → Nat) (f : Nat → Nat → Nat) (d : α)
    (x : Move × Nat × Nat)
    (hx : x ∈ located (solve (mf.map sz) (mt.map sz)
      ((List.range mt.length).map fun r => (List.range mf.length).map fun c => f r c)).2) :
    moveCost (mf.map sz) (mt.map sz) ((List.range mt.length).map fun r => (List.range mf.length).map fun c => f r c)
        x.2.1 x.2.2 x.1 =
      match x.1 with
      | .diag => f x.2.1 x.2.2
      | .up => sz (mt.getD x.2.1 d)
      | .left => sz (mf.getD x.2.2 d) := by
  obtain ⟨m, r, c⟩ := x
  have hr := solve_located_inRange _ _ _ _ hx
  simp only [List.length_map] at hr
  cases m
  · have h1 := hr.1 Move.noConfusion
    have h2 := hr.2 Move.noConfusion
    simp [moveCost, cellAt, List.getD_eq_getElem?_getD, h1, h2]
  · have := hr.1 Move.noConfusion
    simp [moveCost, List.getD_eq_getElem?_getD, this]
  · have := hr.2 Move.noConfusion
    simp [moveCost, List.getD_eq_getElem?_getD, this]

theorem strSubs_sum (a b : Str) : sumCosts (strSubs a b).1 = (strSubs a b).2 := by
  refine threeSeg_sum Script.cost _ _ _ _ _ _ _ _ (fun _ => rfl) (fun _ => rfl) ?_
  rintro ⟨m, r, c⟩ hx
  have hr := solve_located_inRange _ _ _ _ hx
  simp only [ones, List.length_map] at hr
  cases m
  · simp only [moveCost]
    have h1 := hr.1 Move.noConfusion
    have h2 := hr.2 Move.noConfusion
    rw [cellAt_charCells _ _ _ _ h1 h2, getD_eq_getElem _ _ h1, getD_eq_getElem _ _ h2]
    simp only [mkMatch_cost, Script.relabel_cost, beq_iff_eq]
  · have := hr.1 Move.noConfusion
    simp [moveCost, ones, List.getD_eq_getElem?_getD, this]
  · have := hr.2 Move.noConfusion
    simp [moveCost, ones, List.getD_eq_getElem?_getD, this]

theorem strSubs_flat (a b : Str) : ∀ s ∈ (strSubs a b).1, s.Flat := by
  intro s hs
  simp only [strSubs, List.mem_append, List.mem_map] at hs
  rcases hs with (⟨k, _, rfl⟩ | ⟨⟨m, r, c⟩, _, rfl⟩) | ⟨k, _, rfl⟩
  · exact ⟨rfl, rfl⟩
  · cases m <;> exact ⟨rfl, rfl⟩
  · exact ⟨rfl, rfl⟩

theorem costOK_strEdits (a b : Str) : (strEdits a b).CostOK := by
  unfold strEdits
  split
  · simp
  · split
    · simp
    · rw [Script.costOK_iff]
      simp only [Script.kind_mk, Kind.hasSubs, if_true, Script.cost_mk, Script.subs_mk]
      exact ⟨(strSubs_sum a b).symm, fun s hs => (strSubs_flat a b s hs).costOK⟩

theorem costOK_leafEdits (a : Scalar) (t : Tree) : (leafEdits a t).CostOK := by
  unfold leafEdits
  split <;> simp [leafLeaf, costOK_strEdits]

theorem costOK_kvpScript (fk tk : Str) (ve : Bool) (v : Script) (hv : v.CostOK) : (kvpScript fk tk ve v).CostOK := by
  unfold kvpScript
  apply costOK_mkCompound _ _ rfl
  intro s hs
  simp only [List.mem_cons, List.mem_nil_iff, or_false] at hs
  rcases hs with rfl | rfl
  · split <;> simp [costOK_strEdits]
  · split <;> simp [hv]

theorem edScript_sum (fcs tcs : List Tree) (pen : Nat) (tbl : List (List Script)) :
    (edScript fcs tcs pen tbl).cost = sumCosts (edScript fcs tcs pen tbl).subs := by
  refine (threeSeg_sum Script.cost _ _ _ _ _ _ _ _ (fun _ => rfl) (fun _ => rfl) fun x hx => ?_).symm
  rw [moveCost_tabulate _ _ _ _ (.leaf .null) x hx]
  obtain ⟨m, r, c⟩ := x
  cases m <;> rfl

theorem SubForm.costOK {eqAt pairAt : Nat → Nat → Prop} {cell : Nat → Nat → Script} {M : List Nat} {s : Script}
    (h : SubForm eqAt pairAt cell M s) (hc : ∀ i j, pairAt i j → (cell i j).CostOK) : s.CostOK := by
  rcases h.flat_or_cell with h | ⟨i, j, hij, rfl⟩
  · exact h.costOK
  · exact hc i j hij

/-- C03(a) on the model: every node of the script reports the sum of its parts -/
theorem costOK_edits (o : Opts) (orc : Oracle) (f : Tree) (fp tp : List Nat) (t : Tree) :
    (edits o orc fp tp f t).CostOK :=
  edits_ind treeInv_true (P := fun _ _ s => s.CostOK) o orc (fun a t => costOK_leafEdits a t)
    (fun _ _ _ _ _ => costOK_mkMatch 0) (fun _ _ _ _ => costOK_mkReplace _ _)
    (fun _ _ _ _ _ _ _ _ hc => costOK_mkCompound _ _ rfl fun _ hs =>
      (subForm_fixedScript hs).costOK fun i j h => (costOK_relabel ..).2 (hc i j h.1 h.2))
    (fun _ _ _ _ _ _ _ hc => (Script.costOK_iff _).2 ⟨edScript_sum .., fun _ hs =>
      (subForm_edScript hs).costOK fun i j h => (costOK_relabel ..).2 (hc i j h.1 h.2)⟩)
    (fun _ _ _ _ _ _ _ hc => costOK_mkCompound _ _ rfl fun _ hs =>
      (subForm_msScript hs).costOK fun i j h => (costOK_relabel ..).2 (costOK_kvpScript _ _ _ _ (hc i j h.1 h.2)))
    (fun _ _ _ _ _ _ _ hc => costOK_mkCompound _ _ rfl fun _ hs =>
      (subForm_fkScript hs).costOK fun i j h => (costOK_relabel ..).2 (costOK_kvpScript _ _ _ _ (hc i j h.1 h.2.1)))
    f fp tp t trivial trivial

/-- `isinstance(edit, CompoundEdit)`: `StringEdit` is NOT a `CompoundEdit` -/
def Kind.isCompoundEdit : Kind → Bool
  | .kvp | .fixed | .ed | .ms | .fk => true
  | _ => false

mutual
/-- the edits `get_all_edit_contexts` yields: compound edits are exploded (depth first, in order), every other
    edit is yielded iff its cost is positive -/
def flatEdits : Script → List Script
  | .mk k f t c subs => if k.isCompoundEdit then flatEditsL subs else if c > 0 then [.mk k f t c subs] else []
def flatEditsL : List Script → List Script
  | [] => []
  | s :: rest => flatEdits s ++ flatEditsL rest
end

/-- what `get_all_edits` sums to -/
def flatSum (s : Script) : Nat := sumCosts (flatEdits s)

/-- `EditedTreeNode.edited_cost()` of the annotated root: the root carries exactly one edit, the root edit -/
def editedCost (s : Script) : Nat := s.cost

mutual
theorem flatSum_eq_cost : ∀ (s : Script), s.CostOK → sumCosts (flatEdits s) = s.cost
  | .mk k f t c subs, h => by
    simp only [Script.CostOK] at h
    simp only [flatEdits]
    by_cases hk : k.isCompoundEdit = true
    · have hs : k.hasSubs = true := by cases k <;> simp_all [Kind.isCompoundEdit, Kind.hasSubs]
      simp only [hk, hs, if_true] at h ⊢
      rw [flatSumL_eq_cost subs h.2, Script.cost_mk, h.1]
    · simp only [hk, Bool.false_eq_true, if_false]
      by_cases hc : c > 0
      · simp [hc]
      · simp [hc]; omega
theorem flatSumL_eq_cost : ∀ (l : List Script), CostOKL l → sumCosts (flatEditsL l) = sumCosts l
  | [], _ => rfl
  | s :: rest, h => by
    simp only [CostOKL] at h
    simp only [flatEditsL, sumCosts_append, sumCosts_cons, flatSum_eq_cost s h.1, flatSumL_eq_cost rest h.2]
end

/-! A script of positive cost contains an atomic edit (match / replace / remove / insert) of positive cost: every
  compound node reports the sum of its sub-edits (`CostOK`), so a positive sum has a positive summand, and so on
  downwards (C02). -/

def Kind.atomic : Kind → Bool
  | .match_ | .replace | .remove | .insert => true
  | _ => false

/-- the script contains (at any depth below compound nodes) an atomic edit of positive cost -/
inductive PosAtom : Script → Prop
  | here {s : Script} : s.kind.atomic = true → 0 < s.cost → PosAtom s
  | sub {s s' : Script} : s.kind.atomic = false → s' ∈ s.subs → PosAtom s' → PosAtom s

theorem Kind.atomic_eq (k : Kind) : k.atomic = !k.hasSubs := by cases k <;> rfl

mutual
theorem posAtom_of_costOK : ∀ (s : Script), s.CostOK → 0 < s.cost → PosAtom s
  | .mk k f t c subs, h, hc => by
    rw [Script.CostOK] at h
    cases hk : k.hasSubs with
    | false => exact .here (by rw [Script.kind, Kind.atomic_eq, hk]; rfl) hc
    | true =>
      rw [hk, if_pos rfl] at h
      obtain ⟨s', hm, hp⟩ := posAtomL_of_costOK subs h.2 (h.1 ▸ hc)
      exact .sub (by rw [Script.kind, Kind.atomic_eq, hk]; rfl) hm hp
theorem posAtomL_of_costOK : ∀ (l : List Script), CostOKL l → 0 < sumCosts l → ∃ s ∈ l, PosAtom s
  | [], _, hc => absurd hc (Nat.lt_irrefl 0)
  | s :: rest, h, hc => by
    rw [CostOKL] at h
    rw [sumCosts_cons] at hc
    by_cases hs : 0 < s.cost
    · exact ⟨s, List.mem_cons_self, posAtom_of_costOK s h.1 hs⟩
    · obtain ⟨s', hm, hp⟩ := posAtomL_of_costOK rest h.2 (by omega)
      exact ⟨s', List.mem_cons_of_mem _ hm, hp⟩
end

end GtModel
