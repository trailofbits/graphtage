/-
  Walking a script together with the two documents it relates: `Walk P a b s` states `P` for the node pair (a, b) and
  the root of `s`, and recursively for every sub-edit with sub-edits, linked to the children its indices name.
  `walk_edits`: to prove `Walk P` for `edits …` it suffices to prove `P` for the root of every `edits … f t` and for every
  `kvpScript`.  Also `Tree.KeysDistinct` (no mapping holds a key twice), the hypothesis of C01 / C06 and the usual `TreeInv`.
-/
import GtModel.Proofs.EditsCost
import GtModel.Proofs.EditsPerm
namespace GtModel
open List
open GtModel.EditMatrix

attribute [-simp] List.getD_eq_getElem?_getD

/-- the things an edit can relate: tree nodes, key/value pairs of a mapping, characters of a string -/
inductive Nd where
  | tree (t : Tree)
  | kv (k : Str) (v : Tree)
  | chr (c : Nat)

def Nd.children : Nd → List Nd
  | .tree (.leaf (.str s)) => s.map .chr
  | .tree (.leaf _) => []
  | .tree (.list cs) => cs.map .tree
  | .tree (.dict kvs) => kvs.map fun kv => .kv kv.1 kv.2
  | .tree (.fdict kvs) => kvs.map fun kv => .kv kv.1 kv.2
  | .kv k v => [.tree (.leaf (.str k)), .tree v]
  | .chr _ => []

/-- resolution of identity matches (`ti = same`): only `MultiSetEdit` (two `DictNode`s) emits them -/
def resolveSame : Nd → Nd → Ix → Ix
  | .tree (.dict fkv), .tree (.dict tkv), ix => keyResolve fkv tkv ix
  | _, _, _ => .none

mutual
def Walk (P : Nd → Nd → Kind → List Script → Prop) : Nd → Nd → Script → Prop
  | a, b, .mk k _ _ _ subs => P a b k subs ∧ WalkL P a b subs
def WalkL (P : Nd → Nd → Kind → List Script → Prop) : Nd → Nd → List Script → Prop
  | _, _, [] => True
  | a, b, s :: rest =>
      (s.kind.hasSubs = true → ∃ i j x y, s.fi = .at i ∧ toIxOf (resolveSame a b) s = .at j ∧
          a.children[i]? = some x ∧ b.children[j]? = some y ∧ Walk P x y s)
        ∧ WalkL P a b rest
end

variable {P : Nd → Nd → Kind → List Script → Prop}

theorem walk_iff (a b : Nd) (s : Script) : Walk P a b s ↔ P a b s.kind s.subs ∧ WalkL P a b s.subs := by
  cases s; simp [Walk]

theorem walkL_iff (a b : Nd) (l : List Script) : WalkL P a b l ↔ ∀ s ∈ l, s.kind.hasSubs = true →
    ∃ i j x y, s.fi = .at i ∧ toIxOf (resolveSame a b) s = .at j ∧
      a.children[i]? = some x ∧ b.children[j]? = some y ∧ Walk P x y s := by
  induction l with
  | nil => exact ⟨fun _ _ h => (nomatch h), fun _ => trivial⟩
  | cons s l ih => rw [List.forall_mem_cons, ← ih]; exact Iff.rfl

theorem walk_relabel (a b : Nd) (s : Script) (f t : Ix) : Walk P a b (s.relabel f t) ↔ Walk P a b s := by
  rw [walk_iff, walk_iff]; simp

theorem walk_leafKind (a b : Nd) (s : Script) (hs : s.subs = []) : Walk P a b s ↔ P a b s.kind [] := by
  rw [walk_iff, hs]; simp [WalkL]

theorem walkL_of_flat (a b : Nd) (l : List Script) (h : ∀ s ∈ l, s.Flat) : WalkL P a b l := by
  rw [walkL_iff]; intro s hs hk; rw [(h s hs).1] at hk; cases hk

theorem strEdits_subs_flat (a b : Str) : ∀ s ∈ (strEdits a b).subs, s.Flat := by
  unfold strEdits
  split
  · nofun
  · split
    · nofun
    · exact strSubs_flat a b

theorem leafEdits_subs_flat (a : Scalar) (t : Tree) : ∀ s ∈ (leafEdits a t).subs, s.Flat := by
  unfold leafEdits
  split <;> first | exact strEdits_subs_flat _ _ | nofun

mutual
def Tree.keysDistinct : Tree → Bool
  | .leaf _ => true
  | .list cs => kdL cs
  | .dict kvs => decide ((kvs.map Prod.fst).Nodup) && kdKV kvs
  | .fdict kvs => decide ((kvs.map Prod.fst).Nodup) && kdKV kvs
def kdL : List Tree → Bool
  | [] => true
  | c :: cs => c.keysDistinct && kdL cs
def kdKV : List (Str × Tree) → Bool
  | [] => true
  | (_, v) :: rest => v.keysDistinct && kdKV rest
end

/-- within every mapping of the tree, no key occurs twice (true of every tree built from a Python `dict`) -/
abbrev Tree.KeysDistinct (t : Tree) : Prop := t.keysDistinct = true

theorem kdL_iff (cs : List Tree) : kdL cs = true ↔ ∀ c ∈ cs, c.KeysDistinct := by
  induction cs with
  | nil => simp [kdL]
  | cons c cs ih => simp [kdL, ih]

theorem kdKV_iff (kvs : List (Str × Tree)) : kdKV kvs = true ↔ ∀ kv ∈ kvs, kv.2.KeysDistinct := by
  induction kvs with
  | nil => simp [kdKV]
  | cons kv kvs ih => obtain ⟨k, v⟩ := kv; simp [kdKV, ih]

theorem kd_list (cs : List Tree) : (Tree.list cs).KeysDistinct ↔ ∀ c ∈ cs, c.KeysDistinct := by
  simp [Tree.KeysDistinct, Tree.keysDistinct, kdL_iff]
theorem kd_dict (kvs : List (Str × Tree)) :
    (Tree.dict kvs).KeysDistinct ↔ (keys kvs).Nodup ∧ ∀ kv ∈ kvs, kv.2.KeysDistinct := by
  simp [Tree.KeysDistinct, Tree.keysDistinct, kdKV_iff, keys]
theorem kd_fdict (kvs : List (Str × Tree)) :
    (Tree.fdict kvs).KeysDistinct ↔ (keys kvs).Nodup ∧ ∀ kv ∈ kvs, kv.2.KeysDistinct := by
  simp [Tree.KeysDistinct, Tree.keysDistinct, kdKV_iff, keys]

theorem treeInv_kd : TreeInv Tree.KeysDistinct :=
  ⟨fun _ => rfl, fun cs h => (kd_list cs).1 h, fun kvs h => ((kd_dict kvs).1 h).2, fun kvs h => ((kd_fdict kvs).1 h).2⟩

section
variable (o : Opts) (orc : Oracle) {Inv : Tree → Prop} (hI : TreeInv Inv)
variable (hE : ∀ fp tp f t, Inv f → Inv t →
    P (.tree f) (.tree t) (edits o orc fp tp f t).kind (edits o orc fp tp f t).subs)
variable (hK : ∀ fp tp k v k' v', Inv v → Inv v' →
    P (.kv k v) (.kv k' v') .kvp (kvpScript k k' (v.eq v') (edits o orc fp tp v v')).subs)
include hI hE hK

omit hK in
theorem walk_leaf (fp tp : List Nat) (a : Scalar) (t : Tree) (ht : Inv t) :
    Walk P (.tree (.leaf a)) (.tree t) (edits o orc fp tp (.leaf a) t) := by
  rw [walk_iff]
  refine ⟨hE fp tp _ _ (hI.leaf _) ht, walkL_of_flat _ _ _ ?_⟩
  rw [edits_leaf]; exact leafEdits_subs_flat a t

theorem walk_kvp (fp tp : List Nat) (k k' : Str) (v v' : Tree) (hv : Inv v) (hv' : Inv v')
    (ih : Walk P (.tree v) (.tree v') (edits o orc fp tp v v')) :
    Walk P (.kv k v) (.kv k' v') (kvpScript k k' (v.eq v') (edits o orc fp tp v v')) := by
  rw [walk_iff]
  refine ⟨hK fp tp k v k' v' hv hv', ?_⟩
  rw [walkL_iff]
  intro s hs hsub
  simp only [kvpScript, mkCompound_subs, List.mem_cons, List.mem_nil_iff, or_false] at hs
  rcases hs with rfl | rfl
  · refine ⟨0, 0, .tree (.leaf (.str k)), .tree (.leaf (.str k')), rfl, ?_, rfl, rfl, ?_⟩
    · apply toIxOf_relabel_at
      split
      · simp
      · exact (Kind.isTop_ne (strEdits_kind_top _ _)).1
    · rw [walk_relabel]
      split
      · rename_i h; simp [h, Kind.hasSubs] at hsub
      · have := walk_leaf o orc hI hE [] [] (.str k) (.leaf (.str k')) (hI.leaf _)
        rw [edits_leaf] at this
        exact this
  · refine ⟨1, 1, .tree v, .tree v', rfl, ?_, rfl, rfl, ?_⟩
    · apply toIxOf_relabel_at
      split
      · simp
      · exact (Kind.isTop_ne (edits_kind_top ..)).1
    · rw [walk_relabel]
      split
      · rename_i h; simp [h, Kind.hasSubs] at hsub
      · exact ih

omit hK in
theorem walkL_list (fp tp : List Nat) (fcs tcs : List Tree) (l : List Script)
    (hf : Inv (.list fcs)) (ht : Inv (.list tcs))
    (hc : Cells (fun f t s => WalkL P (.tree f) (.tree t) s.subs) fcs tcs id id (listTbl o orc fp tp fcs tcs))
    {eqAt : Nat → Nat → Prop} {M : List Nat}
    (hl : ∀ s ∈ l, SubForm eqAt (fun i j => i < fcs.length ∧ j < tcs.length)
      (fun i j => (((listTbl o orc fp tp fcs tcs).getD i []).getD j (mkMatch 0)).relabel (.at i) (.at j)) M s) :
    WalkL P (.tree (.list fcs)) (.tree (.list tcs)) l := by
  rw [walkL_iff]
  intro s hs hsub
  rcases (hl s hs).flat_or_cell with hflat | ⟨i, j, ⟨hi, hj⟩, rfl⟩
  · rw [hflat.1] at hsub; cases hsub
  · refine ⟨i, j, .tree fcs[i], .tree tcs[j], rfl,
      toIxOf_relabel_at _ _ _ _ (Kind.isTop_ne (listTbl_top o orc fp tp fcs tcs i j)).1,
      by simp [Nd.children, hi], by simp [Nd.children, hj], ?_⟩
    rw [walk_relabel, walk_iff]
    refine ⟨?_, hc i j hi hj⟩
    rw [listTbl_getD _ _ _ _ _ _ _ _ _ hi hj]
    exact hE _ _ _ _ (hI.list _ hf _ (List.getElem_mem hi)) (hI.list _ ht _ (List.getElem_mem hj))

theorem walkL_kvs (fp tp : List Nat) (fkv tkv : List (Str × Tree)) (a b : Nd) (l : List Script)
    (ha : a.children = fkv.map fun kv => .kv kv.1 kv.2) (hb : b.children = tkv.map fun kv => .kv kv.1 kv.2)
    (hf : ∀ kv ∈ fkv, Inv kv.2) (ht : ∀ kv ∈ tkv, Inv kv.2)
    (hc : Cells (fun f t s => WalkL P (.tree f) (.tree t) s.subs) fkv tkv Prod.snd Prod.snd (kvTbl o orc fp tp fkv tkv))
    {eqAt pairAt : Nat → Nat → Prop} {M : List Nat}
    (hl : ∀ s ∈ l, SubForm eqAt pairAt (msKvE fkv tkv (kvTbl o orc fp tp fkv tkv)) M s)
    (hr : ∀ i j, pairAt i j → i < fkv.length ∧ j < tkv.length) :
    WalkL P a b l := by
  rw [walkL_iff]
  intro s hs hsub
  rcases (hl s hs).flat_or_cell with hflat | ⟨i, j, hij, rfl⟩
  · rw [hflat.1] at hsub; cases hsub
  · obtain ⟨hi, hj⟩ := hr i j hij
    have hi' := hf _ (List.getElem_mem hi)
    have hj' := ht _ (List.getElem_mem hj)
    refine ⟨i, j, .kv fkv[i].1 fkv[i].2, .kv tkv[j].1 tkv[j].2, msKvE_fi ..,
      toIxOf_msKvE .., by simp [ha, hi], by simp [hb, hj], ?_⟩
    have e1 : fkv.getD i dkv = fkv[i] := getD_eq_getElem _ _ hi
    have e2 : tkv.getD j dkv = tkv[j] := getD_eq_getElem _ _ hj
    have hw := hc i j hi hj
    rw [kvTbl_getD _ _ _ _ _ _ _ _ _ hi hj] at hw
    rw [msKvE, walk_relabel, kvTbl_getD _ _ _ _ _ _ _ _ _ hi hj, e1, e2]
    exact walk_kvp o orc hI hE hK _ _ _ _ _ _ hi' hj' ((walk_iff ..).2 ⟨hE _ _ _ _ hi' hj', hw⟩)

theorem walk_edits (f : Tree) (fp tp : List Nat) (t : Tree) (hf : Inv f) (ht : Inv t) :
    Walk P (.tree f) (.tree t) (edits o orc fp tp f t) :=
  (walk_iff ..).2 ⟨hE fp tp f t hf ht,
    edits_ind hI (P := fun f t s => WalkL P (.tree f) (.tree t) s.subs) o orc
      (fun a t => walkL_of_flat _ _ _ (leafEdits_subs_flat a t)) (fun _ _ _ _ _ => trivial) (fun _ _ _ _ => trivial)
      (fun fp tp fcs tcs hf ht _ _ hc => walkL_list o orc hI hE fp tp fcs tcs _ hf ht hc fun _ => subForm_fixedScript)
      (fun fp tp fcs tcs hf ht _ hc => walkL_list o orc hI hE fp tp fcs tcs _ hf ht hc fun _ => subForm_edScript)
      (fun fp tp fkv tkv hf ht _ hc =>
        walkL_kvs o orc hI hE hK fp tp fkv tkv _ _ _ rfl rfl (hI.dict _ hf) (hI.dict _ ht) hc (fun _ => subForm_msScript) fun _ _ h => h)
      (fun fp tp fkv tkv hf ht _ hc =>
        walkL_kvs o orc hI hE hK fp tp fkv tkv _ _ _ rfl rfl (hI.fdict _ hf) (hI.fdict _ ht) hc (fun _ => subForm_fkScript)
          fun _ _ h => ⟨h.1, h.2.1⟩)
      f fp tp t hf ht⟩

end

end GtModel
