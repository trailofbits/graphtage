/-
  EditDistance protocol: `tighten_bounds()`, and walking the cached path (`on_diff`, the script dump, `edits()` at the
  root).
-/
import GtModel.Proofs.LazyEdInv
import GtModel.Proofs.LazyEdLoop

namespace GtModel.Lazy
open GtModel.EditMatrix (Cell Move step spec lexLe goLeft goUp goDiag cellAt)

section
variable {rec : Ops} {g : Ghost}

/-- `_cleanup()`: `bounds()` on a complete matrix with the answer dropped; every `False` exit of `tighten_bounds()` on
    a complete matrix ends with it -/
theorem edCleanup_ok (h : Protocol rec g) (F : Nat) {s0 s : EdSt} {cells0 cells : List (List M)}
    (ek : EdKeeps g s0 cells0 s cells) (hc : edComplete s = true) (hmu : muLLg g cells < F) :
    Ret (edBounds rec F s cells >>= fun x => pure (x.1, x.2.1, false)) fun r =>
      EdKeeps g s0 cells0 r.1 r.2.1 ∧ edComplete r.1 = true ∧ r.1.cache.isSome = true ∧ r.2.2 = false :=
  Ret.bind₂v (edBounds_keeps h F ek.inv hmu) fun _ _ ⟨ek', _, _, hq, hcomp, _⟩ =>
    Ret.pure ⟨ek.trans ek', hcomp.trans hc, hq (hcomp.trans hc), rfl⟩

/-- `tighten_bounds()` on a complete matrix that is not freed yet: one step of the last cell, or — if that cell is
    final — `_cleanup()` -/
theorem edTightenComplete_ok (h : Protocol rec g) (F : Nat) {s : EdSt} {cells : List (List M)} (inv : EdInv g s cells)
    (hc : edComplete s = true) (hmu : muLLg g cells < F) :
    ∃ s' cells' r, edTightenComplete rec F s cells = .ok (s', cells', r) ∧ EdKeeps g s cells s' cells' ∧
      (r = true → muLLg g cells' < muLLg g cells) ∧ edComplete s' = true := by
  refine Ret.ex₃ ?_
  have cleanup : ∀ cells0, KeepsLL g cells cells0 →
      Ret (edBounds rec F s cells0 >>= fun x => pure (x.1, x.2.1, false)) fun r =>
        EdKeeps g s cells r.1 r.2.1 ∧ (r.2.2 = true → muLLg g r.2.1 < muLLg g cells) ∧ edComplete r.1 = true :=
    fun cells0 K0 => Ret.mono (edCleanup_ok h F (EdKeeps.ofCells h inv K0) hc (by have := K0.mu; omega))
      fun _ ⟨ek, hcr, _, hf⟩ => ⟨ek, (fun hr => by rw [hf] at hr; cases hr), hcr⟩
  unfold edTightenComplete
  rcases inv.corner with ⟨_, ecor⟩ | ⟨m, ecor, em, hIm, _, _⟩
  · rw [ecor]
    exact cleanup cells (KeepsLL.refl cells inv.cellsI)
  · rw [ecor]
    refine Ret.bind_eq em (Ret.bindv (h.bounds m hIm) fun m1 ⟨p1, _⟩ => Ret.ite (fun _ => ?_) fun _ => ?_)
    · -- one refinement step of the last cell
      refine Ret.bind₂ (h.tighten m1 p1.inv) fun m2 r st => ?_
      refine Ret.bind (mset_ret (y := m2) inv.cellsI em (p1.keeps.trans st.keeps)) fun cells' ⟨K, _, hacc⟩ => ?_
      refine Ret.pure ⟨EdKeeps.ofCells h inv K, fun hr => ?_, hc⟩
      show muLLg g cells' < muLLg g cells
      have := st.dec hr; have := p1.mu; omega
    · -- the last cell is final: `_cleanup()`
      exact Ret.bind (mset_ret inv.cellsI em p1.keeps) fun cells1 ⟨K1, _⟩ => cleanup cells1 K1

theorem EdInv.incomplete {s : EdSt} {cells : List (List M)} (inv : EdInv g s cells) (hnc : edComplete s = false) :
    s.cache = none ∧ s.freed = false ∧ ¬ PosComplete s := by
  have hnp : ¬ PosComplete s := fun hp => by rw [inv.complete_iff.mpr hp] at hnc; cases hnc
  have hcn : s.cache = none := by
    cases hc : s.cache with
    | none => rfl
    | some tr => exact absurd (inv.jc (by rw [hc]; rfl)) hnp
  refine ⟨hcn, ?_, hnp⟩
  cases hf : s.freed with
  | false => rfl
  | true => have := inv.jf.mp hf; rw [hcn] at this; cases this

theorem started_of_nonneg {s : EdSt} (h0 : 0 ≤ s.fr) : started s = kOf s + 1 := by
  simp only [started, kOf]; omega

theorem started_of_neg {s : EdSt} (pos : Pos s) (h : s.fr < 0) : started s = 0 := by
  have := pos.z (by have := pos.lo; omega)
  simp only [started]; omega

theorem Filled.iff_started {s : EdSt} (pos : Pos s) (r c : Nat) :
    Filled s r c ↔ (r = 0 ∧ c = 0) ∨
      (r + c < started s ∧ (r = 0 ∨ c = 0 ∨ r + c < s.nt + s.nf ∨ s.cache.isSome = true)) := by
  unfold Filled
  by_cases h0 : 0 ≤ s.fr
  · rw [started_of_nonneg h0, Nat.lt_succ_iff]; simp only [h0, true_and]
  · rw [started_of_neg pos (by omega)]; simp only [h0, false_and, Nat.not_lt_zero]

theorem DefSet.iff_started {s : EdSt} (pos : Pos s) (r c : Nat) :
    DefSet s r c ↔ r ≤ s.nt ∧ c ≤ s.nf ∧ r + c < started s ∧ (r + c < s.nt + s.nf ∨ s.cache.isSome = true) := by
  unfold DefSet
  by_cases h0 : 0 ≤ s.fr
  · rw [started_of_nonneg h0, Nat.lt_succ_iff]; simp only [h0, true_and]
  · rw [started_of_neg pos (by omega)]; simp only [h0, false_and, and_false, Nat.not_lt_zero]

/-- everything on the diagonals before the next one is filled in (the corner diagonal is never "before") -/
theorem Filled.of_lt_started {s : EdSt} (pos : Pos s) (hle : started s ≤ s.nt + s.nf) {r c : Nat}
    (h : r + c < started s) : Filled s r c :=
  (Filled.iff_started pos r c).mpr (Or.inr ⟨h, Or.inr (Or.inr (Or.inl (by omega)))⟩)

theorem Filled.advance {s s2 : EdSt} (pos : Pos s) (core : SameCore s s2) (hk2 : kOf s2 = started s)
    (hc2 : s2.cache.isSome = false) {r c : Nat} (hf : Filled s2 r c) :
    Filled s r c ∨ (r + c = started s ∧ (r = 0 ∨ c = 0 ∨ r + c < s.nt + s.nf)) := by
  rcases hf with hf | ⟨_, hle, hthird⟩
  · exact Or.inl (Or.inl hf)
  · rw [hk2] at hle
    rw [core.nt, core.nf, hc2] at hthird
    have hthird' : r = 0 ∨ c = 0 ∨ r + c < s.nt + s.nf := by simpa using hthird
    by_cases heq : r + c = started s
    · exact Or.inr ⟨heq, hthird'⟩
    · exact Or.inl ((Filled.iff_started pos r c).mpr
        (Or.inr ⟨by omega, hthird'.imp_right fun h => h.imp_right Or.inl⟩))

theorem DefSet.advance {s s2 : EdSt} (pos : Pos s) (core : SameCore s s2) (hk2 : kOf s2 = started s)
    (hc2 : s2.cache.isSome = false) {r c : Nat} (hd : DefSet s2 r c) :
    DefSet s r c ∨ (r ≤ s.nt ∧ c ≤ s.nf ∧ r + c = started s ∧ r + c < s.nt + s.nf) := by
  obtain ⟨hr, hc, _, hle, hthird⟩ := hd
  rw [hk2] at hle
  rw [core.nt] at hr; rw [core.nf] at hc
  rw [core.nt, core.nf, hc2] at hthird
  have hlt2 : r + c < s.nt + s.nf := by simpa using hthird
  by_cases heq : r + c = started s
  · exact Or.inr ⟨hr, hc, heq, hlt2⟩
  · exact Or.inl ((DefSet.iff_started pos r c).mpr ⟨hr, hc, by omega, Or.inl hlt2⟩)

theorem mem_diag_left {s : EdSt} (pos : Pos s) (r c : Nat) :
    (r, c) ∈ diag s.fr s.fc s.nf ↔ (r ≤ s.nt ∧ c ≤ s.nf ∧ r + c + 1 = started s) := by
  by_cases h0 : 0 ≤ s.fr
  · rw [pos.mem_diag h0, started_of_nonneg h0, Nat.add_right_cancel_iff]
  · have hd : diag s.fr s.fc s.nf = [] := by
      have : s.fr < 0 := by omega
      simp [diag, this]
    rw [hd, started_of_neg pos (by omega)]
    simp

/-- the invariant after the fringe has moved to the next anti-diagonal and (unless that is the corner) its inner
    cells have been tightened and filled in -/
theorem EdInv.advance (h : Protocol rec g) {s : EdSt} {cells : List (List M)} (inv : EdInv g s cells)
    (hnc : edComplete s = false) {fr : Int} {fc : Nat} {tc tp : List (List Nat)} {cells2 : List (List M)}
    (K : KeepsLL g cells cells2) (pos2 : Pos (s.move fr fc)) (hk : fr.toNat + fc = started s)
    (sh : TabSh ((s.move fr fc).tabs tc tp))
    (tab : ∀ r c, r ≤ s.nt → c ≤ s.nf →
      Filled s r c ∨ (r + c = started s ∧ (r = 0 ∨ c = 0 ∨ r + c < s.nt + s.nf)) →
      Match ((s.move fr fc).tabs tc tp) (finM g cells) r c)
    (defs : ∀ r c, 1 ≤ r → 1 ≤ c → r ≤ s.nt → c ≤ s.nf → r + c = started s → r + c < s.nt + s.nf →
      DefAt g cells2 r c) :
    EdInv g ((s.move fr fc).tabs tc tp) cells2 := by
  obtain ⟨hcn, hnfr, hnp⟩ := inv.incomplete hnc
  have hfm := K.finM
  have hc2 : ((s.move fr fc).tabs tc tp).cache.isSome = false := by show s.cache.isSome = false; rw [hcn]; rfl
  have core : SameCore s ((s.move fr fc).tabs tc tp) := ⟨rfl, rfl, rfl, rfl, rfl, rfl, rfl, rfl⟩
  refine ⟨inv.nz, ⟨pos2.lo, pos2.hi, pos2.fc, pos2.z⟩, K.shape inv.shape, K.inv,
    ⟨sh.1, sh.2, fun r c hr hc hf => ?_⟩, fun r c m hr1 hc1 hd hm => ?_, fun _ r c => ?_, inv.jf,
    (fun hh => by rw [hc2] at hh; cases hh), fun tr htr => ?_, inv.stat.congr rfl rfl rfl rfl hfm⟩
  · rw [hfm]; exact tab r c hr hc (Filled.advance inv.pos core hk hc2 hf)
  · rcases DefSet.advance inv.pos core hk hc2 hd with hd | ⟨hr, hc, hs, hl⟩
    · exact (inv.defs.at hr1 hc1 hd).keeps h K m hm
    · exact defs r c hr1 hc1 hr hc hs hl m hm
  · show (r, c) ∈ diag s.fr s.fc s.nf ↔ r ≤ s.nt ∧ c ≤ s.nf ∧ r + c + 1 = fr.toNat + fc
    rw [hk]; exact mem_diag_left inv.pos r c
  · have : s.cache = some tr := htr
    rw [hcn] at this; cases this

/-- fringe lower bound monotone, on the model's state -/
theorem edView_advance {s s2 : EdSt} {cells cells2 : List (List M)} (inv : EdInv g s cells)
    (hnc : edComplete s = false) (inv2 : EdInv g s2 cells2) (core : SameCore s s2)
    (h02 : 0 ≤ s2.fr) (hk2 : kOf s2 = started s) :
    (edViewOf s (finM g cells)).lo ≤ (edViewOf s2 (finM g cells)).lo ∧
      (edViewOf s2 (finM g cells)).hi ≤ (edViewOf s (finM g cells)).hi := by
  have wf := edView_wf inv
  by_cases hc2 : edComplete s2 = true
  · rw [edView_complete _ hc2, edFin_core core]
    simp only [Iv.point]
    exact wf
  · have hc2f : edComplete s2 = false := Bool.eq_false_iff.mpr hc2
    simp only [edViewOf, hnc, hc2f, Bool.false_eq_true, if_false, core.lb0, core.ub0] at wf ⊢
    by_cases h1 : s.fr ≤ 0
    · simp only [h1, if_true] at wf ⊢
      by_cases h2 : s2.fr ≤ 0
      · simp only [h2, if_true]; omega
      · simp only [h2, if_false, Nat.max_def]
        constructor
        · split <;> omega
        · omega
    · have hs1 : 1 ≤ s.fr := by omega
      have hkk : kOf s2 = kOf s + 1 := by rw [hk2, started_of_nonneg (by omega)]
      have h2 : ¬ s2.fr ≤ 0 := by
        intro hle
        have := inv.pos.hi; have := core.nt
        have := inv2.pos.z (by omega)
        simp only [kOf] at hkk; omega
      have hs2 : 1 ≤ s2.fr := by omega
      simp only [h1, h2, if_false] at wf ⊢
      refine ⟨?_, Nat.le_refl _⟩
      -- the old fringe minimum is a lower bound of the two new diagonals
      have lb1 := EditMatrix.fringeLB_step s.rem s.ins (finM g cells) s.nt s.nf (kOf s) _
        (fringe_lb (finM g cells) inv.pos hs1 (inv.last (by omega)))
      have hl2 := inv2.last h02
      have hmemA := minD_mem (l := costsOn s2 (finM g cells) (diag s2.fr s2.fc s2.nf))
        (by simp only [costsOn, ne_eq, List.map_eq_nil_iff]; exact diag_ne h02 inv2.pos.fc)
      have hmemB := minD_mem (l := costsOn s2 (finM g cells) s2.lastFringe)
        (by simp only [costsOn, ne_eq, List.map_eq_nil_iff]; exact last_ne inv2.pos hs2 hl2)
      have hA : fringeMin s (finM g cells) ≤ minD (costsOn s2 (finM g cells) (diag s2.fr s2.fc s2.nf)) := by
        obtain ⟨rc, hrc, he⟩ := List.mem_map.mp hmemA
        obtain ⟨hr, hc, hrc⟩ := (inv2.pos.mem_diag h02).mp hrc
        rw [← he, core.edT]
        exact lb1 _ _ (by rw [← core.nt]; exact hr) (by rw [← core.nf]; exact hc) (Or.inl (by omega))
      have hB : fringeMin s (finM g cells) ≤ minD (costsOn s2 (finM g cells) s2.lastFringe) := by
        obtain ⟨rc, hrc, he⟩ := List.mem_map.mp hmemB
        obtain ⟨hr, hc, hrc⟩ := (hl2 _ _).mp hrc
        rw [← he, core.edT]
        exact lb1 _ _ (by rw [← core.nt]; exact hr) (by rw [← core.nf]; exact hc) (Or.inr (by omega))
      simp only [fringeMin, nmin, Nat.max_def] at hA hB ⊢
      split <;> split <;> omega

theorem edView_building_nondef {s : EdSt} {cells : List (List M)} (inv : EdInv g s cells)
    (hnc : edComplete s = false) (hnt : 0 < s.nt) (hnf : 0 < s.nf) :
    (edViewOf s (finM g cells)).lo < (edViewOf s (finM g cells)).hi := by
  have hlt := inv.stat.lbLt hnf hnt
  simp only [edViewOf, hnc, Bool.false_eq_true, if_false]
  by_cases h1 : s.fr ≤ 0
  · simp only [h1, if_true]; exact hlt
  · simp only [h1, if_false]
    obtain ⟨_, _, hnp⟩ := inv.incomplete hnc
    have h0 : 0 ≤ s.fr := by omega
    have hph := inv.pos.hi; have hpf := inv.pos.fc
    have hk : kOf s < s.nt + s.nf := by simp only [PosComplete] at hnp; omega
    have hmem : (s.fr.toNat, s.fc) ∈ diag s.fr s.fc s.nf :=
      (mem_diag h0 hpf).mpr ⟨rfl, Nat.le_refl _, hpf, Nat.le_refl _⟩
    have hin : (spec s.rem s.ins (finM g cells) s.fr.toNat s.fc).cost ∈ costsOn s (finM g cells) (diag s.fr s.fc s.nf) :=
      List.mem_map.mpr ⟨(s.fr.toNat, s.fc), hmem, rfl⟩
    have h2 := minD_le hin
    have h3 := EditMatrix.spec_cost_le s.rem s.ins (finM g cells) s.fr.toNat s.fc
    have h4 := take_sum_le_sum s.rem s.fc
    have h5 := take_sum_le_sum s.ins s.fr.toNat
    have htot := inv.stat.total
    have hstrict : (s.rem.take s.fc).sum + (s.ins.take s.fr.toNat).sum < s.rem.sum + s.ins.sum := by
      simp only [kOf] at hk
      by_cases hc : s.fc < s.nf
      · have := take_sum_lt s.rem s.fc hc inv.stat.remPos; omega
      · have hr : s.fr.toNat < s.nt := by omega
        have := take_sum_lt s.ins s.fr.toNat hr inv.stat.insPos; omega
    simp only [fringeMin, nmin, Nat.max_def]
    split <;> omega

/-- the completion branch of the loop: the last cell gets one step (if it is not final), otherwise `_cleanup()` -/
theorem edLoopDone_ok (h : Protocol rec g) (F : Nat) {s1 : EdSt} {cells : List (List M)} (inv1 : EdInv g s1 cells)
    (hc : edComplete s1 = true) (hmu : muLLg g cells < F) :
    ∃ s' cells' r, edLoopDone rec F s1 cells = .ok (s', cells', r) ∧ EdKeeps g s1 cells s' cells' ∧
      edComplete s' = true ∧ (r = false → s'.cache.isSome = true) ∧ (r = true → 0 < s1.nt ∧ 0 < s1.nf) := by
  refine Ret.ex₃ ?_
  have cleanup : ∀ {s cells0}, EdKeeps g s1 cells s cells0 → edComplete s = true → muLLg g cells0 < F →
      Ret (edBounds rec F s cells0 >>= fun x => pure (x.1, x.2.1, false)) fun r => EdKeeps g s1 cells r.1 r.2.1 ∧
        edComplete r.1 = true ∧ (r.2.2 = false → r.1.cache.isSome = true) ∧ (r.2.2 = true → 0 < s1.nt ∧ 0 < s1.nf) :=
    fun ek hcs hm => Ret.mono (edCleanup_ok h F ek hcs hm) fun _ ⟨ek', hcr, hs, hf⟩ =>
      ⟨ek', hcr, fun _ => hs, fun hr => by rw [hf] at hr; cases hr⟩
  unfold edLoopDone
  rcases inv1.corner with ⟨_, ecor⟩ | ⟨m, ecor, em, hIm, hpos⟩
  · rw [ecor]
    exact cleanup (EdKeeps.refl inv1) hc hmu
  · rw [ecor]
    refine Ret.bind_eq em (Ret.bindv (h.bounds m hIm) fun m1 ⟨p1, _⟩ => ?_)
    refine Ret.bind (mset_keeps inv1.cellsI em p1.keeps) fun cells1 ⟨K1, _⟩ => ?_
    have ek1 := EdKeeps.ofCells h inv1 K1
    have hmu1 : muLLg g cells1 < F := by have := K1.mu; omega
    refine Ret.ite (fun _ => ?_) fun _ => ?_
    · refine Ret.bind₃ (edTightenComplete_ok h F ek1.inv hc hmu1) fun s2 cells2 ret ⟨ek2, _, hc2⟩ => ?_
      cases ret with
      | true => exact Ret.pure ⟨ek1.trans ek2, hc2, (fun hr => by cases hr), fun _ => hpos⟩
      | false => exact cleanup (s := s2) (cells0 := cells2) (ek1.trans ek2) hc2 (by have := ek2.kl.mu; omega)
    · exact cleanup ek1 hc hmu1

/-- one sweep: after `_next_fringe` the new fringe (not the corner) is tightened and filled in.  The hypotheses
    `pos1 … hb` are the conclusion of `nextFringe_fill` -/
theorem edSweep_ok (h : Protocol rec g) (q : Bool) (F : Nat) {s : EdSt} {cells : List (List M)}
    (inv : EdInv g s cells) (hnc : edComplete s = false) {fr : Int} {fc : Nat} {tc tp : List (List Nat)}
    (pos1 : Pos (s.move fr fc)) (h01 : 0 ≤ fr) (hk1 : fr.toNat + fc = started s)
    (le1 : TabLe (finM g cells) (s.move fr fc) tc tp)
    (hb : ∀ r c, r ≤ s.nt → c ≤ s.nf → r + c = started s → (r = 0 ∨ c = 0) → 0 < r + c →
      Match ((s.move fr fc).tabs tc tp) (finM g cells) r c)
    (hlt : started s < s.nt + s.nf) (hmu : muLLg g cells < F) :
    ∃ s2 cells2, edLoopFringe rec q F (decide (s.fr < 0)) ((s.move fr fc).tabs tc tp) cells = .ok (s2, cells2) ∧
      EdInv g s2 cells2 ∧ KeepsLL g cells cells2 ∧ SameCore s s2 ∧ kOf s2 = started s ∧ 0 ≤ s2.fr := by
  suffices hs : ∃ tc' tp' cells2, edLoopFringe rec q F (decide (s.fr < 0)) ((s.move fr fc).tabs tc tp) cells
        = .ok ((s.move fr fc).tabs tc' tp', cells2) ∧
      EdInv g ((s.move fr fc).tabs tc' tp') cells2 ∧ KeepsLL g cells cells2 by
    obtain ⟨tc', tp', cells2, e, inv2, K⟩ := hs
    exact ⟨_, cells2, e, inv2, K, ⟨rfl, rfl, rfl, rfl, rfl, rfl, rfl, rfl⟩, hk1, h01⟩
  have sh1 : TabSh ((s.move fr fc).tabs tc tp) := le1.sh ⟨inv.tab.shC, inv.tab.shP⟩
  -- what was filled in stays filled in; so does the origin
  have old : ∀ r c, r ≤ s.nt → c ≤ s.nf → Filled s r c → Match ((s.move fr fc).tabs tc tp) (finM g cells) r c :=
    fun r c hr hc hf => le1.keep r c (inv.tab.ok r c hr hc hf)
  have border : ∀ r c, r ≤ s.nt → c ≤ s.nf → r + c = started s → (r = 0 ∨ c = 0) →
      Match ((s.move fr fc).tabs tc tp) (finM g cells) r c := fun r c hr hc hs hz => by
    by_cases h0 : r + c = 0
    · exact old r c hr hc (Or.inl (by omega))
    · exact hb r c hr hc hs hz (by omega)
  unfold edLoopFringe
  by_cases hfirst : s.fr < 0
  · -- the very first fringe is only the origin
    have hst0 := started_of_neg inv.pos hfirst
    rw [if_pos (by simpa using hfirst)]
    refine ⟨tc, tp, cells, rfl, ?_, KeepsLL.refl cells inv.cellsI⟩
    refine inv.advance h hnc (KeepsLL.refl cells inv.cellsI) pos1 hk1 sh1 (fun r c hr hc hp => ?_)
      fun r c _ _ _ _ _ _ => by omega
    exact hp.elim (old r c hr hc) fun ⟨hs, _⟩ => border r c hr hc hs (by omega)
  · rw [if_neg (by simpa using hfirst)]
    have hk : 1 ≤ started s := by rw [started_of_nonneg (by omega)]; omega
    have hdiag1 : ∀ rc, rc ∈ diag fr fc s.nf ↔ (rc.1 ≤ s.nt ∧ rc.2 ≤ s.nf ∧ rc.1 + rc.2 = started s) := by
      intro rc; rw [← hk1]; exact pos1.mem_diag h01
    have stepR : ∃ cells1 total, (if q then pure (cells, 0) else fringeRanges rec cells (diag fr fc s.nf))
        = (.ok (cells1, total) : R (List (List M) × Nat)) ∧ KeepsLL g cells cells1 := by
      cases q with
      | true => exact ⟨cells, 0, rfl, KeepsLL.refl cells inv.cellsI⟩
      | false =>
        exact fringeRanges_ok h (nt := s.nt) (nf := s.nf) _ cells inv.cellsI inv.shape
          fun rc hrc => ⟨((hdiag1 rc).mp hrc).1, ((hdiag1 rc).mp hrc).2.1⟩
    obtain ⟨cells1, total, eR, KR⟩ := stepR
    obtain ⟨tc', tp', cells2, eP, le2, KP, hnew⟩ := processFringe_fill h F (decide (total > 0)) hk
      (diag fr fc s.nf) ((s.move fr fc).tabs tc tp) cells1 KR.finM sh1
      (fun r c hr hc hlt' => old r c hr hc (Filled.of_lt_started inv.pos (by omega) hlt'))
      KR.inv (KR.shape inv.shape) (fun rc hrc => (hdiag1 rc).mp hrc) (by have := KR.mu; omega)
    have K := KR.trans KP
    refine ⟨tc', tp', cells2, ?_, ?_, K⟩
    · cases q with
      | false => exact bind_of_eq eR eP
      | true =>
        obtain ⟨rfl, rfl⟩ := Prod.mk.inj (Except.ok.inj (eR : Except.ok (cells, 0) = _))
        exact eP
    refine inv.advance h hnc K pos1 hk1 (le2.sh sh1) (fun r c hr hc hp => ?_) fun r c hr1 hc1 hr hc hs _ =>
      (hnew (r, c) ((hdiag1 (r, c)).mpr ⟨hr, hc, hs⟩) hr1 hc1).2
    rcases hp with hp | ⟨hs, _⟩
    · exact le2.keep r c (old r c hr hc hp)
    · by_cases hz : r = 0 ∨ c = 0
      · exact le2.keep r c (border r c hr hc hs hz)
      · exact (hnew (r, c) ((hdiag1 (r, c)).mpr ⟨hr, hc, hs⟩) (by omega) (by omega)).1

/-- the `while True` loop of `tighten_bounds()`: it sweeps fringe after fringe until the bounds move or the matrix
    is complete; at most `nt + nf + 1 - started` iterations.  Of a True answer, `started s < started s'` feeds
    `Step.dec` and `≠ initial` feeds `Step.strict` (in `edTighten_ok`) -/
theorem edBuildLoop_ok (h : Protocol rec g) (q : Bool) (F : Nat) (initial : Iv) :
    ∀ (k : Nat) (s : EdSt) (cells : List (List M)), EdInv g s cells → edComplete s = false →
      edViewOf s (finM g cells) = initial → (s.nt + s.nf + 1) - started s < k → muLLg g cells < F →
      ∃ s' cells' r, edBuildLoop rec q F initial k s cells = .ok (s', cells', r) ∧ EdKeeps g s cells s' cells' ∧
        (r = true → started s < started s' ∧ edViewOf s' (finM g cells) ≠ initial) ∧
        (r = false → edComplete s' = true ∧ s'.cache.isSome = true)
  | 0, _, _, _, _, _, hk, _ => absurd hk (Nat.not_lt_zero _)
  | k + 1, s, cells, inv, hnc, hview, hk, hmu => by
    obtain ⟨hcn, hnfr, hnp⟩ := inv.incomplete hnc
    have hstle : started s ≤ s.nt + s.nf := by
      by_cases h0 : 0 ≤ s.fr
      · have := started_of_nonneg h0
        simp only [PosComplete] at hnp; omega
      · have := started_of_neg inv.pos (by omega); omega
    have old : ∀ r c, r ≤ s.nt → c ≤ s.nf → Filled s r c → Match s (finM g cells) r c := inv.tab.ok
    obtain ⟨fr, fc, tc, tp, flag, e1, pos1, h01, hk1, le1, hb, hflag⟩ := nextFringe_fill (fm := finM g cells) inv.pos
      inv.nz hnc hnfr ⟨inv.tab.shC, inv.tab.shP⟩
      (fun r c hr hc hlt => old r c hr hc (Filled.of_lt_started inv.pos hstle hlt))
    have hst1 : ∀ tc tp, started ((s.move fr fc).tabs tc tp) = started s + 1 := fun _ _ => by
      show (fr + 1).toNat + fc = _; omega
    have core : ∀ tc tp, SameCore s ((s.move fr fc).tabs tc tp) := fun _ _ => ⟨rfl, rfl, rfl, rfl, rfl, rfl, rfl, rfl⟩
    rw [edBuildLoop_unfold]
    refine Ret.ex₃ (Ret.bind_eq e1 ?_)
    cases flag with
    | false =>
      -- the new diagonal is the lower right corner: the matrix is complete
      have hcorner : started s = s.nt + s.nf := hflag.mp rfl
      have nz := inv.nz
      have inv1 : EdInv g ((s.move fr fc).tabs tc tp) cells :=
        inv.advance h hnc (KeepsLL.refl cells inv.cellsI) pos1 hk1 (le1.sh ⟨inv.tab.shC, inv.tab.shP⟩)
          (fun r c hr hc hp => hp.elim (fun hf => le1.keep r c (old r c hr hc hf)) fun ⟨hs, hz⟩ =>
            hb r c hr hc hs (by omega) (by omega))
          fun r c _ _ _ _ _ _ => by omega
      have hc1 : edComplete ((s.move fr fc).tabs tc tp) = true :=
        inv1.complete_iff.mpr ⟨h01, by show s.nt + s.nf ≤ fr.toNat + fc; omega⟩
      have hsub := edView_advance inv hnc inv1 (core _ _) h01 hk1
      have ek1 : EdKeeps g s cells ((s.move fr fc).tabs tc tp) cells :=
        ⟨inv1, core _ _, KeepsLL.refl cells inv.cellsI, hsub, by have := hst1 tc tp; omega⟩
      simp only [Bool.not_false, if_true, hc1, Bool.not_true, Bool.false_eq_true, if_false]
      refine Ret.mono (Ret.of₃ (edLoopDone_ok h F inv1 hc1 hmu)) fun _ ⟨ekD, hcD, hfalse, htrue⟩ =>
        ⟨ek1.trans ekD, fun hr => ?_, fun hr => ⟨hcD, hfalse hr⟩⟩
      -- a True from the completion branch: while it is being built the interval is never a single value
      -- (`edView_building_nondef`); now it is one, hence `≠ initial`
      obtain ⟨hnt1, hnf1⟩ := htrue hr
      have hnd := edView_building_nondef inv hnc hnt1 hnf1
      rw [hview] at hnd
      refine ⟨by have := ekD.st; have := hst1 tc tp; omega, ?_⟩
      rw [edView_complete _ hcD]
      intro heq
      rw [← heq] at hnd
      simp [Iv.point] at hnd
    | true =>
      have hlt : started s < s.nt + s.nf := by
        rcases Nat.lt_or_ge (started s) (s.nt + s.nf) with hh | hh
        · exact hh
        · have : started s = s.nt + s.nf := by omega
          have := hflag.mpr this; cases this
      simp only [Bool.not_true, Bool.false_eq_true, if_false]
      refine Ret.bind₂ (edSweep_ok h q F inv hnc pos1 h01 hk1 le1 hb hlt hmu)
        fun s2 cells2 ⟨inv2, K2, core2, hk2, h02⟩ => ?_
      have hfm2 := K2.finM
      have hst2 : started s < started s2 := by rw [started_of_nonneg h02, hk2]; exact Nat.lt_succ_self _
      have hsub := edView_advance inv hnc inv2 core2 h02 hk2
      have hnc2 : edComplete s2 = false := by
        cases hh : edComplete s2 with
        | false => rfl
        | true =>
          have := (inv2.complete_iff.mp hh).2
          rw [hk2, core2.nt, core2.nf] at this; omega
      have hmu2 : muLLg g cells2 < F := by have := K2.mu; omega
      obtain ⟨sb, cb, eB, _, _, _, _, _, hsame⟩ := edBounds_keeps h F inv2 hmu2
      rw [(hsame hnc2).1, (hsame hnc2).2, hfm2] at eB
      have ek2 : EdKeeps g s cells s2 cells2 := ⟨inv2, core2, K2, hsub, Nat.le_of_lt hst2⟩
      unfold edLoopCheck
      refine Ret.bind_eq eB (Ret.ite (fun hhi => ?_) fun hhi => Ret.bind_eq eB (Ret.ite (fun hlo => ?_) fun hlo => ?_))
      · refine Ret.pure ⟨ek2, fun _ => ⟨hst2, fun heq => ?_⟩, fun hr => by cases hr⟩
        rw [heq] at hhi; exact Nat.lt_irrefl _ hhi
      · refine Ret.pure ⟨ek2, fun _ => ⟨hst2, fun heq => ?_⟩, fun hr => by cases hr⟩
        rw [heq] at hlo; exact Nat.lt_irrefl _ hlo
      · -- nothing moved: go round again
        have hv2 : edViewOf s2 (finM g cells2) = initial := by
          rw [hfm2]
          rw [hview] at hsub
          exact (iv_sub_antisymm hsub ⟨Nat.le_of_not_lt hlo, Nat.le_of_not_lt hhi⟩).symm
        refine Ret.mono (Ret.of₃ (edBuildLoop_ok h q F initial k s2 cells2 inv2 hnc2 hv2
          (by rw [core2.nt, core2.nf]; omega) hmu2)) fun _ ⟨ekL, hT, hFa⟩ => ⟨ek2.trans ekL, fun hr => ?_, hFa⟩
        obtain ⟨h1, h2⟩ := hT hr
        rw [hfm2] at h2
        exact ⟨Nat.lt_trans hst2 h1, h2⟩

theorem started_le {s : EdSt} (pos : Pos s) : started s ≤ s.nt + s.nf + 1 := by
  have := pos.hi; have := pos.fc; have := pos.lo
  simp only [started]; omega

theorem EdKeeps.mu0 {s s' : EdSt} {cells cells' : List (List M)} (k : EdKeeps g s cells s' cells') :
    edMu0 s' + muLLg g cells' ≤ edMu0 s + muLLg g cells := by
  have := k.st; have := k.kl.mu; have := k.core.nt; have := k.core.nf
  simp only [edMu0]; omega

theorem EdInv.not_empty {s : EdSt} {cells : List (List M)} (inv : EdInv g s cells) :
    (s.nf == 0 && s.nt == 0) = false := by
  have nz := inv.nz
  cases h1 : s.nf with
  | zero => cases h2 : s.nt with
    | zero => rw [h1, h2] at nz; omega
    | succ _ => simp
  | succ _ => simp

/-- `tighten_bounds()`.  The measure is `edMu0 + muLLg` (diagonals still to sweep, steps left in the cells); the fourth
    conjunct is `Step.strict` under the `.ed` case of `setG` ("complete ⇒ cached"): from a settled state a True
    answer moves the interval -/
theorem edTighten_ok (h : Protocol rec g) (q : Bool) (F : Nat) {s : EdSt} {cells : List (List M)}
    (inv : EdInv g s cells) (hmu : edMu0 s + muLLg g cells < F) :
    ∃ s' cells' r, edTighten rec q F s cells = .ok (s', cells', r) ∧ EdKeeps g s cells s' cells' ∧
      (r = true → edMu0 s' + muLLg g cells' < edMu0 s + muLLg g cells) ∧
      (r = false → (edViewOf s' (finM g cells)).lo = (edViewOf s' (finM g cells)).hi) ∧
      ((edComplete s = true → s.cache.isSome = true) → r = true →
        edViewOf s' (finM g cells) ≠ edViewOf s (finM g cells)) ∧
      (r = false → edComplete s' = true) := by
  have hz := inv.not_empty
  have hmuc : muLLg g cells < F := by omega
  have hdef : ∀ {s' : EdSt}, edComplete s' = true → (edViewOf s' (finM g cells)).lo = (edViewOf s' (finM g cells)).hi :=
    fun hc' => by rw [edView_complete _ hc']; rfl
  refine Ret.ex₃ ?_
  unfold edTighten
  refine Ret.ite (fun hh => by rw [hz] at hh; cases hh) fun _ => Ret.ite (fun hfr => ?_) fun hfr =>
    Ret.ite (fun hc => ?_) fun hc => ?_
  · have hc : edComplete s = true := by simp [edComplete, hfr]
    exact Ret.pure ⟨EdKeeps.refl inv, (fun hr => by cases hr), fun _ => hdef hc, (fun _ hr => by cases hr), fun _ => hc⟩
  · refine Ret.mono (Ret.of₃ (edTightenComplete_ok h F inv hc hmuc)) fun r ⟨ek, hdec, hc'⟩ =>
      ⟨ek, fun hr => ?_, fun _ => hdef hc', fun hq _ => ?_, fun _ => hc'⟩
    · have := hdec hr; have := ek.st; have := ek.core.nt; have := ek.core.nf
      simp only [edMu0]; omega
    · have := inv.jf.mpr (hq hc)
      exact absurd this hfr
  · have hcf : edComplete s = false := Bool.eq_false_iff.mpr hc
    refine Ret.bind₂v (edBounds_keeps h F inv hmuc) fun s0 cells0 ⟨_, _, _, _, _, hsame⟩ => ?_
    obtain ⟨rfl, rfl⟩ := hsame hcf
    refine Ret.mono (Ret.of₃ (edBuildLoop_ok h q F _ F s0 cells0 inv hcf rfl (by simp only [edMu0] at hmu; omega) hmuc))
      fun r ⟨ek, hT, hFa⟩ => ⟨ek, fun hr => ?_, fun hr => hdef (hFa hr).1, fun _ hr => (hT hr).2, fun hr => (hFa hr).1⟩
    obtain ⟨hst, _⟩ := hT hr
    have := ek.kl.mu; have := ek.core.nt; have := ek.core.nf
    have := started_le ek.inv.pos
    simp only [edMu0]; omega

theorem edRunToComplete_ok (h : Protocol rec g) (q : Bool) (F : Nat) :
    ∀ (k : Nat) (s : EdSt) (cells : List (List M)), EdInv g s cells → edMu0 s + muLLg g cells < F →
      edMu0 s + muLLg g cells < k →
      ∃ s' cells', edRunToComplete rec q F k s cells = .ok (s', cells') ∧ EdKeeps g s cells s' cells' ∧
        edComplete s' = true
  | 0, _, _, _, _, hk => absurd hk (Nat.not_lt_zero _)
  | k + 1, s, cells, inv, hmu, hk => by
    refine Ret.ex₂ ?_
    unfold edRunToComplete
    refine Ret.ite (fun hc => Ret.pure ⟨EdKeeps.refl inv, hc⟩) fun _ => ?_
    refine Ret.bind₃ (edTighten_ok h q F inv hmu) fun s1 cells1 r ⟨ek1, hdec, _, _, hfin⟩ => ?_
    cases r with
    | false => exact Ret.pure ⟨ek1, hfin rfl⟩
    | true =>
      have := hdec rfl
      exact Ret.mono (Ret.of₂ (edRunToComplete_ok h q F k s1 cells1 ek1.inv (by omega) (by omega)))
        fun _ ⟨ek2, hc2⟩ => ⟨ek1.trans ek2, hc2⟩

/-- `edits()` -/
theorem edEnsure_ok (h : Protocol rec g) (q : Bool) (F : Nat) {s : EdSt} {cells : List (List M)}
    (inv : EdInv g s cells) (hmu : edMu0 s + muLLg g cells < F) :
    ∃ s' cells', edEnsure rec q F s cells = .ok (s', cells') ∧ EdKeeps g s cells s' cells' ∧
      s'.cache.isSome = true := by
  have hz := inv.not_empty
  refine Ret.ex₂ ?_
  unfold edEnsure
  refine Ret.ite (fun hcs => Ret.pure ⟨EdKeeps.refl inv, hcs⟩) fun _ =>
    Ret.ite (fun hh => by rw [hz] at hh; cases hh) fun _ => ?_
  refine Ret.bind₂ (edRunToComplete_ok h q F F s cells inv hmu hmu) fun s1 cells1 ⟨ek1, hc1⟩ => ?_
  dsimp only
  rw [if_neg (by simp [hc1])]
  refine Ret.ite (fun hcs1 => Ret.pure ⟨ek1, hcs1⟩) fun hcs1 => ?_
  have hcn1 : s1.cache = none := by
    cases hh : s1.cache with
    | none => rfl
    | some _ => rw [hh] at hcs1; exact absurd rfl hcs1
  exact Ret.mono (Ret.of₂ (edFinalize_ok h F ek1.inv (ek1.inv.complete_iff.mp hc1) hcn1 (by have := ek1.kl.mu; omega)))
    fun _ ⟨ek2, hsome, _⟩ => ⟨ek1.trans ek2, hsome⟩

end

/-- every entry of a path names a cell inside the matrix that its move can enter -/
def TrValid (s : EdSt) (tr : List (Move × Nat × Nat)) : Prop :=
  ∀ e ∈ tr, e.2.1 ≤ s.nt ∧ e.2.2 ≤ s.nf ∧ (e.1 = .diag → 1 ≤ e.2.1 ∧ 1 ≤ e.2.2) ∧ (e.1 = .up → 1 ≤ e.2.1) ∧
    (e.1 = .left → 1 ≤ e.2.2)

theorem ptrace_valid (s : EdSt) (fm : List (List Nat)) : ∀ (k row col : Nat), row ≤ s.nt → col ≤ s.nf →
    TrValid s (ptrace s fm k row col)
  | 0, _, _, _, _ => by intro e he; simp [ptrace] at he
  | k + 1, row, col, hr, hc => by
    by_cases hz : row = 0 ∧ col = 0
    · obtain ⟨rfl, rfl⟩ := hz
      intro e he; simp [ptrace] at he
    · have hz' := beq_and_eq_false hz
      have hpr := predOf_le s fm hz
      have ih := ptrace_valid s fm k _ _ (Nat.le_trans hpr.1 hr) (Nat.le_trans hpr.2.1 hc)
      intro e he
      simp only [ptrace, hz', Bool.false_eq_true, if_false, List.mem_cons] at he
      rcases he with rfl | he
      · simp only
        refine ⟨hr, hc, ?_, ?_, ?_⟩
        · intro hm
          simp only [moveAt] at hm
          by_cases h0 : row = 0
          · simp [h0] at hm
          · by_cases h1 : col = 0
            · simp [h0, h1] at hm
            · omega
        · intro hm
          simp only [moveAt] at hm
          by_cases h0 : row = 0
          · simp [h0] at hm
          · omega
        · intro hm
          simp only [moveAt] at hm
          by_cases h0 : row = 0
          · subst h0; omega
          · by_cases h1 : col = 0
            · simp [h0, h1] at hm
            · omega
      · exact ih e he

section
variable {rec : Ops} {g : Ghost}

theorem dumpPath_ok (h : Protocol rec g) (s : EdSt) : ∀ (tr : List (Move × Nat × Nat)) (cells : List (List M)),
    (∀ r ∈ cells, ∀ m ∈ r, g.I m) → MShape cells s.nt s.nf → TrValid s tr → DefAll g s cells →
    ∃ cells', dumpPath rec s cells tr = .ok (cells', edPathScripts s (scrM g cells) tr) ∧ KeepsLL g cells cells'
  | [], cells, hI, _, _, _ => ⟨cells, rfl, KeepsLL.refl cells hI⟩
  | (mv, r, c) :: rest, cells, hI, sh, hv, hd => by
    obtain ⟨hr, hc, hdiag, hup, hleft⟩ := hv (mv, r, c) (by simp)
    simp only at hr hc hdiag hup hleft
    have hvr : TrValid s rest := fun e he => hv e (by simp [he])
    refine Ret.exv ?_
    cases mv with
    | diag =>
      obtain ⟨h1, h2⟩ := hdiag rfl
      refine Ret.bind (mget_ret sh hI (show r - 1 < s.nt by omega) (show c - 1 < s.nf by omega)) fun m ⟨em, hIm, _⟩ => ?_
      refine Ret.bindv (h.dump m hIm (hd r c m h1 h2 ⟨hr, hc⟩ em)) fun m' km => ?_
      refine Ret.bind (mset_ret hI em km) fun cells1 ⟨K1, _⟩ => ?_
      refine Ret.bindv (dumpPath_ok h s rest cells1 K1.inv (K1.shape sh) hvr (hd.keeps h K1)) fun cells2 K2 => ?_
      have hs : scrM g cells1 = scrM g cells := K1.scripts
      exact Ret.pure ⟨by simp only [edPathScripts, hs, scrM_get em], K1.trans K2⟩
    | up =>
      have hlt : r - 1 < s.ins.length := by have := hup rfl; simp only [EdSt.nt] at hr; omega
      refine Ret.bind_eq (lget_ok hlt) ?_
      refine Ret.bindv (dumpPath_ok h s rest cells hI sh hvr hd) fun cells2 K2 => ?_
      exact Ret.pure ⟨by simp [edPathScripts, getD'_of_lt hlt], K2⟩
    | left =>
      have hlt : c - 1 < s.rem.length := by have := hleft rfl; simp only [EdSt.nf] at hc; omega
      refine Ret.bind_eq (lget_ok hlt) ?_
      refine Ret.bindv (dumpPath_ok h s rest cells hI sh hvr hd) fun cells2 K2 => ?_
      exact Ret.pure ⟨by simp [edPathScripts, getD'_of_lt hlt], K2⟩

theorem onPath_ok (h : Protocol rec g) (s : EdSt) : ∀ (tr : List (Move × Nat × Nat)) (cells : List (List M)),
    (∀ r ∈ cells, ∀ m ∈ r, g.I m) → MShape cells s.nt s.nf → TrValid s tr →
    ∃ cells', onPath rec.onDiff cells tr = .ok cells' ∧ KeepsLL g cells cells'
  | [], cells, hI, _, _ => ⟨cells, rfl, KeepsLL.refl cells hI⟩
  | (mv, r, c) :: rest, cells, hI, sh, hv => by
    obtain ⟨hr, hc, hdiag, _, _⟩ := hv (mv, r, c) (by simp)
    simp only at hr hc hdiag
    have hvr : TrValid s rest := fun e he => hv e (by simp [he])
    cases mv with
    | diag =>
      obtain ⟨h1, h2⟩ := hdiag rfl
      refine Ret.bind (mget_ret sh hI (show r - 1 < s.nt by omega) (show c - 1 < s.nf by omega)) fun m ⟨em, hIm, _⟩ => ?_
      refine Ret.bind (h.onDiff m hIm) fun m' km => Ret.bind (mset_ret hI em km) fun cells1 ⟨K1, _⟩ => ?_
      exact Ret.mono (onPath_ok h s rest cells1 K1.inv (K1.shape sh) hvr) fun _ K2 => K1.trans K2
    | up => exact onPath_ok h s rest cells hI sh hvr
    | left => exact onPath_ok h s rest cells hI sh hvr

theorem pathNames_ok (s : EdSt) : ∀ (tr : List (Move × Nat × Nat)) (cells : List (List M)),
    MShape cells s.nt s.nf → TrValid s tr → ∃ names, pathNames cells tr = .ok names
  | [], _, _, _ => ⟨[], rfl⟩
  | (mv, r, c) :: rest, cells, sh, hv => by
    obtain ⟨hr, hc, hdiag, _, _⟩ := hv (mv, r, c) (by simp)
    simp only at hr hc hdiag
    obtain ⟨names, e⟩ := pathNames_ok s rest cells sh (fun e he => hv e (by simp [he]))
    cases mv with
    | diag =>
      obtain ⟨h1, h2⟩ := hdiag rfl
      obtain ⟨m, em⟩ := mget_ok sh (show r - 1 < s.nt by omega) (show c - 1 < s.nf by omega)
      exact ⟨_, bind_of_eq em (bind_of_eq e rfl)⟩
    | up => exact ⟨_, bind_of_eq e rfl⟩
    | left => exact ⟨_, bind_of_eq e rfl⟩

theorem EdInv.cache_valid {s : EdSt} {cells : List (List M)} (inv : EdInv g s cells)
    {tr : List (EditMatrix.Move × Nat × Nat)} (htr : s.cache = some tr) : TrValid s tr.reverse := by
  intro x hx
  rw [inv.cv tr htr] at hx
  exact ptrace_valid s _ _ _ _ (Nat.le_refl _) (Nat.le_refl _) x (List.mem_reverse.mp hx)

theorem edPathScripts_core {s s' : EdSt} (c : SameCore s s') (scr : List (List DScript)) :
    ∀ (tr : List (EditMatrix.Move × Nat × Nat)), edPathScripts s' scr tr = edPathScripts s scr tr
  | [] => rfl
  | (mv, r, cc) :: rest => by
      simp only [edPathScripts, edPathScripts_core c scr rest, c.pre, c.ins, c.rem]

/-- the script an `EditDistance` dumps: the matched prefix, the sub-edits along the greedy path, the matched suffix -/
def edScriptOf (g : Ghost) (l : Lbl) (s : EdSt) (cells : List (List M)) : DScript :=
  .mk l.kind l.fi l.ti (Iv.point (edFinOf s (finM g cells)))
    (matchesFrom 0 0 s.pre
      ++ edPathScripts s (scrM g cells) (ptrace s (finM g cells) (s.nt + s.nf + 1) s.nt s.nf).reverse
      ++ matchesFrom (s.flen - s.suf) (s.tlen - s.suf) s.suf)

section
variable {s s' : EdSt} {cells cells' : List (List M)}

theorem EdKeeps.fin (ek : EdKeeps g s cells s' cells') : edFinOf s' (finM g cells') = edFinOf s (finM g cells) := by
  rw [ek.kl.finM, edFin_core ek.core]

theorem EdKeeps.view (ek : EdKeeps g s cells s' cells') :
    edViewOf s' (finM g cells') = edViewOf s' (finM g cells) := by rw [ek.kl.finM]

theorem EdKeeps.scr (l : Lbl) (ek : EdKeeps g s cells s' cells') :
    edScriptOf g l s' cells' = edScriptOf g l s cells := by
  have c := ek.core
  have hs : scrM g cells' = scrM g cells := ek.kl.scripts
  simp only [edScriptOf, ek.kl.finM, hs, c.pre, c.suf, c.flen, c.tlen, c.nt, c.nf, edPathScripts_core c,
    ptrace_congr (c.edT _), edFin_core c]

/-- `on_diff` forces the matrix to completion and visits the cells on the cached path -/
theorem edOnDiff_ok (h : Protocol rec g) (q : Bool) (F : Nat) (l : Lbl) (inv : EdInv g s cells)
    (hmu : edMu0 s + muLLg g cells < F) :
    ∃ s' cells', onDiffB rec q F (.ed l s cells) = .ok (.ed l s' cells') ∧ EdKeeps g s cells s' cells' := by
  obtain ⟨s1, c1, e1, ek1, hsome⟩ := edEnsure_ok h q F inv hmu
  obtain ⟨tr, htr⟩ := Option.isSome_iff_exists.mp hsome
  obtain ⟨c2, e2, K2⟩ := onPath_ok h s1 tr.reverse c1 ek1.inv.cellsI ek1.inv.shape (ek1.inv.cache_valid htr)
  refine ⟨s1, c2, bind_of_eq e1 ?_, ek1.trans (EdKeeps.ofCells h ek1.inv K2)⟩
  dsimp only
  rw [htr]
  exact bind_of_eq e2 rfl

/-- the script dump: the cells on the cached path are dumped, then `bounds()` is read -/
theorem edDump_ok (h : Protocol rec g) (q : Bool) (F : Nat) (l : Lbl) (inv : EdInv g s cells)
    (hmu : edMu0 s + muLLg g cells < F) :
    ∃ s' cells', dumpB (fun x => boundsB rec F x) rec q F (.ed l s cells) = .ok (.ed l s' cells', edScriptOf g l s cells) ∧
      EdKeeps g s cells s' cells' := by
  obtain ⟨s1, c1, e1, ek1, hsome⟩ := edEnsure_ok h q F inv hmu
  obtain ⟨tr, htr⟩ := Option.isSome_iff_exists.mp hsome
  have inv1 := ek1.inv
  have hpc := inv1.jc hsome
  have hall : DefAll g s1 c1 := fun r cc m hr hc hd hm' =>
    inv1.defs r cc m hr hc ⟨hd.1, hd.2, hpc.1, Nat.le_trans (Nat.add_le_add hd.1 hd.2) hpc.2, Or.inr hsome⟩ hm'
  obtain ⟨c2, e2, K2⟩ := dumpPath_ok h s1 tr.reverse c1 inv1.cellsI inv1.shape (inv1.cache_valid htr) hall
  have ek2 := ek1.trans (EdKeeps.ofCells h inv1 K2)
  obtain ⟨s3, c3, e3, ek3, _⟩ := edBounds_keeps h F ek2.inv
    (Nat.lt_of_le_of_lt (Nat.le_trans (Nat.le_add_left _ _) ek2.mu0) hmu)
  refine ⟨s3, c3, bind_of_eq e1 ?_, ek2.trans ek3⟩
  dsimp only
  rw [htr]
  refine bind_of_eq e2 (bind_of_eq (bind_of_eq e3 rfl) ?_)
  rw [← ek1.scr l, edView_complete _ (inv1.complete_iff.mpr hpc), K2.finM, inv1.cv tr htr]
  rfl

/-- `edits()` at the root: the names along the cached path -/
theorem edEdits_ok (h : Protocol rec g) (q : Bool) (F : Nat) (l : Lbl) (inv : EdInv g s cells)
    (hmu : edMu0 s + muLLg g cells < F) :
    ∃ s' cells' names, editsOp rec q F (.ed l s cells) = .ok (.ed l s' cells', names) ∧
      EdKeeps g s cells s' cells' := by
  obtain ⟨s1, c1, e1, ek1, hsome⟩ := edEnsure_ok h q F inv hmu
  obtain ⟨tr, htr⟩ := Option.isSome_iff_exists.mp hsome
  obtain ⟨names, en⟩ := pathNames_ok s1 tr.reverse c1 ek1.inv.shape (ek1.inv.cache_valid htr)
  refine ⟨s1, c1, some (List.replicate s1.pre "Match" ++ names ++ List.replicate s1.suf "Match"), bind_of_eq e1 ?_, ek1⟩
  dsimp only
  rw [htr]
  exact bind_of_eq en rfl

end

end

end GtModel.Lazy
