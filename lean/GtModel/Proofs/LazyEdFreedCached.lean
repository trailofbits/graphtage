/-
  EditDistance, a local invariant for ANY behaviour of the cells (it serves the local theorems of C05):
    J s  :=  the matrix is freed  ⇒  the script is cached
  is preserved by every method: a method either leaves `freed` and `cache` alone or ends with the script cached.
  For cells that obey the protocol the same fact is part of `EdInv` (field `jf`).  Every proof walks through the
  method's body, one `>>=` and one branch at a time.
-/
import GtModel.Proofs.LazyEdLoop
import GtModel.Proofs.ExceptBasic

namespace GtModel.Lazy

/-- the part of the state that only `_cleanup()` / `edits()` touch is unchanged -/
def EdSt.fcEq (s s' : EdSt) : Prop := s'.freed = s.freed ∧ s'.cache = s.cache

theorem EdSt.fcEq.refl (s : EdSt) : s.fcEq s := ⟨rfl, rfl⟩
theorem EdSt.fcEq.trans {a b c : EdSt} (h1 : a.fcEq b) (h2 : b.fcEq c) : a.fcEq c :=
  ⟨h2.1.trans h1.1, h2.2.trans h1.2⟩

theorem addNode_fc (s : EdSt) (r c : Nat) : ∀ s', addNode s r c = .ok s' → s.fcEq s' := by
  unfold addNode
  refine Part.ite (fun _ => Part.pure (.refl s)) fun _ => Part.ite (fun _ => ?_) fun _ =>
    Part.ite (fun _ => ?_) fun _ => Part.pure (.refl s)
  -- three reads, two writes
  all_goals exact Part.bind fun _ _ => Part.bind fun _ _ => Part.bind fun _ _ => Part.bind fun _ _ =>
    Part.bind fun _ _ => Part.pure ⟨rfl, rfl⟩

theorem addNodes_fc : ∀ (l : List (Nat × Nat)) (s s' : EdSt), addNodes s l = .ok s' → s.fcEq s'
  | [], s, _, h => by cases h; exact .refl s
  | (r, c) :: rest, s, s', h => by
    rw [addNodes] at h
    obtain ⟨s1, h1, h2⟩ := bind_ok.1 h
    exact (addNode_fc s r c s1 h1).trans (addNodes_fc rest s1 s' h2)

theorem nextFringe_fc (s : EdSt) : ∀ r, nextFringe s = .ok r → s.fcEq r.1 := by
  unfold nextFringe
  exact Part.ite (fun _ => Part.pure (.refl s)) fun _ => Part.bind fun s2 h2 => Part.pure (addNodes_fc _ _ s2 h2 :)

theorem bestMatch_fc (rec : Ops) (s : EdSt) (cells : List (List M)) (row col : Nat) :
    ∀ r, bestMatch rec s cells row col = .ok r → s.fcEq r.1 := by
  unfold bestMatch
  refine Part.ite (fun _ => Part.ite (fun _ => Part.throw) fun _ => Part.pure (.refl s)) fun _ =>
    Part.ite (fun _ => Part.pure (.refl s)) fun _ => ?_
  -- six table reads, two list reads; then the cell is read or not; the two writes change only the tables
  refine Part.bind fun _ _ => Part.bind fun _ _ => Part.bind fun _ _ => Part.bind fun _ _ => Part.bind fun _ _ =>
    Part.bind fun _ _ => Part.bind fun _ _ => Part.bind fun _ _ => Part.ite (fun _ => ?_) fun _ => ?_
  · refine Part.bind fun _ _ => Part.bind fun _ _ => Part.ite (fun _ => Part.bind fun _ h => nomatch h) fun _ => ?_
    exact Part.bind fun _ _ => Part.bind fun _ _ => Part.bind fun _ _ => Part.bind fun _ _ => Part.pure ⟨rfl, rfl⟩
  · exact Part.bind fun _ _ => Part.bind fun _ _ => Part.bind fun _ _ => Part.pure ⟨rfl, rfl⟩

theorem processFringe_fc (rec : Ops) (n : Nat) (ra : Bool) : ∀ (l : List (Nat × Nat)) (s : EdSt) (cells : List (List M)),
    ∀ r, processFringe rec n ra s cells l = .ok r → s.fcEq r.1
  | [], s, _, _, h => by cases h; exact .refl s
  | (row, col) :: rest, s, cells, r, h => by
    rw [processFringe] at h
    revert r
    have tail : ∀ cells1, Part (bestMatch rec s cells1 row col >>= fun x => processFringe rec n ra x.1 x.2.1 rest)
        (s.fcEq ·.1) := fun cells1 => Part.bind fun _ h1 r h =>
      (bestMatch_fc rec s cells1 row col _ h1).trans (processFringe_fc rec n ra rest _ _ r h)
    refine Part.ite (fun _ => tail cells) fun _ => ?_
    exact Part.bind fun _ _ => Part.bind fun _ _ => Part.bind fun _ _ =>
      Part.ite (fun _ => Part.bind fun _ h => nomatch h) fun _ => Part.bind fun cells1 _ => tail cells1

theorem backTrace_fc (rec : Ops) : ∀ (k : Nat) (s s' : EdSt) (cells cells' : List (List M)) (row col : Nat)
    (acc tr : List (EditMatrix.Move × Nat × Nat)),
    backTrace rec k s cells row col acc = .ok (s', cells', tr) → s.fcEq s'
  | 0, _, _, _, _, _, _, _, _, h => by cases h
  | k + 1, s, s', cells, cells', row, col, acc, tr, h => by
    rw [backTrace] at h
    split at h
    · cases h; exact .refl s
    · obtain ⟨⟨s1, c1, mv⟩, h1, h2⟩ := bind_ok.1 h
      exact (bestMatch_fc rec s cells row col _ h1).trans (backTrace_fc rec k _ _ _ _ _ _ _ _ h2)

def EdSt.J (s : EdSt) : Prop := s.freed = true → s.cache.isSome = true

def EdSt.JStep (s s' : EdSt) : Prop := s.fcEq s' ∨ s'.cache.isSome = true

theorem EdSt.JStep.refl (s : EdSt) : s.JStep s := .inl (.refl s)

theorem EdSt.JStep.trans {a b c : EdSt} (h1 : a.JStep b) (h2 : b.JStep c) : a.JStep c :=
  h2.elim (fun e2 => h1.elim (fun e1 => .inl (e1.trans e2)) (fun c1 => .inr (e2.2 ▸ c1))) .inr

theorem EdSt.JStep.J {s s' : EdSt} (h : s.JStep s') (hj : s.J) : s'.J :=
  h.elim (fun e hf => e.2 ▸ hj (e.1 ▸ hf)) (fun c _ => c)

theorem edFinalize_cached (rec : Ops) (n : Nat) (s : EdSt) (cells : List (List M)) :
    ∀ r, edFinalize rec n s cells = .ok r → r.1.cache.isSome = true ∧ r.1.freed = true := by
  unfold edFinalize
  refine Part.ite (fun _ => Part.bind fun _ h => nomatch h) fun _ => ?_
  -- the last cell is tightened (three calls) or not; the back-trace; then `cache` and `freed` are set
  split
  · exact Part.bind fun _ _ => Part.bind fun _ _ => Part.pure ⟨rfl, rfl⟩
  · exact Part.bind fun _ _ => Part.bind fun _ _ => Part.bind fun _ _ => Part.bind fun _ _ => Part.pure ⟨rfl, rfl⟩

theorem edBounds_jstep (rec : Ops) (n : Nat) (s : EdSt) (cells : List (List M)) :
    ∀ r, edBounds rec n s cells = .ok r → s.JStep r.1 := by
  unfold edBounds
  refine Part.ite (fun _ => Part.ite (fun _ => ?_) fun _ => ?_) fun _ => Part.ite (fun _ => ?_) fun _ => ?_
  · exact Part.bind fun _ hF => Part.bind fun _ _ => Part.pure (.inr (edFinalize_cached rec n s cells _ hF).1)
  · exact Part.bind fun _ h => by cases h; exact Part.bind fun _ _ => Part.pure (EdSt.JStep.refl s)
  · exact Part.bind fun _ _ => Part.pure (EdSt.JStep.refl s)
  · exact Part.bind fun _ _ => Part.bind fun _ _ => Part.bind fun _ _ => Part.bind fun _ _ => Part.bind fun _ _ =>
      Part.pure (EdSt.JStep.refl s)

theorem edTightenComplete_jstep (rec : Ops) (n : Nat) (s : EdSt) (cells : List (List M)) :
    ∀ r, edTightenComplete rec n s cells = .ok r → s.JStep r.1 := by
  unfold edTightenComplete
  split
  · exact Part.bind fun _ hB => Part.pure (edBounds_jstep rec n s _ _ hB)
  · refine Part.bind fun _ _ => Part.bind fun _ _ => Part.ite (fun _ => ?_) fun _ => ?_
    · exact Part.bind fun _ _ => Part.bind fun _ _ => Part.pure (EdSt.JStep.refl s)
    · exact Part.bind fun _ _ => Part.bind fun _ hB => Part.pure (edBounds_jstep rec n s _ _ hB)

theorem edLoopDone_jstep (rec : Ops) (n : Nat) (s : EdSt) (cells : List (List M)) :
    ∀ r, edLoopDone rec n s cells = .ok r → s.JStep r.1 := by
  unfold edLoopDone
  split
  · exact Part.bind fun _ hB => Part.pure (edBounds_jstep rec n s _ _ hB)
  · refine Part.bind fun _ _ => Part.bind fun _ _ => Part.bind fun _ _ => Part.ite (fun _ => ?_) fun _ => ?_
    · refine Part.bind fun _ hT => Part.ite (fun _ => ?_) fun _ => Part.pure (edTightenComplete_jstep rec n s _ _ hT :)
      exact Part.bind fun _ hB => Part.pure
        ((edTightenComplete_jstep rec n s _ _ hT).trans (edBounds_jstep rec n _ _ _ hB))
    · exact Part.bind fun _ hB => Part.pure (edBounds_jstep rec n s _ _ hB)

theorem edLoopFringe_fc (rec : Ops) (q : Bool) (n : Nat) (first : Bool) (s : EdSt) (cells : List (List M)) :
    ∀ r, edLoopFringe rec q n first s cells = .ok r → s.fcEq r.1 := by
  unfold edLoopFringe
  refine Part.ite (fun _ => Part.pure (.refl s)) fun _ => Part.ite (fun _ => ?_) fun _ => ?_
  · exact Part.bind fun _ _ => processFringe_fc rec n _ _ s _
  · exact Part.bind fun _ _ => processFringe_fc rec n _ _ s _

theorem edBuildLoop_jstep (rec : Ops) (q : Bool) (n : Nat) (initial : Iv) :
    ∀ (k : Nat) (s : EdSt) (cells : List (List M)), ∀ r, edBuildLoop rec q n initial k s cells = .ok r → s.JStep r.1
  | 0, _, _, _, h => by cases h
  | k + 1, s, cells, r, h => by
    rw [edBuildLoop_unfold] at h
    revert r
    refine Part.bind fun ⟨s1, ok⟩ hv => ?_
    have st1 : s.JStep s1 := .inl (nextFringe_fc s _ hv)
    refine Part.ite (fun _ => Part.ite (fun _ => Part.bind fun _ h => nomatch h) fun _ r h =>
      st1.trans (edLoopDone_jstep rec n _ cells r h)) fun _ => Part.bind fun ⟨s2, c2⟩ h2 => ?_
    -- a fringe was swept; unless the bounds moved the loop goes round again
    have st2 : s.JStep s2 := st1.trans (.inl (edLoopFringe_fc rec q n _ _ cells _ h2))
    unfold edLoopCheck
    exact Part.bind fun _ _ => Part.ite (fun _ => Part.pure st2) fun _ => Part.bind fun _ _ =>
      Part.ite (fun _ => Part.pure st2) fun _ r h => st2.trans (edBuildLoop_jstep rec q n initial k _ _ r h)

theorem edTighten_jstep (rec : Ops) (q : Bool) (n : Nat) (s : EdSt) (cells : List (List M)) :
    ∀ r, edTighten rec q n s cells = .ok r → s.JStep r.1 := by
  unfold edTighten
  exact Part.ite (fun _ => Part.pure (EdSt.JStep.refl s)) fun _ => Part.ite (fun _ => Part.pure (EdSt.JStep.refl s)) fun _ =>
    Part.ite (fun _ => edTightenComplete_jstep rec n s cells) fun _ => Part.bind fun _ hB r h =>
      (edBounds_jstep rec n s cells _ hB).trans (edBuildLoop_jstep rec q n _ n _ _ r h)

theorem edRunToComplete_jstep (rec : Ops) (q : Bool) (n : Nat) :
    ∀ (k : Nat) (s : EdSt) (cells : List (List M)), ∀ r, edRunToComplete rec q n k s cells = .ok r → s.JStep r.1
  | 0, _, _, _, h => by cases h
  | k + 1, s, cells, r, h => by
    rw [edRunToComplete] at h
    revert r
    refine Part.ite (fun _ => Part.pure (EdSt.JStep.refl s)) fun _ => Part.bind fun ⟨s1, c1, ret⟩ hv => ?_
    have st1 : s.JStep s1 := edTighten_jstep rec q n s cells _ hv
    exact Part.ite (fun _ r h => st1.trans (edRunToComplete_jstep rec q n k _ _ r h)) fun _ => Part.pure st1

theorem edEnsure_jstep (rec : Ops) (q : Bool) (n : Nat) (s : EdSt) (cells : List (List M)) :
    ∀ r, edEnsure rec q n s cells = .ok r → s.JStep r.1 := by
  unfold edEnsure
  refine Part.ite (fun _ => Part.pure (EdSt.JStep.refl s)) fun _ => Part.ite (fun _ => Part.bind fun _ _ => Part.pure (.inr rfl))
    fun _ => Part.bind fun ⟨s1, c1⟩ hv => ?_
  have st1 : s.JStep s1 := edRunToComplete_jstep rec q n n s cells _ hv
  exact Part.ite (fun _ => Part.bind fun _ h => nomatch h) fun _ => Part.ite (fun _ => Part.pure st1) fun _ r h =>
    .inr (edFinalize_cached rec n _ _ r h).1

theorem edInit_J (ps : Nat × Nat) (fs ts : List Nat) (pen : Nat) : (edInit ps fs ts pen).J := by
  intro h; simp [edInit] at h

theorem ed_freed_cached (rec : Ops) (q : Bool) (n : Nat) (l : Lbl) (s : EdSt) (cells : List (List M)) (hj : s.J) :
    (∀ m' b, boundsB rec n (.ed l s cells) = .ok (m', b) → ∃ s' c', m' = .ed l s' c' ∧ s'.J) ∧
    (∀ m' r, tightenB rec q n (.ed l s cells) = .ok (m', r) → ∃ s' c', m' = .ed l s' c' ∧ s'.J) ∧
    (∀ m', onDiffB rec q n (.ed l s cells) = .ok m' → ∃ s' c', m' = .ed l s' c' ∧ s'.J) := by
  refine ⟨fun m' b h => ?_, fun m' r h => ?_, fun m' h => ?_⟩
  · obtain ⟨v, hv, h⟩ := bind_ok.1 h
    cases h
    exact ⟨_, _, rfl, (edBounds_jstep rec n s cells v hv).J hj⟩
  · obtain ⟨v, hv, h⟩ := bind_ok.1 h
    cases h
    exact ⟨_, _, rfl, (edTighten_jstep rec q n s cells v hv).J hj⟩
  · obtain ⟨v, hv, h⟩ := bind_ok.1 h
    obtain ⟨_, _, h⟩ := bind_ok.1 h
    cases h
    exact ⟨_, _, rfl, (edEnsure_jstep rec q n s cells v hv).J hj⟩

end GtModel.Lazy
