/-
  `build_tree`: documents with distinct keys give well-formed trees; node equality of built trees is equality of
  the documents as data (`Doc.dataEq`).
-/
import GtModel.Proofs.ZeroMain
import GtModel.Proofs.ZeroSort

namespace GtModel

theorem Doc.ind {P : Doc → Prop} (scalar : ∀ s, P (.scalar s))
    (list : ∀ cs, (∀ c ∈ cs, P c) → P (.list cs))
    (obj : ∀ kvs, (∀ p ∈ kvs, P p.2) → P (.obj kvs)) : ∀ d, P d := by
  intro d
  induction h : sizeOf d using Nat.strongRecOn generalizing d with
  | _ n ih =>
    subst h
    cases d with
    | scalar s => exact scalar s
    | list cs =>
      refine list cs fun c hc => ih _ ?_ c rfl
      have := List.sizeOf_lt_of_mem hc
      simp only [Doc.list.sizeOf_spec]; omega
    | obj kvs =>
      refine obj kvs fun p hp => ih _ ?_ p.2 rfl
      have h1 := List.sizeOf_lt_of_mem hp
      have h2 : sizeOf p.2 < sizeOf p := by cases p; simp only [Prod.mk.sizeOf_spec]; omega
      simp only [Doc.obj.sizeOf_spec]; omega

theorem buildL_eq_map (o : Opts) : ∀ cs, build.buildL o cs = cs.map (build o) := by
  intro cs; induction cs with
  | nil => rfl
  | cons c cs ih => rw [build.buildL, ih, List.map_cons]

theorem buildKV_eq_map (o : Opts) : ∀ kvs, build.buildKV o kvs = kvs.map (fun p => (p.1, build o p.2)) := by
  intro cs; induction cs with
  | nil => rfl
  | cons c cs ih => rw [build.buildKV, ih, List.map_cons]

theorem buildKV_keys (o : Opts) (kvs : List (Str × Doc)) : keysOf (build.buildKV o kvs) = kvs.map Prod.fst := by
  rw [buildKV_eq_map, keysOf, List.map_map]; rfl

theorem build_list (o : Opts) (cs : List Doc) : build o (.list cs) = .list (cs.map (build o)) := by
  rw [build, buildL_eq_map]

theorem build_obj (o : Opts) (kvs : List (Str × Doc)) :
    build o (.obj kvs) = if o.ake then .dict (sortKV (build.buildKV o kvs)) else .fdict (build.buildKV o kvs) := by
  rw [build]

mutual
/-- distinct keys per object (what a JSON/YAML parser hands to `build_tree`) -/
def Doc.distinctKeys : Doc → Bool
  | .scalar _ => true
  | .list cs => dkL cs
  | .obj kvs => decide ((kvs.map Prod.fst).Nodup) && dkKV kvs
def dkL : List Doc → Bool
  | [] => true
  | c :: cs => c.distinctKeys && dkL cs
def dkKV : List (Str × Doc) → Bool
  | [] => true
  | (_, v) :: rest => v.distinctKeys && dkKV rest
end

theorem dkL_iff : ∀ (cs : List Doc), dkL cs = true ↔ ∀ c ∈ cs, c.distinctKeys = true := by
  intro cs
  induction cs with
  | nil => simp [dkL]
  | cons c cs ih => simp [dkL, ih]

theorem dkKV_iff : ∀ (kvs : List (Str × Doc)), dkKV kvs = true ↔ ∀ p ∈ kvs, p.2.distinctKeys = true := by
  intro kvs
  induction kvs with
  | nil => simp [dkKV]
  | cons p kvs ih => obtain ⟨k, v⟩ := p; simp [dkKV, ih]

theorem Doc.distinctKeys_list (cs : List Doc) :
    (Doc.list cs).distinctKeys = true ↔ ∀ c ∈ cs, c.distinctKeys = true := by
  rw [Doc.distinctKeys, dkL_iff]

theorem Doc.distinctKeys_obj (kvs : List (Str × Doc)) :
    (Doc.obj kvs).distinctKeys = true ↔ (kvs.map Prod.fst).Nodup ∧ ∀ p ∈ kvs, p.2.distinctKeys = true := by
  rw [Doc.distinctKeys, Bool.and_eq_true, decide_eq_true_eq, dkKV_iff]

theorem build_WF (o : Opts) (d : Doc) (h : d.distinctKeys = true) : (build o d).WF = true := by
  induction d using Doc.ind with
  | scalar s => rfl
  | list cs ih =>
    rw [Doc.distinctKeys_list] at h
    rw [build_list, Tree.wf_list]
    intro c hc
    obtain ⟨d, hd, rfl⟩ := List.mem_map.1 hc
    exact ih d hd (h d hd)
  | obj kvs ih =>
    rw [Doc.distinctKeys_obj, ← buildKV_keys o] at h
    have hvals : ∀ p ∈ build.buildKV o kvs, p.2.WF = true := by
      intro p hp
      rw [buildKV_eq_map] at hp
      obtain ⟨q, hq, rfl⟩ := List.mem_map.1 hp
      exact ih q hq (h.2 q hq)
    rw [build_obj]
    split
    · rw [Tree.wf_dict]
      exact ⟨sortKV_keys_nodup h.1, fun p hp => hvals p (mem_sortKV.1 hp)⟩
    · rw [Tree.wf_fdict]
      exact ⟨h.1, hvals⟩

def keysSub (as bs : List (Str × Doc)) : Bool := as.all fun p => bs.any fun q => p.1 == q.1

mutual
/-- Equality of documents as DATA: scalars by value and type, lists element-wise in order, objects as finite
    maps (same key set, equal values under equal keys; the order of the pairs is irrelevant). -/
def Doc.dataEq : Doc → Doc → Bool
  | .scalar a, .scalar b => a.eq b
  | .list as, .list bs => dataEqL as bs
  | .obj as, .obj bs => keysSub as bs && keysSub bs as && agreeKV as bs
  | _, _ => false
def dataEqL : List Doc → List Doc → Bool
  | [], [] => true
  | a :: as, b :: bs => a.dataEq b && dataEqL as bs
  | _, _ => false
/-- values under equal keys are equal -/
def agreeKV : List (Str × Doc) → List (Str × Doc) → Bool
  | [], _ => true
  | (k, v) :: rest, bs => agree1 k v bs && agreeKV rest bs
def agree1 (k : Str) (v : Doc) : List (Str × Doc) → Bool
  | [] => true
  | (k', v') :: rest => (!(k == k') || v.dataEq v') && agree1 k v rest
end

theorem keysSub_iff (as bs : List (Str × Doc)) :
    keysSub as bs = true ↔ ∀ p ∈ as, p.1 ∈ bs.map Prod.fst := by
  simp only [keysSub, List.all_eq_true, List.any_eq_true, beq_iff_eq, List.mem_map]
  exact forall₂_congr fun p _ => exists_congr fun q => and_congr_right fun _ => eq_comm

theorem agree1_iff (k : Str) (v : Doc) : ∀ (bs : List (Str × Doc)),
    agree1 k v bs = true ↔ ∀ q ∈ bs, k = q.1 → v.dataEq q.2 = true := by
  intro bs
  induction bs with
  | nil => simp [agree1]
  | cons b bs ih =>
    rw [agree1, Bool.and_eq_true, ih, List.forall_mem_cons, Bool.or_eq_true, Bool.not_eq_true', beq_eq_false_iff_ne,
      Decidable.imp_iff_not_or]

theorem agreeKV_iff : ∀ (as bs : List (Str × Doc)),
    agreeKV as bs = true ↔ ∀ p ∈ as, ∀ q ∈ bs, p.1 = q.1 → p.2.dataEq q.2 = true := by
  intro as bs
  induction as with
  | nil => simp [agreeKV]
  | cons a as ih => rw [agreeKV, Bool.and_eq_true, ih, agree1_iff, List.forall_mem_cons]

theorem dataEqL_eq_all₂ : ∀ (as bs : List Doc), dataEqL as bs = all₂ Doc.dataEq as bs :=
  eq_all₂_of_rec (by rw [dataEqL]) (fun _ _ _ _ => by rw [dataEqL]) (fun _ _ => by simp [dataEqL])
    (fun _ _ => by simp [dataEqL])

theorem eqL_build (f : Doc → Tree) (as bs : List Doc) (h : ∀ a ∈ as, ∀ b ∈ bs, (f a).eq (f b) = a.dataEq b) :
    eqL (as.map f) (bs.map f) = dataEqL as bs := by
  rw [Bool.eq_iff_iff, eqL_iff_forall₂, dataEqL_eq_all₂, all₂_iff, Builder.Forall2.map_iff]
  exact Builder.Forall2.imp_iff fun a ha b hb => by rw [h a ha b hb]

theorem kvRel_sortKV (X Y : List (Str × Tree)) : kvRel (sortKV X) (sortKV Y) ↔ kvRel X Y := by
  simp only [kvRel, sortKV_length, mem_sortKV]

theorem kvRel_build_iff (o : Opts) (as bs : List (Str × Doc))
    (ha : (as.map Prod.fst).Nodup) (hb : (bs.map Prod.fst).Nodup)
    (ih : ∀ p ∈ as, ∀ q ∈ bs, (build o p.2).eq (build o q.2) = p.2.dataEq q.2) :
    kvRel (build.buildKV o as) (build.buildKV o bs) ↔
      (keysSub as bs = true ∧ keysSub bs as = true) ∧ agreeKV as bs = true := by
  rw [← buildKV_keys o] at ha hb
  rw [kvRel_iff_of_nodup ha hb, buildKV_keys, buildKV_keys, keysSub_iff, keysSub_iff, agreeKV_iff, buildKV_eq_map,
    buildKV_eq_map, and_assoc]
  simp only [List.forall_mem_map]
  refine and_congr_right fun _ => and_congr_right fun _ => ?_
  exact forall₂_congr fun p hp => forall₂_congr fun q hq => by rw [ih p hp q hq]

theorem eq_iff_dataEq (o : Opts) (a : Doc) : ∀ (b : Doc), a.distinctKeys = true → b.distinctKeys = true →
    (build o a).eq (build o b) = a.dataEq b := by
  induction a using Doc.ind with
  | scalar s => intro b _ _; cases b <;> simp [build, Tree.eq, Doc.dataEq] <;> split <;> simp [Tree.eq]
  | list as ih =>
    intro b ha hb
    cases b with
    | list bs =>
      rw [Doc.distinctKeys_list] at ha hb
      rw [build_list, build_list, Tree.eq, Doc.dataEq]
      exact eqL_build (build o) as bs fun a ha' b hb' => ih a ha' b (ha a ha') (hb b hb')
    | scalar s => simp [build, Tree.eq, Doc.dataEq]
    | obj kvs => simp only [build, Doc.dataEq]; split <;> simp [Tree.eq]
  | obj as ih =>
    intro b ha hb
    cases b with
    | obj bs =>
      rw [Doc.distinctKeys_obj] at ha hb
      have key := kvRel_build_iff o as bs ha.1 hb.1 fun p hp q hq => ih p hp q.2 (ha.2 p hp) (hb.2 q hq)
      rw [build_obj, build_obj, Doc.dataEq, Bool.eq_iff_iff, Bool.and_eq_true, Bool.and_eq_true, ← key]
      split
      · rw [dict_eq_iff, kvRel_sortKV]
      · rw [fdict_eq_iff]
    | scalar s => simp only [build, Doc.dataEq]; split <;> simp [Tree.eq]
    | list cs => simp only [build, Doc.dataEq]; split <;> simp [Tree.eq]

end GtModel
