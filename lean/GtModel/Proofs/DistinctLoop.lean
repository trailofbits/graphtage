/- `make_distinct`: the interval tree mirrors the current ranges of its items, and every item outside the tree is
   already separated from all others; post-condition and termination of the main loop, the initial loop. -/
import GtModel.Proofs.DistinctLemmas

namespace GtModel.Bounded
open GtModel

variable {σ σ' : St} {tree : List Entry} {fs : List Int}

theorem finOf_some {r : Range} {lo hi : Int} (h : finOf r = some (lo, hi)) : r = ⟨.fin lo, .fin hi⟩ := by
  rcases r with ⟨l, u⟩
  cases l <;> cases u <;> simp [finOf] at h
  obtain ⟨rfl, rfl⟩ := h; rfl

theorem finOf_fin (lo hi : Int) : finOf ⟨.fin lo, .fin hi⟩ = some (lo, hi) := rfl

theorem finite_finOf {r : Range} (h : r.finite = true) : ∃ lo hi, finOf r = some (lo, hi) := by
  rcases r with ⟨l, u⟩
  cases l <;> cases u <;> simp [Range.finite, Bound.isFin] at h
  exact ⟨_, _, rfl⟩

theorem finite_shrink {x x' : Range} {n : Int} (hc : x.contains x' = true)
    (hn : x'.contains (Range.point n) = true) (h : x.finite = true) : x'.finite = true := by
  obtain ⟨l, u, hf⟩ := finite_finOf h
  rw [finOf_some hf] at hc
  obtain ⟨c1, c2⟩ := Range.contains_iff.mp hc
  obtain ⟨n1, n2⟩ := Range.contains_iff.mp hn
  simp only [Range.finite, Bool.and_eq_true]
  exact ⟨Bound.isFin_of_between c1 n1, Bound.isFin_of_between n2 c2⟩

theorem not_overlap_sep {l1 h1 : Int} {e : Entry} (hno : e.overlaps l1 h1 = false) :
    sepB ⟨.fin l1, .fin h1⟩ ⟨.fin e.lo, .fin e.hi⟩ = true := by
  simp [Entry.overlaps] at hno
  simp [sepB, Bound.lt]
  by_cases h : e.lo < h1 + 1
  · have := hno h; right; omega
  · left; right; omega

theorem pick_spec {k : Nat} {cands : List Entry} {e : Entry} (h : pick k cands = some e) :
    e ∈ cands ∧ e.idx = k ∧ ∀ m ∈ cands, m.size ≤ e.size := by
  unfold pick at h
  split at h
  · cases h
  · rename_i e' hf
    split at h <;> cases h
    rename_i hall
    exact ⟨List.mem_of_find?_eq_some hf, by simpa using List.find?_some hf, by simpa using hall⟩

theorem mem_treeAdd {e e' : Entry} : e' ∈ treeAdd tree e ↔ e' ∈ tree ∨ e' = e := by
  unfold treeAdd
  split
  · rename_i h
    exact ⟨.inl, fun h' => h'.elim id fun h' => h' ▸ List.contains_iff_mem.mp h⟩
  · simp

theorem treeAdd_length (tree : List Entry) (e : Entry) : (treeAdd tree e).length ≤ tree.length + 1 := by
  unfold treeAdd; split <;> simp

theorem treeAdd_nodup (h : tree.Nodup) (e : Entry) : (treeAdd tree e).Nodup := by
  unfold treeAdd
  split
  · exact h
  · rename_i hc
    refine List.nodup_append.mpr ⟨h, by simp, fun a ha b hb hab => hc (List.contains_iff_mem.mpr ?_)⟩
    rw [← List.mem_singleton.mp hb, ← hab]; exact ha

theorem readd_spec {tree tree' : List Entry} {k : Nat} (h : readd tree σ k = some tree') :
    ∃ lo hi a, σ[k]? = some a ∧ a.cur = ⟨.fin lo, .fin hi⟩ ∧
      ((tree' = tree ∧ ∀ e ∈ tree, e.overlaps lo hi = false) ∨ tree' = treeAdd tree ⟨k, lo, hi⟩) := by
  unfold readd at h
  split at h
  · cases h
  · rename_i lo hi hf
    unfold curAt at hf
    cases ha : σ[k]? with
    | none => simp [ha] at hf
    | some a =>
      simp [ha] at hf
      refine ⟨lo, hi, a, rfl, finOf_some hf, ?_⟩
      cases h
      split
      · exact .inr rfl
      · rename_i hany
        simp at hany
        exact .inl ⟨rfl, fun e he => by simpa using hany e he⟩

theorem readd_length {tree tree' : List Entry} {k : Nat} (h : readd tree σ k = some tree') :
    tree'.length ≤ tree.length + 1 := by
  obtain ⟨lo, hi, a, _, _, ⟨rfl, _⟩ | rfl⟩ := readd_spec h
  · exact Nat.le_succ _
  · exact treeAdd_length _ _

theorem eq_of_length_le_one {l : List Entry} (h : l.length ≤ 1) {a b : Entry} (ha : a ∈ l) (hb : b ∈ l) : a = b := by
  cases l with
  | nil => cases ha
  | cons e t =>
    cases t with
    | nil => rw [List.mem_singleton] at ha hb; rw [ha, hb]
    | cons _ _ => exact absurd h (by simp)

theorem length_erase_add_one {l : List Entry} {e : Entry} (h : e ∈ l) : (l.erase e).length + 1 = l.length := by
  have := List.length_pos_of_mem h
  rw [List.length_erase_of_mem h]; omega

def InTree (tree : List Entry) (i : Nat) : Prop := ∃ e ∈ tree, e.idx = i

structure TreeOK (σ : St) (tree : List Entry) : Prop where
  sync : ∀ e ∈ tree, ∃ a, σ[e.idx]? = some a ∧ a.cur = ⟨.fin e.lo, .fin e.hi⟩
  nodup : tree.Nodup
  inj : ∀ e1 ∈ tree, ∀ e2 ∈ tree, e1.idx = e2.idx → e1 = e2

/-- separated from every other item, now and (by `SepAt.reach`) for ever -/
def Settled (σ : St) (i : Nat) : Prop := ∀ j, j ≠ i → SepAt σ i j

def AllSep (σ : St) : Prop := ∀ i j, i ≠ j → SepAt σ i j

/-- the invariant of the main loop: an item that has lost its interval is settled, so that the work left is among the
items of the tree -/
structure MDInv (σ : St) (tree : List Entry) (fs : List Int) : Prop where
  valid : ValidSt σ fs
  ok : TreeOK σ tree
  settled : ∀ i, InTree tree i ∨ Settled σ i

theorem TreeOK.nil (σ : St) : TreeOK σ [] :=
  ⟨fun _ he => (List.not_mem_nil he).elim, List.nodup_nil, fun _ he => (List.not_mem_nil he).elim⟩

theorem TreeOK.lt_length (h : TreeOK σ tree) {e : Entry} (he : e ∈ tree) :
    e.idx < σ.length := by
  obtain ⟨a, ha, _⟩ := h.sync e he
  exact (List.getElem?_eq_some_iff.mp ha).1

theorem TreeOK.finite (h : TreeOK σ tree) {e : Entry} (he : e ∈ tree) {a : Item}
    (ha : σ[e.idx]? = some a) : a.cur.finite = true := by
  obtain ⟨a', ha', ec⟩ := h.sync e he
  rw [ha] at ha'; cases ha'
  rw [ec]; rfl

theorem TreeOK.mem_erase (h : TreeOK σ tree) {e x : Entry} :
    e ∈ tree.erase x ↔ e ≠ x ∧ e ∈ tree := h.nodup.mem_erase_iff

theorem TreeOK.sub {tree T : List Entry} (h : TreeOK σ tree) (hs : T.Sublist tree)
    (hf : ∀ e ∈ T, σ'[e.idx]? = σ[e.idx]?) : TreeOK σ' T :=
  ⟨fun e he => by rw [hf e he]; exact h.sync e (hs.subset he), h.nodup.sublist hs,
    fun e1 h1 e2 h2 => h.inj e1 (hs.subset h1) e2 (hs.subset h2)⟩

theorem TreeOK.erase (h : TreeOK σ tree) (x : Entry) : TreeOK σ (tree.erase x) :=
  h.sub List.erase_sublist fun _ _ => rfl

theorem TreeOK.add {T : List Entry} (h : TreeOK σ T) {k : Nat} {a : Item} {lo hi : Int}
    (hk : ∀ e ∈ T, e.idx ≠ k) (ha : σ[k]? = some a) (hc : a.cur = ⟨.fin lo, .fin hi⟩) :
    TreeOK σ (treeAdd T ⟨k, lo, hi⟩) := by
  refine ⟨fun e he => ?_, treeAdd_nodup h.nodup _, fun e1 h1 e2 h2 he => ?_⟩
  · rcases mem_treeAdd.mp he with h' | rfl
    · exact h.sync e h'
    · exact ⟨a, ha, hc⟩
  · rcases mem_treeAdd.mp h1 with h1 | rfl <;> rcases mem_treeAdd.mp h2 with h2 | rfl
    · exact h.inj e1 h1 e2 h2 he
    · exact absurd he (hk e1 h1)
    · exact absurd he.symm (hk e2 h2)
    · rfl

theorem TreeOK.sep_of_not_overlap {T : List Entry} (h : TreeOK σ T) {k : Nat} {a : Item} {lo hi : Int}
    (ha : σ[k]? = some a) (hc : a.cur = ⟨.fin lo, .fin hi⟩) (hno : ∀ e ∈ T, e.overlaps lo hi = false) {e : Entry}
    (he : e ∈ T) : SepAt σ k e.idx := by
  intro a' b ha' hb
  obtain ⟨b', hb', ecb⟩ := h.sync e he
  rw [ha] at ha'; rw [hb] at hb'; cases ha'; cases hb'
  rw [hc, ecb]; exact not_overlap_sep (hno e he)

theorem TreeOK.readd {T T' : List Entry} (h : TreeOK σ T) {k : Nat} (hk : ∀ e ∈ T, e.idx ≠ k)
    (hr : readd T σ k = some T') :
    TreeOK σ T' ∧ (∀ e ∈ T, e ∈ T') ∧ (∀ e ∈ T', e ∈ T ∨ e.idx = k) ∧
      (InTree T' k ∨ ∀ e ∈ T, SepAt σ k e.idx) := by
  obtain ⟨lo, hi, a, ha, hc, ⟨rfl, hno⟩ | rfl⟩ := readd_spec hr
  · exact ⟨h, fun _ he => he, fun _ he => .inl he, .inr fun e he => h.sep_of_not_overlap ha hc hno he⟩
  · exact ⟨h.add hk ha hc, fun e he => mem_treeAdd.mpr (.inl he), fun e he => (mem_treeAdd.mp he).imp id fun h => by rw [h],
      .inl ⟨_, mem_treeAdd.mpr (.inr rfl), rfl⟩⟩

theorem readd_some {k : Nat} {a : Item} (ha : σ[k]? = some a)
    (hf : a.cur.finite = true) : ∃ tree', readd tree σ k = some tree' := by
  obtain ⟨lo, hi, e⟩ := finite_finOf hf
  simp [readd, curAt_of_get ha, e]

theorem MDInv.allSep (inv : MDInv σ tree fs)
    (h : ∀ ei ∈ tree, ∀ ej ∈ tree, ei.idx ≠ ej.idx → SepAt σ ei.idx ej.idx) : AllSep σ := by
  intro i j hij
  rcases inv.settled i with ⟨ei, hei, rfl⟩ | hi
  · rcases inv.settled j with ⟨ej, hej, rfl⟩ | hj
    · exact h ei hei ej hej hij
    · exact (hj _ hij).symm
  · exact hi j (Ne.symm hij)

/-- the biggest interval is a point: so is every interval of the tree, and points are separated -/
theorem MDInv.allSep_of_definitive (inv : MDInv σ tree fs) {big : Entry}
    {bi : Item} (hbi : σ[big.idx]? = some bi) (hb : big ∈ tree) (hmax : ∀ m ∈ tree, m.size ≤ big.size)
    (hdef : bi.cur.definitive = true) : AllSep σ := by
  have hsz : big.size = 1 := by
    obtain ⟨_, hbi', hbc⟩ := inv.ok.sync big hb
    rw [hbi] at hbi'; cases hbi'
    obtain ⟨v, hv⟩ := Range.definitive_iff.mp hdef
    simp only [hbc, Range.point, Range.mk.injEq, Bound.fin.injEq] at hv
    simp only [Entry.size]; omega
  have pt : ∀ e ∈ tree, ∀ a, σ[e.idx]? = some a → a.cur.definitive = true := by
    intro e he a ha
    obtain ⟨a', ha', ec⟩ := inv.ok.sync e he
    rw [ha] at ha'; cases ha'
    obtain ⟨n, _, va⟩ := inv.valid.get ha
    have c := va.contains
    rw [ec, Bound.fin_le_fin, Bound.fin_le_fin] at c
    have := hmax e he
    rw [hsz, Entry.size] at this
    have : e.lo = e.hi := by omega
    rw [ec, this]; exact Range.definitive_iff.mpr ⟨_, rfl⟩
  refine inv.allSep fun ei hei ej hej _ a b ha hb' => ?_
  simp [sepB, pt ei hei a ha, pt ej hej b hb']

/-- round A: the biggest interval overlaps nothing else and is dropped -/
theorem MDInv.drop_big (inv : MDInv σ tree fs) {big : Entry}
    (hb : big ∈ tree) (hm : (tree.erase big).filter (fun e => e.overlaps big.lo big.hi) = []) :
    MDInv σ (tree.erase big) fs := by
  refine ⟨inv.valid, inv.ok.erase big, fun i => ?_⟩
  obtain ⟨bi, hbi, hbc⟩ := inv.ok.sync big hb
  have hno : ∀ e ∈ tree.erase big, e.overlaps big.lo big.hi = false := fun e he =>
    Bool.eq_false_iff.mpr fun ho => by
      have : e ∈ (tree.erase big).filter (fun e => e.overlaps big.lo big.hi) := List.mem_filter.mpr ⟨he, ho⟩
      rw [hm] at this; cases this
  have hbig : Settled σ big.idx := by
    intro j hj
    rcases inv.settled j with ⟨ej, hej, rfl⟩ | hs
    · have : ej ≠ big := fun h => hj (by rw [h])
      exact (inv.ok.erase big).sep_of_not_overlap hbi hbc hno (inv.ok.mem_erase.mpr ⟨this, hej⟩)
    · exact (hs _ (Ne.symm hj)).symm
  rcases inv.settled i with ⟨e, he, rfl⟩ | hs
  · by_cases h : e = big
    · exact .inr (h ▸ hbig)
    · exact .inl ⟨e, inv.ok.mem_erase.mpr ⟨h, he⟩, rfl⟩
  · exact .inr hs

/-- round B: the two biggest overlapping intervals are separated and possibly put back -/
theorem MDInv.separated {tree tree3 tree4 : List Entry} (inv : MDInv σ tree fs)
    {big sec : Entry} (hb : big ∈ tree) (hs : sec ∈ tree.erase big)
    (hsl : sepLoop σ big.idx sec.idx = some σ')
    (h3 : readd ((tree.erase big).erase sec) σ' big.idx = some tree3)
    (h4 : readd tree3 σ' sec.idx = some tree4) : MDInv σ' tree4 fs := by
  obtain ⟨hr, hsep, frame, _⟩ := sepLoop_spec σ big.idx sec.idx σ' hsl
  have hs' := inv.ok.mem_erase.mp hs
  have mem2 : ∀ e, e ∈ (tree.erase big).erase sec ↔ e ≠ sec ∧ e ≠ big ∧ e ∈ tree := fun e => by
    rw [(inv.ok.erase big).mem_erase, inv.ok.mem_erase]
  have idx2 : ∀ e ∈ (tree.erase big).erase sec, e.idx ≠ big.idx ∧ e.idx ≠ sec.idx := fun e he =>
    have ⟨n1, n2, ht⟩ := (mem2 e).mp he
    ⟨fun h => n2 (inv.ok.inj e ht big hb h), fun h => n1 (inv.ok.inj e ht sec hs'.2 h)⟩
  have hbs : big.idx ≠ sec.idx := fun h => hs'.1 (inv.ok.inj sec hs'.2 big hb h.symm)
  -- the intervals left in the tree belong to items the inner loop did not touch
  have ok2 : TreeOK σ' ((tree.erase big).erase sec) :=
    inv.ok.sub (List.erase_sublist.trans List.erase_sublist) fun e he => frame e.idx (idx2 e he).1 (idx2 e he).2
  obtain ⟨ok3, sub3, old3, case3⟩ := ok2.readd (fun e he => (idx2 e he).1) h3
  have idx3 : ∀ e ∈ tree3, e.idx ≠ sec.idx := fun e he =>
    (old3 e he).elim (fun h => (idx2 e h).2) fun h => h ▸ hbs
  obtain ⟨ok4, sub4, _, case4⟩ := ok3.readd idx3 h4
  -- an index that was settled stays so; `big` and `sec` are back in the tree or separated from everything
  have old : ∀ j, Settled σ j → ∀ k, k ≠ j → SepAt σ' k j := fun j h k hk => ((h k hk).reach hr inv.valid).symm
  have others : ∀ {k : Nat}, SepAt σ' k big.idx ∨ k = big.idx → SepAt σ' k sec.idx ∨ k = sec.idx →
      (∀ e ∈ (tree.erase big).erase sec, SepAt σ' k e.idx) → Settled σ' k := by
    intro k kb ks kt j hj
    rcases inv.settled j with ⟨ej, hej, rfl⟩ | h
    · by_cases h1 : ej = big
      · exact kb.elim (h1 ▸ ·) fun h => absurd (h1 ▸ h.symm) hj
      · by_cases h2 : ej = sec
        · exact ks.elim (h2 ▸ ·) fun h => absurd (h2 ▸ h.symm) hj
        · exact kt ej ((mem2 ej).mpr ⟨h2, h1, hej⟩)
    · exact old j h k (Ne.symm hj)
  refine ⟨hr.valid inv.valid, ok4, fun i => ?_⟩
  rcases inv.settled i with ⟨e, he, rfl⟩ | h
  · by_cases h1 : e = big
    · subst h1
      rcases case3 with ⟨e3, he3, hi3⟩ | sep3
      · exact .inl ⟨e3, sub4 e3 he3, hi3⟩
      · exact .inr (others (.inr rfl) (.inl hsep) sep3)
    · by_cases h2 : e = sec
      · subst h2
        rcases case4 with in4 | sep4
        · exact .inl in4
        · exact .inr (others (.inl hsep.symm) (.inr rfl) fun e he => sep4 e (sub3 e he))
      · exact .inl ⟨e, sub4 e (sub3 e ((mem2 e).mpr ⟨h2, h1, he⟩)), rfl⟩
  · exact .inr fun j hj => (old i h j hj).symm

/-- round B can be carried out, and makes progress: the inner loop tightens at least once -/
theorem MDInv.round_overlap (inv : MDInv σ tree fs) {big sec : Entry}
    {bi : Item} (hb : big ∈ tree) (hbi : σ[big.idx]? = some bi) (hndef : ¬ bi.cur.definitive = true)
    (hs : sec ∈ tree.erase big) (hov : sec.overlaps big.lo big.hi = true) :
    ∃ σ' tree3 tree4, sepLoop σ big.idx sec.idx = some σ' ∧
      readd ((tree.erase big).erase sec) σ' big.idx = some tree3 ∧ readd tree3 σ' sec.idx = some tree4 ∧
      MDInv σ' tree4 fs ∧ Reach σ σ' ∧ total σ' + tree4.length + 1 ≤ total σ + tree.length := by
  have hs' := inv.ok.mem_erase.mp hs
  obtain ⟨σ', hsl⟩ := sepLoop_some inv.valid (inv.ok.lt_length hb) (inv.ok.lt_length hs'.2)
  obtain ⟨hr, _, _, hdec⟩ := sepLoop_spec σ big.idx sec.idx σ' hsl
  -- the items of `big` and `sec` exist in `σ'` with finite ranges, so both can be looked at again
  have fin' : ∀ e ∈ tree, ∃ a', σ'[e.idx]? = some a' ∧ a'.cur.finite = true := fun e he => by
    have hlt : e.idx < σ'.length := hr.length ▸ inv.ok.lt_length he
    obtain ⟨a, _, ha, _, va', ca⟩ := hr.get inv.valid (List.getElem?_eq_getElem hlt)
    exact ⟨_, List.getElem?_eq_getElem hlt, finite_shrink ca va'.contains_point (inv.ok.finite he ha)⟩
  obtain ⟨ab, hab, fb⟩ := fin' big hb
  obtain ⟨as, has, fs'⟩ := fin' sec hs'.2
  obtain ⟨tree3, h3⟩ := readd_some (tree := (tree.erase big).erase sec) hab fb
  obtain ⟨tree4, h4⟩ := readd_some (tree := tree3) has fs'
  refine ⟨σ', tree3, tree4, hsl, h3, h4, inv.separated hb hs hsl h3 h4, hr, ?_⟩
  -- two overlapping intervals, the first not a point, fail the loop's first exit test
  have hlt : total σ' < total σ := by
    apply hdec
    intro x y hx hy
    obtain ⟨_, hbi', hbc⟩ := inv.ok.sync big hb
    obtain ⟨_, hs'', ecs⟩ := inv.ok.sync sec hs'.2
    rw [hbi] at hbi'; rw [hx] at hbi; rw [hy] at hs''; cases hbi; cases hbi'; cases hs''
    simp only [Bool.not_eq_true] at hndef
    simp [Entry.overlaps] at hov
    rw [sepB, hndef, hbc, ecs]
    simp [Bound.lt]; omega
  have l1 := length_erase_add_one hb
  have l2 := length_erase_add_one hs
  have l3 := readd_length h3
  have l4 := readd_length h4
  omega

/-- what `make_distinct` and its main loop may answer from `σ`: all items separated, the documented `ValueError`,
or an oracle choice that is refused; never out of fuel, spinning, or outside the modelled domain -/
def MDPost (σ : St) : MDRes → Prop
  | .ok σ' _ => Reach σ σ' ∧ AllSep σ'
  | .valueError σ' => Reach σ σ'
  | .badChoice => True
  | _ => False

theorem MDPost.of_reach (hr : Reach σ σ') : ∀ {res : MDRes}, MDPost σ' res → MDPost σ res
  | .ok _ _, ⟨r, s⟩ => ⟨hr.trans r, s⟩
  | .valueError _, r => hr.trans r
  | .badChoice, _ => trivial

theorem mdLoop_spec (ch : Choice) (fs : List Int) : ∀ (f r : Nat) (tree : List Entry) (σ : St),
    MDInv σ tree fs → total σ + tree.length + 1 ≤ f → MDPost σ (mdLoop ch f r tree σ) := by
  intro f
  induction f with
  | zero => intro r tree σ _ hf; omega
  | succ f ih =>
    intro r tree σ inv hf
    unfold mdLoop
    split
    · rename_i hlen
      exact ⟨.refl _, inv.allSep fun ei hei ej hej hij => absurd (congrArg Entry.idx (eq_of_length_le_one hlen hei hej)) hij⟩
    · split
      · trivial
      · rename_i big hpick
        obtain ⟨hb, _, hmax⟩ := pick_spec hpick
        obtain ⟨bi, hbi, _⟩ := inv.ok.sync big hb
        rw [hbi]
        dsimp only
        split
        · rename_i hdef
          exact ⟨.refl _, inv.allSep_of_definitive hbi hb hmax hdef⟩
        · rename_i hndef
          split
          · rename_i hme
            have l1 := length_erase_add_one hb
            exact ih (r + 1) _ σ (inv.drop_big hb (List.isEmpty_iff.mp hme)) (by omega)
          · split
            · trivial
            · rename_i sec hpick2
              obtain ⟨hs, hov⟩ := List.mem_filter.mp (pick_spec hpick2).1
              obtain ⟨σ', tree3, tree4, e1, e2, e3, inv', hr, hlt⟩ := inv.round_overlap hb hbi hndef hs hov
              simp only [e1, e2, e3]
              exact (ih (r + 1) tree4 σ' inv' (by omega)).of_reach hr

theorem mdInit_spec (fs : List Int) : ∀ (ks : List Nat) (σ : St) (tree : List Entry),
    ValidSt σ fs → TreeOK σ tree → (∀ e ∈ tree, e.idx ∉ ks) → ks.Nodup → (∀ k ∈ ks, k < σ.length) →
    match mdInit σ ks tree with
    | .ok (tree', σ') => Reach σ σ' ∧ TreeOK σ' tree' ∧ ∀ i, InTree tree i ∨ i ∈ ks → InTree tree' i
    | .error σ' => Reach σ σ'
  | [], σ, tree, _, ht, _, _, _ => ⟨.refl _, ht, fun i h => h.elim id fun h => (List.not_mem_nil h).elim⟩
  | k :: ks, σ, tree, hv, ht, hfresh, hnd, hlt => by
    have hk : k < σ.length := hlt k (List.mem_cons_self ..)
    have gk : σ[k]? = some σ[k] := List.getElem?_eq_getElem hk
    simp only [mdInit, gk]
    generalize hσ1 : (if σ[k].cur.finite = true then σ else (tightenAt σ k).2) = σ1
    have hr1 : Reach σ σ1 := by
      rw [← hσ1]; split
      · exact .refl _
      · exact .step k (.refl _)
    have ht1 : TreeOK σ1 tree := ht.sub (List.Sublist.refl _) fun e he => by
      have hne : e.idx ≠ k := fun h => hfresh e he (h ▸ List.mem_cons_self ..)
      rw [← hσ1]; split
      · rfl
      · exact tightenAt_get_ne hne
    cases hf : (curAt σ1 k).bind finOf with
    | none => exact hr1
    | some p =>
      obtain ⟨lo, hi'⟩ := p
      have hk1 : k < σ1.length := hr1.length ▸ hk
      have g1 : σ1[k]? = some σ1[k] := List.getElem?_eq_getElem hk1
      simp only [curAt_of_get g1, Option.bind_some] at hf
      have hnd' := List.nodup_cons.mp hnd
      have := mdInit_spec fs ks σ1 (treeAdd tree ⟨k, lo, hi'⟩) (hr1.valid hv)
        (ht1.add (fun e he h => hfresh e he (h ▸ List.mem_cons_self ..)) g1 (finOf_some hf))
        (fun e he => by
          rcases mem_treeAdd.mp he with h | rfl
          · exact fun hm => hfresh e h (List.mem_cons_of_mem _ hm)
          · exact hnd'.1)
        hnd'.2 (fun k' hk' => hr1.length ▸ hlt k' (List.mem_cons_of_mem _ hk'))
      dsimp only
      split at this
      · obtain ⟨r, t, m⟩ := this
        refine ⟨hr1.trans r, t, fun i hi => m i ?_⟩
        rcases hi with ⟨e, he, hi⟩ | hi
        · exact .inl ⟨e, mem_treeAdd.mpr (.inl he), hi⟩
        · rcases List.mem_cons.mp hi with rfl | hi
          · exact .inl ⟨⟨i, lo, hi'⟩, mem_treeAdd.mpr (.inr rfl), rfl⟩
          · exact .inr hi
      · exact hr1.trans this

theorem makeDistinct_spec (ch : Choice) (hv : ValidSt σ fs) :
    MDPost σ (makeDistinct ch σ) := by
  unfold makeDistinct
  have h0 := mdInit_spec fs (List.range σ.length) σ [] hv (.nil σ) (fun _ he => (List.not_mem_nil he).elim)
    List.nodup_range (fun k hk => List.mem_range.mp hk)
  split
  · rename_i σ1 heq
    rw [heq] at h0
    exact h0
  · rename_i tree σ1 heq
    rw [heq] at h0
    obtain ⟨r, t, m⟩ := h0
    -- every existing item is in the tree; an index beyond the collection is separated from everything
    have inv : MDInv σ1 tree fs := by
      refine ⟨r.valid hv, t, fun i => ?_⟩
      by_cases hi : i < σ.length
      · exact .inl (m i (.inr (List.mem_range.mpr hi)))
      · refine .inr fun j _ a b ha _ => ?_
        rw [List.getElem?_eq_none (by rw [r.length]; omega)] at ha; cases ha
    exact (mdLoop_spec ch fs _ 0 tree σ1 inv (Nat.le_refl _)).of_reach r

end GtModel.Bounded
