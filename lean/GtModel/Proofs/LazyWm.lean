/-
  WeightedBipartiteMatcher, operations: reading the edges, `bounds()`, the `make_distinct` replay, forcing the
  matching, `tighten_bounds()` with `repeat_until_tightened`.  Every operation is a `WmKeeps` step;
  `C04.matcher_protocol` projects its tuples out of these.
-/
import GtModel.Proofs.LazyWmInv

namespace GtModel.Lazy

section
variable {rec : Ops} {g : Ghost} {w : WmSt} {edges : List (List M)}

theorem wmRowPass_ok (h : Protocol rec g) : ∀ (row : List M), (∀ m ∈ row, g.I m) →
    ∃ row', wmRowPass rec row = .ok (row', row.map g.view) ∧ PresL g row row'
  | [], _ => ⟨[], rfl, trivial, rfl⟩
  | e :: es, hI => by
      obtain ⟨hIe, hIes⟩ := List.forall_mem_cons.mp hI
      refine Ret.exv (Ret.bindv (h.bounds e hIe) fun e' ⟨pe, _⟩ => ?_)
      refine Ret.bindv (wmRowPass_ok h es hIes) fun es' ⟨k, hv⟩ => ?_
      exact Ret.pure ⟨rfl, ⟨pe.keeps, k⟩, by simp [pe.view, hv]⟩

theorem wmPass_ok (h : Protocol rec g) : ∀ (edges : List (List M)), (∀ row ∈ edges, ∀ m ∈ row, g.I m) →
    ∃ e', wmPass rec edges = .ok (e', viewM g edges) ∧ PresLL g edges e'
  | [], _ => ⟨[], rfl, trivial, rfl⟩
  | row :: rows, hI => by
      obtain ⟨hIr, hIrs⟩ := List.forall_mem_cons.mp hI
      refine Ret.exv (Ret.bindv (wmRowPass_ok h row hIr) fun row' ⟨k, hv⟩ => ?_)
      refine Ret.bindv (wmPass_ok h rows hIrs) fun rows' ⟨kk, hvv⟩ => ?_
      refine Ret.pure ⟨rfl, ⟨k, kk⟩, ?_⟩
      simp only [viewM, List.map_cons] at hvv ⊢
      rw [hv, hvv]

theorem set_same {α : Type} {l : List α} {i : Nat} {x : α} (h : l[i]? = some x) : l.set i x = l := by
  obtain ⟨hi, rfl⟩ := List.getElem?_eq_some_iff.mp h
  exact List.set_getElem_self hi

theorem viewM_set {edges : List (List M)} {i j : Nat} {row : List M} {x y : M} (h1 : edges[i]? = some row)
    (h2 : row[j]? = some x) (hv : g.view y = g.view x) : viewM g (edges.set i (row.set j y)) = viewM g edges := by
  simp only [viewM, List.map_set, hv]
  have e1 : (row.map g.view).set j (g.view x) = row.map g.view := set_same (by simp [h2])
  rw [e1]
  exact set_same (by simp [h1])

theorem mset_pres {t : List (List M)} {r c : Nat} {x y : M} (hI : ∀ row ∈ t, ∀ m ∈ row, g.I m)
    (hx : mget t r c = .ok x) (p : Pres g x y) : Ret (mset t r c y) fun t' => PresLL g t t' := by
  obtain ⟨t', e, K, _, _⟩ := mset_keeps hI hx p.keeps
  refine ⟨t', e, K, ?_⟩
  obtain ⟨row, h1, h2⟩ := mget_some hx
  have hc : c < row.length := (List.getElem?_eq_some_iff.mp h2).1
  simp only [mset, h1, hc, if_true, pure_eq_ok, Except.ok.injEq] at e
  subst e
  exact viewM_set h1 h2 p.view

theorem wmBounds_go_ok (h : Protocol rec g) {nf nt : Nat} : ∀ (pairs : List (Nat × Nat)) (edges : List (List M))
    (lb ub : Nat), MShape edges nf nt → (∀ row ∈ edges, ∀ m ∈ row, g.I m) → (∀ p ∈ pairs, p.1 < nf ∧ p.2 < nt) →
    ∃ e', wmBounds.go rec edges lb ub pairs = .ok (e', lb + (pairs.map fun p => (ivAt (viewM g edges) p).lo).sum,
        ub + (pairs.map fun p => (ivAt (viewM g edges) p).hi).sum) ∧ PresLL g edges e'
  | [], edges, lb, ub, _, hI, _ => ⟨edges, by simp [wmBounds.go], PresLL.refl edges hI⟩
  | (i, j) :: rest, edges, lb, ub, sh, hI, hr => by
      obtain ⟨hij, hrest⟩ := List.forall_mem_cons.mp hr
      refine Ret.exv (Ret.bind (mget_ret sh hI hij.1 hij.2) fun m ⟨hm, hIm, _⟩ => ?_)
      refine Ret.bindv (h.bounds m hIm) fun m1 ⟨p1, _⟩ => ?_
      refine Ret.bindv (h.bounds m1 p1.inv) fun m2 ⟨p2, _⟩ => ?_
      refine Ret.bind (mset_pres hI hm (p1.trans p2)) fun t' pp1 => ?_
      obtain ⟨e', hgo, pp⟩ := wmBounds_go_ok h rest t' (lb + (g.view m).lo) (ub + (g.view m1).hi) (pp1.1.shape sh)
        pp1.1.inv hrest
      refine ⟨_, hgo, ?_, pp1.trans pp⟩
      simp only [List.map_cons, List.sum_cons, ivAt_mget (p := (i, j)) hm, pp1.2, p1.view, Nat.add_assoc]

theorem WmInv.setMemo (h : Protocol rec g) {e' : List (List M)} (inv : WmInv g w edges)
    (hm : w.memo = none) (pp : PresLL g edges e') :
    WmInv g { w with memo := if (wmForm w (viewM g edges)).definitive then some (wmForm w (viewM g edges)) else none }
      e' ∧
    wmViewV { w with memo := if (wmForm w (viewM g edges)).definitive then some (wmForm w (viewM g edges)) else none }
      (viewM g e') = wmForm w (viewM g edges) := by
  have inv' := inv.keeps h pp.1
  rw [← pp.2]
  by_cases hd : (wmForm w (viewM g e')).definitive = true
  · rw [if_pos hd]
    refine ⟨⟨inv'.shape, inv'.edgesI, ⟨inv'.ok.inRange, inv'.ok.sortedF, inv'.ok.nodupT, inv'.ok.full⟩, inv'.mt, ?_⟩, rfl⟩
    intro b hb
    cases hb
    have hd' := (Iv.definitive_iff _).mp hd
    have wf := wmForm_wf h inv'
    exact ⟨iv_point_of wf.1 wf.2 hd', wmForm_def_edges (w := w) h inv' hd'⟩
  · rw [if_neg hd]
    exact ⟨inv'.congr rfl rfl rfl rfl hm.symm, rfl⟩

/-- `WeightedBipartiteMatcher.bounds()` -/
theorem wmBounds_ok (h : Protocol rec g) (inv : WmInv g w edges) :
    ∃ w' e', wmBounds rec w edges = .ok (w', e', wmViewV w (viewM g edges)) ∧ PresLL g edges e' ∧ w'.mtch = w.mtch ∧
      wmViewV w' (viewM g e') = wmViewV w (viewM g edges) ∧ WmKeeps g w edges w' e' := by
  cases hm : w.memo with
  | some b =>
    exact ⟨w, edges, by simp [wmBounds, hm, wmViewV], PresLL.refl edges inv.edgesI, rfl, rfl, WmKeeps.refl inv⟩
  | none =>
    have hview : wmViewV w (viewM g edges) = wmForm w (viewM g edges) := by simp [wmViewV, hm]
    -- every branch reads the edges and returns the formula, which becomes the memo if it is a single value
    suffices ∃ e', PresLL g edges e' ∧ wmBounds rec w edges = .ok
        ({ w with memo := if (wmForm w (viewM g edges)).definitive then some (wmForm w (viewM g edges)) else none },
          e', wmForm w (viewM g edges)) by
      obtain ⟨e', pp, hb⟩ := this
      obtain ⟨i1, i2⟩ := inv.setMemo h hm pp
      have hv := i2.trans hview.symm
      refine ⟨_, e', hview ▸ hb, pp, ?_, hv, pp.1, i1, rfl, rfl, rfl,
        by rw [hv]; exact iv_sub_refl _, Nat.add_le_add_left pp.1.mu _, fun _ hp => hp⟩
      rfl
    have wf := wmForm_wf h inv
    by_cases hz : (w.nf == 0 || w.nt == 0) = true
    · refine ⟨edges, PresLL.refl edges inv.edgesI, ?_⟩
      rw [wmForm_empty _ hz]
      simp [wmBounds, hm, hz]
      rfl
    · cases hmt : w.mtch with
      | none =>
        obtain ⟨e1, hp1, pp1⟩ := wmPass_ok h edges inv.edgesI
        obtain ⟨e2, hp2, pp2⟩ := wmPass_ok h e1 pp1.1.inv
        have hnt : 0 < w.nt := by
          simp only [Bool.or_eq_true, beq_iff_eq, not_or] at hz
          omega
        have hne : ∀ row ∈ viewM g edges, row ≠ [] := fun row hrow hnil => by
          have := viewM_row inv row hrow
          rw [hnil] at this
          exact Nat.ne_of_lt hnt this
        rw [wmForm_none _ hz hmt] at wf ⊢
        have hle : ((sortNat ((viewM g edges).map rowMinV)).take (Nat.min w.nf w.nt)).sum ≤
            ((sortNat ((viewM g edges).map rowMaxV)).reverse.take (Nat.min w.nf w.nt)).sum := Nat.le_trans wf.1 wf.2
        refine ⟨e2, pp1.trans pp2, ?_⟩
        simp only [wmBounds, hm, hz, hmt, hp1, hp2, ok_bind, pp1.2, mk?_ok _ _ hle, pure_eq_ok,
          mapM_ok_of_forall rowMinV fun row hr => minList_eq fun hh => hne row hr (List.map_eq_nil_iff.mp hh),
          mapM_ok_of_forall rowMaxV fun row hr => maxList_eq fun hh => hne row hr (List.map_eq_nil_iff.mp hh)]
        rfl
      | some pairs =>
        cases inv.mt pairs hmt
        obtain ⟨e1, hgo, pp⟩ := wmBounds_go_ok h w.assign edges 0 0 inv.shape inv.edgesI inv.ok.inRange
        rw [wmForm_some _ hz hmt] at wf ⊢
        simp only [Nat.zero_add] at hgo
        refine ⟨e1, pp, ?_⟩
        simp only [wmBounds, hm, hz, hmt, hgo, ok_bind, mk?_ok _ _ (Nat.le_trans wf.1 wf.2), pure_eq_ok]
        rfl

theorem mdArg_ok (h : Protocol rec g) : ∀ (k : Nat) (e : M), g.I e → ∃ e' b, mdArg rec k e = .ok (e', b) ∧ Keeps g e e'
  | 0, e, hI =>
      let ⟨e', he, p, _⟩ := h.bounds e hI
      ⟨e', g.view e, he, p.keeps⟩
  | k + 1, e, hI => by
      refine Ret.ex₂ (Ret.bindv (h.bounds e hI) fun e1 ⟨p1, _⟩ => ?_)
      refine Ret.bind₂ (h.tighten e1 p1.inv) fun e2 _ st => ?_
      exact Ret.mono (Ret.of₂ (mdArg_ok h k e2 st.inv)) fun _ k3 => (p1.keeps.trans st.keeps).trans k3

theorem mdRow_ok (h : Protocol rec g) : ∀ (row : List M) (cs : List Nat), (∀ m ∈ row, g.I m) →
    ∃ row' bs, mdRow rec row cs = .ok (row', bs) ∧ KeepsL g row row'
  | [], _, _ => ⟨[], [], rfl, trivial⟩
  | e :: es, cs, hI => by
      obtain ⟨hIe, hIes⟩ := List.forall_mem_cons.mp hI
      refine Ret.ex₂ (Ret.bind₂ (mdArg_ok h (cs.headD 0) e hIe) fun e' _ k => ?_)
      exact Ret.bind₂ (mdRow_ok h es cs.tail hIes) fun es' _ ks => Ret.pure ⟨k, ks⟩

theorem mdAll_ok (h : Protocol rec g) : ∀ (edges : List (List M)) (cs : List (List Nat)),
    (∀ row ∈ edges, ∀ m ∈ row, g.I m) → ∃ e' bs, mdAll rec edges cs = .ok (e', bs) ∧ KeepsLL g edges e'
  | [], _, _ => ⟨[], [], rfl, trivial⟩
  | row :: rows, cs, hI => by
      obtain ⟨hIr, hIrs⟩ := List.forall_mem_cons.mp hI
      refine Ret.ex₂ (Ret.bind₂ (mdRow_ok h row (cs.headD []) hIr) fun row' _ k => ?_)
      exact Ret.bind₂ (mdAll_ok h rows cs.tail hIrs) fun rows' _ ks => Ret.pure ⟨k, ks⟩

theorem wmMakeDistinct_ok (h : Protocol rec g) (inv : WmInv g w edges) :
    ∃ w' e' r, wmMakeDistinct rec w edges = .ok (w', e', r) ∧ WmKeeps g w edges w' e' ∧
      w'.mtch = w.mtch ∧ w'.memo = w.memo ∧ w'.distinct = true ∧
      (r = true → wmFlags w' + muLLg g e' < wmFlags w + muLLg g edges) ∧ (r = false → w' = w ∧ e' = edges) := by
  refine Ret.ex₃ ?_
  unfold wmMakeDistinct
  refine Ret.ite (fun hd => Ret.pure ⟨WmKeeps.refl inv, rfl, rfl, hd, by simp, fun _ => ⟨rfl, rfl⟩⟩) fun hd => ?_
  refine Ret.bind₂ (mdAll_ok h edges w.mdCounts inv.edgesI) fun e' _ k => Ret.pure ?_
  have hmu := k.mu
  have hfl : wmFlags { w with distinct := true } < wmFlags w := by simp [wmFlags, hd]
  exact ⟨⟨k, (inv.keeps h k).congr rfl rfl rfl rfl rfl, rfl, rfl, rfl, wmView_mono inv k,
      Nat.add_le_add (Nat.le_of_lt hfl) hmu, fun _ hp => hp⟩,
    rfl, rfl, rfl, fun _ => Nat.add_lt_add_of_lt_of_le hfl hmu, by simp⟩

theorem wmMatching_keeps (h : Protocol rec g) (inv : WmInv g w edges) :
    ∃ w' e', wmMatching rec w edges = .ok (w', e') ∧ WmKeeps g w edges w' e' ∧ w'.mtch = some w.assign ∧
      w'.memo = w.memo ∧ wmFlags w' ≤ wmFlags w ∧ (w.mtch = none → wmFlags w' < wmFlags w) := by
  refine Ret.ex₂ ?_
  unfold wmMatching
  cases hmt : w.mtch with
  | some pairs =>
    exact Ret.pure ⟨WmKeeps.refl inv, by rw [hmt, inv.mt pairs hmt], rfl, Nat.le_refl _, fun hh => by cases hh⟩
  | none =>
    obtain ⟨wk, hfl⟩ := WmKeeps.fixMatching inv hmt
    refine Ret.ite (fun hz => ?_) fun _ => ?_
    · rw [← inv.ok.empty hz]
      exact Ret.pure ⟨wk, rfl, rfl, Nat.le_of_lt hfl, fun _ => hfl⟩
    · refine Ret.bind₃ (wmMakeDistinct_ok h inv) fun w1 e1 _ ⟨wk1, f4, f5, f7, _, _⟩ => ?_
      refine Ret.bindv (wmPass_ok h e1 wk1.inv.edgesI) fun e2 pp => ?_
      have wk2 := wk1.trans (WmKeeps.ofEdges h wk1.inv pp.1)
      obtain ⟨wk3, _⟩ := WmKeeps.fixMatching wk2.inv (f4.trans hmt)
      -- the checks on the solver's answer pass
      have hlen : (w1.assign.length != Nat.min w1.nf w1.nt) = false := by simp [wk1.inv.ok.full]
      have hany : (w1.assign.any fun p => decide (p.1 ≥ w1.nf) || decide (p.2 ≥ w1.nt)) = false := by
        rw [List.any_eq_false]
        intro p hp
        have := wk1.inv.ok.inRange p hp
        simp; omega
      have hfl1 : wmFlags { w1 with mtch := some w1.assign } < wmFlags w := by
        simp only [wmFlags, f7, hmt]
        cases w.distinct <;> simp
      simp only [hlen, hany, Bool.false_eq_true, if_false, pure_eq_ok]
      exact Ret.pure ⟨wk2.trans wk3, by simp [wk1.assign], f5, Nat.le_of_lt hfl1, fun _ => hfl1⟩

theorem wmRaw_go_ok (h : Protocol rec g) {nf nt : Nat} : ∀ (pairs : List (Nat × Nat)) (edges : List (List M)),
    MShape edges nf nt → (∀ row ∈ edges, ∀ m ∈ row, g.I m) → (∀ p ∈ pairs, p.1 < nf ∧ p.2 < nt) →
    ∃ e' r, wmRaw.go rec edges pairs = .ok (e', r) ∧ KeepsLL g edges e' ∧
      (r = true → muLLg g e' < muLLg g edges) ∧
      (r = false → ∀ p ∈ pairs, (ivAt (viewM g e') p).Single)
  | [], edges, _, hI, _ =>
      ⟨edges, false, by simp [wmRaw.go], KeepsLL.refl edges hI, by simp, by simp⟩
  | (i, j) :: rest, edges, sh, hI, hr => by
      obtain ⟨hij, hrest⟩ := List.forall_mem_cons.mp hr
      refine Ret.ex₂ (Ret.bind (mget_ret sh hI hij.1 hij.2) fun m ⟨hm, hIm, _⟩ => ?_)
      refine Ret.bind₂ (h.tighten m hIm) fun m1 r st => ?_
      refine Ret.bind (mset_ret hI hm st.keeps) fun t' ⟨kk, hg, hmu⟩ => ?_
      cases r with
      | true =>
        have := st.dec rfl
        exact Ret.pure ⟨kk, fun _ => show muLLg g t' < _ by omega, by simp⟩
      | false =>
        refine Ret.mono (Ret.of₂ (wmRaw_go_ok h rest t' (kk.shape sh) kk.inv hrest)) fun _ ⟨kk', hdec, hdef⟩ =>
          ⟨kk.trans kk', fun hr' => by have := hdec hr'; have := st.mu; omega, fun hr' p hp => ?_⟩
        rcases List.mem_cons.mp hp with rfl | hp
        · -- the edge tightened to a single value stays one
          exact kk'.def_at h ((kk.trans kk').shape sh) kk'.inv hij (ivAt_mget (p := (i, j)) hg ▸ st.stop rfl)
        · exact hdef hr' p hp

theorem wmRaw_ok (h : Protocol rec g) (inv : WmInv g w edges) :
    ∃ w' e' r, wmRaw rec w edges = .ok (w', e', r) ∧ WmKeeps g w edges w' e' ∧
      (r = true → wmFlags w' + muLLg g e' < wmFlags w + muLLg g edges) ∧
      (r = false → (wmViewV w' (viewM g e')).Single) := by
  refine Ret.ex₃ ?_
  unfold wmRaw
  cases hmt : w.mtch with
  | none =>
    refine Ret.bind₃ (wmMakeDistinct_ok h inv) fun w1 e1 r ⟨wk1, _, _, _, hr1, hr0⟩ => ?_
    cases r with
    | true => exact Ret.pure ⟨wk1, hr1, by simp⟩
    | false =>
      obtain ⟨rfl, rfl⟩ := hr0 rfl
      refine Ret.bind₂ (wmMatching_keeps h inv) fun w2 e2 ⟨wk2, _, _, _, hfl⟩ => ?_
      exact Ret.pure ⟨wk2, fun _ => Nat.add_lt_add_of_lt_of_le (hfl hmt) wk2.kl.mu, by simp⟩
  | some pairs =>
    cases inv.mt pairs hmt
    refine Ret.bind₂ (wmRaw_go_ok h w.assign edges inv.shape inv.edgesI inv.ok.inRange) fun e' r ⟨kk, hdec, hdef⟩ => ?_
    have wk := WmKeeps.ofEdges h inv kk
    exact Ret.pure ⟨wk, fun hr => Nat.add_lt_add_left (hdec hr) _, fun hr => wm_def_of_edges wk.inv hmt (hdef hr)⟩

/-- `repeat_until_tightened`: an iteration's `bounds()` stays inside the starting interval, so the loop goes on exactly
    when the interval is still the starting one; then the raw step has made internal progress -/
theorem wmLoop_ok (h : Protocol rec g) (start : Iv) (hnd : ¬ start.Single) : ∀ (n : Nat) (w : WmSt)
    (edges : List (List M)), WmInv g w edges → wmFlags w + muLLg g edges < n →
    (start.lo ≤ (wmViewV w (viewM g edges)).lo ∧ (wmViewV w (viewM g edges)).hi ≤ start.hi) →
    ∃ w' e', wmLoop rec start n w edges = .ok (w', e', true) ∧ WmKeeps g w edges w' e' ∧
      wmViewV w' (viewM g e') ≠ start
  | 0, _, _, _, hn, _ => by omega
  | n + 1, w, edges, inv, hn, hsub => by
      refine Ret.ex₂v ?_
      unfold wmLoop
      refine Ret.bind₃ (wmRaw_ok h inv) fun w1 e1 r ⟨wk1, hdec, hstop⟩ => ?_
      refine Ret.bind₂v (wmBounds_ok h wk1.inv) fun w2 e2 ⟨_, _, hv, wk2⟩ => ?_
      have hs := iv_sub_trans hsub wk1.sub
      refine Ret.ite (fun c => absurd c (by simp only [Bool.or_eq_true, decide_eq_true_eq]; omega)) fun _ => ?_
      by_cases he : wmViewV w1 (viewM g e1) = start
      · -- no visible progress yet, so the exit test fails; the raw step made internal progress
        have hr : r = true := by
          cases r with
          | true => rfl
          | false => exact absurd (he ▸ hstop rfl) hnd
        obtain ⟨w3, e3, hl, wk3, hne⟩ := wmLoop_ok h start hnd n w2 e2 wk2.inv
          (Nat.lt_of_lt_of_le (Nat.lt_of_le_of_lt wk2.fuel (hdec hr)) (Nat.le_of_lt_succ hn))
          (by rw [hv, he]; exact iv_sub_refl _)
        refine Ret.ite (fun c => absurd c (by simp [he, Iv.definitive, hnd])) fun _ => ?_
        exact ⟨_, hl, rfl, (wk1.trans wk2).trans wk3, hne⟩
      · have := iv_ne_of_sub hs he
        refine Ret.ite (fun _ => Ret.pure ⟨rfl, wk1.trans wk2, by rw [hv]; exact he⟩) fun c => absurd ?_ c
        simp only [Bool.or_eq_true, decide_eq_true_eq]
        omega

theorem wmTighten_keeps (h : Protocol rec g) (n : Nat) (inv : WmInv g w edges)
    (hn : wmFlags w + muLLg g edges < n) :
    ∃ w' e' r, wmTighten rec n w edges = .ok (w', e', r) ∧ WmKeeps g w edges w' e' ∧
      (r = true → wmViewV w' (viewM g e') ≠ wmViewV w (viewM g edges)) ∧
      (r = false → (wmViewV w (viewM g edges)).lo = (wmViewV w (viewM g edges)).hi ∧ PresLL g edges e' ∧
        w'.mtch = w.mtch ∧ wmViewV w' (viewM g e') = wmViewV w (viewM g edges)) := by
  refine Ret.ex₃ ?_
  unfold wmTighten
  refine Ret.bind₂v (wmBounds_ok h inv) fun w1 e1 ⟨pp, hmt, hv, wk1⟩ => ?_
  refine Ret.ite (fun hd => Ret.pure ⟨wk1, by simp, fun _ => ⟨(Iv.definitive_iff _).mp hd, pp, hmt, hv⟩⟩) fun hd => ?_
  have hnd : ¬ (wmViewV w (viewM g edges)).Single :=
    fun he => hd ((Iv.definitive_iff _).mpr he)
  obtain ⟨w2, e2, hl, wk2, hne⟩ := wmLoop_ok h _ hnd n w1 e1 wk1.inv (Nat.lt_of_le_of_lt wk1.fuel hn)
    (by rw [hv]; exact iv_sub_refl _)
  exact ⟨_, hl, wk1.trans wk2, fun _ => hne, by simp⟩

end

end GtModel.Lazy
