/-
  What every run of the search of `get_formatter` (Model/Dispatch) guarantees, whatever the fuel, the starting instance
  and the classes already tested: it returns only what `scan` finds at an instance of the forest, and it marks a class
  as tested only where `scan` found nothing (`getFormatter_inv`, one induction on the fuel).  Hence no handler under
  roots that offer none (`getFormatter_none`), and a handler from everywhere once a registered root has a method of its
  own for a class of the MRO (`getFormatter_isSome`).
-/
import GtModel.Model.Dispatch

namespace GtModel.Dispatch

theorem nil_mem_allPaths (f : Fmt) : [] ∈ allPaths f := by
  cases f
  simp [allPaths]

def Fmt.any (p : Fmt → Bool) : Fmt → Bool
  | .mk c prints subs => p (.mk c prints subs) || anySubs subs
where
  anySubs : List Fmt → Bool
    | [] => false
    | s :: rest => Fmt.any p s || anySubs rest

theorem Fmt.anySubs_false {p : Fmt → Bool} :
    ∀ {subs : List Fmt}, Fmt.any.anySubs p subs = false → ∀ s ∈ subs, s.any p = false
  | [], _ => by simp
  | s :: rest, h => by
    simp only [Fmt.any.anySubs, Bool.or_eq_false_iff] at h
    simpa [h.1] using Fmt.anySubs_false h.2

theorem Fmt.any_false {p : Fmt → Bool} {f : Fmt} (h : f.any p = false) :
    p f = false ∧ ∀ s ∈ f.subs, s.any p = false := by
  cases f with
  | mk c prints subs =>
    simp only [Fmt.any, Bool.or_eq_false_iff] at h
    exact ⟨h.1, Fmt.anySubs_false h.2⟩

theorem Fmt.any_false_nodeAt {p : Fmt → Bool} {base : Fmt} :
    ∀ {path : List Nat} {root : Fmt}, root.any p = false → nodeAt root path = some base → base.any p = false
  | [], root, h, hn => by
    simp only [nodeAt, Option.some.injEq] at hn
    exact hn ▸ h
  | i :: rest, root, h, hn => by
    simp only [nodeAt] at hn
    split at hn
    · next s hs => exact Fmt.any_false_nodeAt ((Fmt.any_false h).2 s (List.mem_of_getElem? hs)) hn
    · contradiction

def Fmt.handles (f : Fmt) (mro : List String) : Bool := mro.any f.has

theorem scan_eq_none {base : Fmt} : ∀ {mro : List String},
    scan base mro = none ↔ base.handles mro = false ∧ ∀ s ∈ base.subs, s.handles mro = false
  | [] => by simp [scan, Fmt.handles]
  | c :: rest => by
    have ih := scan_eq_none (base := base) (mro := rest)
    simp only [Fmt.handles, List.any_cons, Bool.or_eq_false_iff] at ih ⊢
    rw [scan]
    split
    · next h => simp [h]
    · next h =>
      split
      · next s hs =>
        have := List.find?_some hs
        simp only [reduceCtorEq, false_iff]
        exact fun hh => by simp [(hh.2 s (List.mem_of_find?_eq_some hs)).1] at this
      · next hs =>
        simp only [List.find?_eq_none] at hs
        rw [ih]
        exact ⟨fun ⟨h1, h2⟩ => ⟨⟨by simpa using h, h1⟩, fun s hs' => ⟨by simpa using hs s hs', h2 s hs'⟩⟩,
          fun ⟨h1, h2⟩ => ⟨h1.2, fun s hs' => (h2 s hs').2⟩⟩

def offers (mro : List String) (f : Fmt) : Bool := f.any (·.handles mro)

theorem scan_none_of_offers {mro : List String} {root base : Fmt} {path : List Nat} (h : offers mro root = false)
    (hb : nodeAt root path = some base) : scan base mro = none :=
  have hb' := Fmt.any_false (Fmt.any_false_nodeAt h hb)
  scan_eq_none.2 ⟨hb'.1, fun s hs => (Fmt.any_false (hb'.2 s hs)).1⟩

/-- `P`: what a search may return, `Q`: which classes it may mark as tested; asked of `scan` here, granted by `Res` -/
def ScanOK (mro : List String) (P : Handler' → Prop) (Q : String → Prop) (root : Fmt) : Prop :=
  ∀ path base, nodeAt root path = some base →
    (∀ h, scan base mro = some h → P h) ∧ (scan base mro = none → Q base.cls ∧ ∀ s ∈ base.subs, Q s.cls)

def Res (P : Handler' → Prop) (Q : String → Prop) (r : Option Handler' × List String) : Prop :=
  (∀ h, r.1 = some h → P h) ∧ ∀ x ∈ r.2, Q x

theorem Res.none {P : Handler' → Prop} {Q : String → Prop} {t : List String} (h : ∀ x ∈ t, Q x) : Res P Q (none, t) :=
  ⟨fun _ e => (nomatch e), h⟩

variable {mro : List String} {P : Handler' → Prop} {Q : String → Prop}

/-- Running out of fuel, the walk up the parents and re-entering an instance that was queued several times
    (formatter.py:263 queues every grandchild once per MRO entry) all leave `Res` alone. -/
theorem getF_loopG_inv {root : Fmt} (ok : ScanOK mro P Q root) : ∀ fuel,
    (∀ path tested, (∀ x ∈ tested, Q x) → Res P Q (getF root mro fuel path tested)) ∧
    (∀ gs tested, (∀ x ∈ tested, Q x) → Res P Q (loopG root mro fuel gs tested))
  | 0 => ⟨fun _ _ ht => by rw [getF]; exact .none ht, fun _ _ ht => by rw [loopG]; exact .none ht⟩
  | fuel + 1 => by
    obtain ⟨ihF, ihG⟩ := getF_loopG_inv ok fuel
    have up : ∀ (path : List Nat) r, Res P Q r → Res P Q (match r with
        | (some h, t) => (some h, t)
        | (none, t) => if path.isEmpty then (none, t) else getF root mro fuel path.dropLast t) := by
      rintro path ⟨_ | h, t⟩ hr
      · dsimp only
        split
        · exact hr
        · exact ihF _ _ hr.2
      · exact hr
    refine ⟨fun path tested ht => ?_, fun gs tested ht => ?_⟩
    · rw [getF]
      split
      · exact .none ht
      · next base hb =>
        refine up path _ ?_
        split
        · exact .none ht
        · split
          · next h hs => exact ⟨fun _ e => by cases e; exact (ok _ _ hb).1 h hs, ht⟩
          · next hs =>
            refine ihG _ _ fun x hx => ?_
            simp only [List.append_assoc, List.cons_append, List.nil_append, List.mem_append, List.mem_cons,
              List.mem_map] at hx
            rcases hx with hx | rfl | ⟨s, hs', rfl⟩
            · exact ht x hx
            · exact ((ok _ _ hb).2 hs).1
            · exact ((ok _ _ hb).2 hs).2 s hs'
    · cases gs with
      | nil => simpa [loopG] using Res.none ht
      | cons g gs =>
        rw [loopG]
        have := ihF g tested ht
        revert this
        rcases getF root mro fuel g tested with ⟨_ | h, t⟩
        · exact fun hr => ihG _ _ hr.2
        · exact id

theorem getF_inv {root : Fmt} (ok : ScanOK mro P Q root) (fuel : Nat) (path : List Nat) {tested : List String}
    (ht : ∀ x ∈ tested, Q x) : Res P Q (getF root mro fuel path tested) :=
  (getF_loopG_inv ok fuel).1 path tested ht

theorem go_inv {roots : List Fmt} (ok : ∀ root ∈ roots, ScanOK mro P Q root) :
    ∀ {fs : List Fmt}, (∀ f ∈ fs, f ∈ roots) → ∀ {tested : List String}, (∀ x ∈ tested, Q x) →
    (∀ h, getFormatter.go mro fs tested = some h → P h) ∧ (getFormatter.go mro fs tested = none → ∀ f ∈ fs, Q f.cls)
  | [], _, _, _ => by simp [getFormatter.go]
  | f :: fs, hfs, tested, ht => by
    have hf := hfs f List.mem_cons_self
    have ih := fun {t} => go_inv ok (fs := fs) (fun g hg => hfs g (List.mem_cons_of_mem _ hg)) (tested := t)
    rw [getFormatter.go]
    split
    · next hc => simpa [ht _ (List.contains_iff_mem.1 hc)] using ih ht
    · next hc =>
      have hr := getF_inv (ok f hf) FUEL [] ht
      have hs : (getF f mro FUEL [] tested).1 = none → scan f mro = none := by
        rw [FUEL, getF]
        simp only [nodeAt, hc]
        cases scan f mro <;> simp
      revert hr hs
      rcases getF f mro FUEL [] tested with ⟨_ | h, t⟩
      · intro hr hs
        simpa [((ok f hf [] f rfl).2 (hs rfl)).1] using ih hr.2
      · exact fun hr _ => by simpa using hr.1 h rfl

theorem getFormatter_inv {roots : List Fmt} (ok : ∀ root ∈ roots, ScanOK mro P Q root)
    (base : Option (Nat × List Nat)) :
    (∀ h, getFormatter roots base mro = some h → P h) ∧ (getFormatter roots base mro = none → ∀ f ∈ roots, Q f.cls) := by
  unfold getFormatter
  split
  next r0 t0 heq =>
  have hr : Res P Q (r0, t0) := by
    split at heq
    · exact heq ▸ .none (by simp)
    · split at heq
      · next root hroot => exact heq ▸ getF_inv (ok root (List.mem_of_getElem? hroot)) _ _ (by simp)
      · exact heq ▸ .none (by simp)
  cases r0 with
  | some h => exact ⟨fun _ e => by cases e; exact hr.1 h rfl, fun e => nomatch e⟩
  | none => exact go_inv ok (fun _ h => h) hr.2

theorem scanOK_of_offers {root : Fmt} (h : offers mro root = false) : ScanOK mro (fun _ => False) (fun _ => True) root :=
  fun _ _ hb => ⟨fun _ hs => by simp [scan_none_of_offers h hb] at hs, fun _ => ⟨trivial, fun _ _ => trivial⟩⟩

theorem getF_none {root : Fmt} {mro : List String} (h : offers mro root = false) (fuel : Nat) (path : List Nat)
    (tested : List String) : (getF root mro fuel path tested).1 = none :=
  Option.eq_none_iff_forall_ne_some.2 fun hd e =>
    (getF_inv (scanOK_of_offers h) fuel path (tested := tested) (fun _ _ => trivial)).1 hd e

theorem getFormatter_none {roots : List Fmt} {mro : List String} (h : ∀ f ∈ roots, offers mro f = false)
    (base : Option (Nat × List Nat)) : getFormatter roots base mro = none :=
  Option.eq_none_iff_forall_ne_some.2 fun hd e => (getFormatter_inv (fun f hf => scanOK_of_offers (h f hf)) base).1 hd e

def uniform (roots : List Fmt) (R : Fmt) : Bool :=
  roots.all fun f => !f.any fun n => n.cls == R.cls && n.prints != R.prints

/-- what `true` means, at the instances `scan` looks at: an instance of the forest and its sub-formatters -/
theorem uniform_spec {roots : List Fmt} {R root n : Fmt} {path : List Nat} (h : uniform roots R = true)
    (hr : root ∈ roots) (hn : nodeAt root path = some n) :
    ∀ m, m = n ∨ m ∈ n.subs → m.cls = R.cls → m.prints = R.prints := by
  have hn' := Fmt.any_false (Fmt.any_false_nodeAt (by simpa using List.all_eq_true.1 h root hr) hn)
  have key : ∀ m : Fmt, (m.cls == R.cls && m.prints != R.prints) = false → m.cls = R.cls → m.prints = R.prints :=
    fun m hm e => by simpa [e] using hm
  rintro m (rfl | hm)
  · exact key m hn'.1
  · exact key m (Fmt.any_false (hn'.2 m hm)).1

/-- A REGISTERED root `R` with a `print_*` method OF ITS OWN for a class of the MRO is never skipped: `get_formatter`
    finds a handler from every starting instance (any `base`, whatever the fuel).  It ends, if nothing else answers,
    with the loop over FORMATTERS, which passes over `R` only if `R`'s class is in `tested`; and a class gets into
    `tested` only at an instance (or a sub-formatter of one) where `scan` found nothing for this MRO.  `tested` holds
    classes, not instances, so this needs that no other instance of `R`'s class lacks `R`'s methods: `uniform` (in
    Python the class determines the methods; here it is checked on the table). -/
theorem getFormatter_isSome {roots : List Fmt} {R : Fmt} (hR : R ∈ roots) (hu : uniform roots R = true)
    (hm : R.handles mro = true) (base : Option (Nat × List Nat)) : (getFormatter roots base mro).isSome = true := by
  refine Option.isSome_iff_ne_none.2 fun e =>
    (getFormatter_inv (P := fun _ => True) (Q := (· ≠ R.cls))
      (fun root hr path b hb => ⟨fun _ _ => trivial, fun hs => ?_⟩) base).2 e R hR rfl
  have ne : ∀ n : Fmt, n.handles mro = false → (n.cls = R.cls → n.prints = R.prints) → n.cls ≠ R.cls := by
    intro n hh hp e
    obtain ⟨c, hc, hc'⟩ := List.any_eq_true.1 hm
    have : n.has c = R.has c := by simp only [Fmt.has, hp e]
    simpa [this, hc'] using List.any_eq_false.1 hh c hc
  have hs := scan_eq_none.1 hs
  have hu := uniform_spec hu hr hb
  exact ⟨ne b hs.1 (hu b (.inl rfl)), fun s hs' => ne s (hs.2 s hs') (hu s (.inr hs'))⟩

def caught (roots : List Fmt) (mro : List String) : Bool := roots.any fun R => R.handles mro && uniform roots R

/-- also for an MRO that ends in this one (the `Edited<cls>` classes) -/
theorem caught_isSome {roots : List Fmt} (h : caught roots mro = true) (pre : List String)
    (base : Option (Nat × List Nat)) : (getFormatter roots base (pre ++ mro)).isSome = true := by
  obtain ⟨R, hR, h⟩ := List.any_eq_true.1 h
  rw [Bool.and_eq_true] at h
  exact getFormatter_isSome hR h.2
    (by rw [Fmt.handles, List.any_append, show mro.any R.has = true from h.1, Bool.or_true]) base

theorem fuel_irrelevant {root : Fmt} (h : (scan root mro).isSome = true ∨ offers mro root = false) {fuel fuel' : Nat}
    (hf : 0 < fuel) (hf' : 0 < fuel') : (getF root mro fuel [] []).1 = (getF root mro fuel' [] []).1 := by
  obtain ⟨n, rfl⟩ := Nat.exists_eq_succ_of_ne_zero (Nat.ne_of_gt hf)
  obtain ⟨n', rfl⟩ := Nat.exists_eq_succ_of_ne_zero (Nat.ne_of_gt hf')
  rcases h with h | h
  · obtain ⟨hd, hs⟩ := Option.isSome_iff_exists.1 h
    simp [getF, nodeAt, hs]
  · rw [getF_none h, getF_none h]

end GtModel.Dispatch
