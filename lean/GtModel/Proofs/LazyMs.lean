/-
  MultiSetEdit over a matcher and its auto-matched key/value edits: the costs a matching leaves over, the exposed
  interval and the invariant, `bounds()`, what every operation keeps (`MsKeeps`), `tighten_bounds()`.
-/
import GtModel.Proofs.LazyWm

namespace GtModel.Lazy

theorem unmatched_sorted (n : Nat) (used : List Nat) : (unmatched n used).Pairwise (· < ·) :=
  List.Pairwise.filter _ List.pairwise_lt_range

theorem unmatched_lt (n : Nat) (used : List Nat) : ∀ a ∈ unmatched n used, a < n := by
  intro a ha
  simp only [unmatched, List.mem_filter, List.mem_range] at ha
  exact ha.1

theorem unmatched_length (n : Nat) (used : List Nat) (hnd : used.Nodup) (hlt : ∀ x ∈ used, x < n) :
    (unmatched n used).length + used.length = n := by
  have := (perm_compl used n (fun a => !(used.contains a)) hnd hlt (by simp)).length_eq
  simp only [List.length_append, List.length_range] at this
  simp only [unmatched]
  omega

theorem leftover_bounds (costs used : List Nat) (k : Nat) (hnd : used.Nodup) (hlt : ∀ x ∈ used, x < costs.length)
    (hk : used.length + k = costs.length) :
    ksm k costs ≤ ((unmatched costs.length used).map fun a => costs.getD a 0).sum ∧
      ((unmatched costs.length used).map fun a => costs.getD a 0).sum ≤ klg k costs := by
  have hs := idx_sublist 0 costs _ (unmatched_sorted _ used) (unmatched_lt _ used)
  have hl : (unmatched costs.length used).length = k := by
    have := unmatched_length _ used hnd hlt
    omega
  have h1 := ksm_le_sublist costs _ hs
  have h2 := sublist_le_klg costs _ hs
  rw [List.length_map, hl] at h1 h2
  exact ⟨h1, h2⟩

theorem min_add_sub (a b : Nat) : min a b + (a - b) = a := by
  rcases Nat.le_total a b with h | h
  · rw [Nat.min_eq_left h, Nat.sub_eq_zero_of_le h]
    rfl
  · rw [Nat.min_eq_right h, Nat.add_sub_of_le h]

theorem leftIvD_none (s : MsSt) {w : WmSt} (hm : w.mtch = none) :
    leftIvD s w = ⟨ksm (w.nf - w.nt) s.remCosts + ksm (w.nt - w.nf) s.insCosts,
      klg (w.nf - w.nt) s.remCosts + klg (w.nt - w.nf) s.insCosts⟩ := by
  simp only [leftIvD, leftIv, hm]
  split
  · rename_i h
    rw [Nat.sub_eq_zero_of_le (Nat.le_of_lt h), ksm_zero, klg_zero]
    simp [klg_eq_drop, ksm, sortNat_length]
  · split
    · rename_i h
      rw [Nat.sub_eq_zero_of_le (Nat.le_of_lt h), ksm_zero, klg_zero]
      simp [klg_eq_drop, ksm, sortNat_length]
    · rename_i h1 h2
      rw [Nat.sub_eq_zero_of_le (Nat.le_of_not_gt h1), Nat.sub_eq_zero_of_le (Nat.le_of_not_gt h2)]
      rfl

theorem leftIv_wf (s : MsSt) (w : WmSt) (ok : AssignOK w) (hrem : s.remCosts.length = w.nf)
    (hins : s.insCosts.length = w.nt) (hmt : ∀ pairs, w.mtch = some pairs → pairs = w.assign) :
    (leftIvD s w).lo ≤ extraOf s w w.assign ∧ extraOf s w w.assign ≤ (leftIvD s w).hi := by
  cases hm : w.mtch with
  | some pairs =>
    cases hmt pairs hm
    simp [leftIvD, leftIv, hm, Iv.point]
  | none =>
    have ndF : (w.assign.map (·.1)).Nodup := ok.sortedF.imp Nat.ne_of_lt
    have hF := leftover_bounds s.remCosts (w.assign.map (·.1)) (w.nf - w.nt) ndF
      (by rw [hrem]; exact List.forall_mem_map.mpr fun p hp => (ok.inRange p hp).1)
      (by rw [List.length_map, ok.full, hrem]; exact min_add_sub _ _)
    have hT := leftover_bounds s.insCosts (w.assign.map (·.2)) (w.nt - w.nf) ok.nodupT
      (by rw [hins]; exact List.forall_mem_map.mpr fun p hp => (ok.inRange p hp).2)
      (by rw [List.length_map, ok.full, hins, nmin, Nat.min_comm]; exact min_add_sub _ _)
    rw [hrem] at hF
    rw [hins] at hT
    rw [leftIvD_none s hm]
    simp only [extraOf]
    omega

section
variable {rec : Ops} {g : Ghost}

/-- `MultiSetEdit.bounds()` as a function of the ghost data -/
def msViewOf (g : Ghost) (s : MsSt) (kvps : List M) (w : WmSt) (edges : List (List M)) : Iv :=
  let b1 : Iv := ⟨(wmViewV w (viewM g edges)).lo + sumLo g kvps, (wmViewV w (viewM g edges)).hi + sumHi g kvps⟩
  match leftIv s w with
  | some r => b1.add r
  | none => b1

/-- the final cost: the matcher's, the key/value edits', and the costs the solver's answer leaves over -/
def msFinOf (g : Ghost) (s : MsSt) (kvps : List M) (w : WmSt) (edges : List (List M)) : Nat :=
  wmFin g w edges + sumFin g kvps + extraOf s w w.assign

structure MsInv (g : Ghost) (s : MsSt) (kvps : List M) (w : WmSt) (edges : List (List M)) : Prop where
  wm : WmInv g w edges
  kI : ∀ m ∈ kvps, g.I m
  rem : s.remCosts.length = w.nf
  ins : s.insCosts.length = w.nt

variable {s : MsSt} {kvps kvps' : List M} {w w' : WmSt} {edges e e' : List (List M)}

def sumIv (g : Ghost) (ms : List M) : Iv := ⟨sumLo g ms, sumHi g ms⟩

/-- what is proved about it below goes through the lemmas on `Iv.add` -/
theorem msView_add (s : MsSt) (kvps : List M) (w : WmSt) (edges : List (List M)) :
    msViewOf g s kvps w edges = ((wmViewV w (viewM g edges)).add (sumIv g kvps)).add (leftIvD s w) := by
  simp only [msViewOf, leftIvD, sumIv]
  cases leftIv s w with
  | some r => simp [Iv.add]
  | none => simp [Iv.add]

theorem MsInv.leftIv_wf (inv : MsInv g s kvps w edges) :
    (leftIvD s w).lo ≤ extraOf s w w.assign ∧ extraOf s w w.assign ≤ (leftIvD s w).hi :=
  Lazy.leftIv_wf s w inv.wm.ok inv.rem inv.ins inv.wm.mt

theorem msView_wf (h : Protocol rec g)
    (inv : MsInv g s kvps w edges) :
    (msViewOf g s kvps w edges).lo ≤ msFinOf g s kvps w edges ∧
      msFinOf g s kvps w edges ≤ (msViewOf g s kvps w edges).hi :=
  msView_add (g := g) s kvps w edges ▸
    iv_add_mem (iv_add_mem (wmView_wf h inv.wm) (sum_wf h kvps inv.kI)) inv.leftIv_wf

theorem MsInv.ofWm (inv : MsInv g s kvps w e)
    (hw : WmInv g w' e') (hk : ∀ m ∈ kvps', g.I m) (h1 : w'.nf = w.nf) (h2 : w'.nt = w.nt) :
    MsInv g s kvps' w' e' :=
  ⟨hw, hk, by rw [h1]; exact inv.rem, by rw [h2]; exact inv.ins⟩

theorem leftIv_same {w w' : WmSt} (s : MsSt) (hf : w'.nf = w.nf) (ht : w'.nt = w.nt) (hm : w'.mtch = w.mtch) :
    leftIv s w' = leftIv s w := by
  simp [leftIv, extraOf, hf, ht, hm]

theorem leftIv_shrink (inv : MsInv g s kvps w e)
    (k : WmKeeps g w e w' e') :
    (leftIvD s w).lo ≤ (leftIvD s w').lo ∧ (leftIvD s w').hi ≤ (leftIvD s w).hi := by
  cases hm' : w'.mtch with
  | some pairs =>
    have e : leftIvD s w' = Iv.point (extraOf s w w.assign) := by
      simp [leftIvD, leftIv, hm', k.inv.mt pairs hm', k.assign, extraOf, k.nf, k.nt]
    rw [e]
    exact inv.leftIv_wf
  | none =>
    have hm : w.mtch = none := by
      cases hmm : w.mtch with
      | none => rfl
      | some pairs => rw [k.mtch pairs hmm] at hm'; cases hm'
    rw [show leftIvD s w' = leftIvD s w from congrArg (·.getD ⟨0, 0⟩) (leftIv_same s k.nf k.nt (hm'.trans hm.symm))]
    exact iv_sub_refl _

/-- what can still change below a MultiSetEdit -/
def msBase (g : Ghost) (kvps : List M) (w : WmSt) (edges : List (List M)) : Nat :=
  sumMu g kvps + muLLg g edges + wmFlags w

/-- `(kvps', w', e')` is the MultiSetEdit `(kvps, w, edges)` after one of its operations; `fuel` is the bound of the
    matcher's loop, kept so that the next `tighten_bounds()` still terminates -/
structure MsKeeps (g : Ghost) (s : MsSt) (kvps : List M) (w : WmSt) (edges : List (List M)) (kvps' : List M)
    (w' : WmSt) (e' : List (List M)) : Prop where
  agg : Agg g kvps kvps'
  kl : KeepsLL g edges e'
  inv : MsInv g s kvps' w' e'
  nf : w'.nf = w.nf
  nt : w'.nt = w.nt
  assign : w'.assign = w.assign
  sub : (msViewOf g s kvps w edges).lo ≤ (msViewOf g s kvps' w' e').lo ∧
    (msViewOf g s kvps' w' e').hi ≤ (msViewOf g s kvps w edges).hi
  base : msBase g kvps' w' e' ≤ msBase g kvps w edges
  fuel : wmFlags w' + muLLg g e' ≤ wmFlags w + muLLg g edges

theorem MsKeeps.trans {s : MsSt} {k1 k2 k3 : List M} {w1 w2 w3 : WmSt} {e1 e2 e3 : List (List M)}
    (a : MsKeeps g s k1 w1 e1 k2 w2 e2) (b : MsKeeps g s k2 w2 e2 k3 w3 e3) : MsKeeps g s k1 w1 e1 k3 w3 e3 :=
  ⟨a.agg.trans b.agg, a.kl.trans b.kl, b.inv, b.nf.trans a.nf, b.nt.trans a.nt, b.assign.trans a.assign,
    iv_sub_trans a.sub b.sub, Nat.le_trans b.base a.base,
    Nat.le_trans b.fuel a.fuel⟩

theorem MsKeeps.ofWm
    (inv : MsInv g s kvps w e) (ag : Agg g kvps kvps') (k : WmKeeps g w e w' e') :
    MsKeeps g s kvps w e kvps' w' e' := by
  refine ⟨ag, k.kl, inv.ofWm k.inv ag.inv k.nf k.nt, k.nf, k.nt, k.assign, ?_, ?_, k.fuel⟩
  · rw [msView_add, msView_add]
    exact iv_add_sub (iv_add_sub k.sub ⟨ag.lo, ag.hi⟩) (leftIv_shrink inv k)
  · have := ag.mu
    have := k.fuel
    simp only [msBase]
    omega

theorem msView_ne
    (inv : MsInv g s kvps w e) (ag : Agg g kvps kvps') (k : WmKeeps g w e w' e')
    (hs : wmViewV w' (viewM g e') ≠ wmViewV w (viewM g e) ∨ sumIv g kvps' ≠ sumIv g kvps) :
    msViewOf g s kvps' w' e' ≠ msViewOf g s kvps w e := by
  rw [msView_add, msView_add]
  exact iv_add_ne (iv_add_sub k.sub ⟨ag.lo, ag.hi⟩) (leftIv_shrink inv k) (.inl (iv_add_ne k.sub ⟨ag.lo, ag.hi⟩ hs))

theorem msView_def {pairs : List (Nat × Nat)} (hm : w.mtch = some pairs)
    (hw : (wmViewV w (viewM g e)).Single) (hk : sumLo g kvps = sumHi g kvps) :
    (msViewOf g s kvps w e).Single := by
  rw [msView_add]
  exact iv_add_def (iv_add_def hw hk) (by simp only [leftIvD, leftIv, hm, Option.getD_some, Iv.point])

theorem PresL.sums {a b : List M} (p : PresL g a b) : sumLo g b = sumLo g a ∧ sumHi g b = sumHi g a := by
  rw [sumLo_map, sumLo_map, sumHi_map, sumHi_map, p.2]
  exact ⟨rfl, rfl⟩

theorem sumBounds_ok (h : Protocol rec g) : ∀ (ms : List M) (acc : Iv), (∀ m ∈ ms, g.I m) →
    ∃ ms', sumBounds rec ms acc = .ok (ms', ⟨acc.lo + sumLo g ms, acc.hi + sumHi g ms⟩) ∧ PresL g ms ms' ∧
      ∀ m ∈ ms', g.Q m
  | [], acc, _ => ⟨[], by simp [sumBounds, sumLo, sumHi], ⟨trivial, rfl⟩, by simp⟩
  | m :: ms, acc, hI => by
      obtain ⟨hIm, hIms⟩ := List.forall_mem_cons.mp hI
      refine Ret.exv (Ret.bindv (h.bounds m hIm) fun m' ⟨pm, qm⟩ => ?_)
      refine Ret.bindv (sumBounds_ok h ms (acc.add (g.view m)) hIms) fun ms' ⟨pp, qq⟩ => ?_
      exact Ret.pure ⟨by simp only [Iv.add, sumLo, sumHi, Nat.add_assoc], ⟨⟨pm.keeps, pp.1⟩, by simp [pm.view, pp.2]⟩,
        List.forall_mem_cons.mpr ⟨qm, qq⟩⟩

/-- `MultiSetEdit.bounds()` -/
theorem msBounds_keeps (h : Protocol rec g) (l : Lbl)
    (inv : MsInv g s kvps w edges) :
    ∃ kvps' w' e', msBounds rec l s kvps w edges = .ok (.ms l s kvps' w' e', msViewOf g s kvps w edges) ∧
      PresL g kvps kvps' ∧ PresLL g edges e' ∧ MsKeeps g s kvps w edges kvps' w' e' ∧
      msViewOf g s kvps' w' e' = msViewOf g s kvps w edges ∧ w'.mtch = w.mtch ∧
      wmViewV w' (viewM g e') = wmViewV w (viewM g edges) ∧ (∀ m ∈ kvps', g.Q m) := by
  obtain ⟨w1, e1, hb, pp, hmt, hv, wk⟩ := wmBounds_ok h inv.wm
  obtain ⟨kvps1, hk, pk, qk⟩ := sumBounds_ok h kvps (wmViewV w (viewM g edges)) inv.kI
  have hl := leftIv_same s wk.nf wk.nt hmt
  have hview : msViewOf g s kvps1 w1 e1 = msViewOf g s kvps w edges := by
    simp only [msViewOf, hv, pk.sums.1, pk.sums.2, hl]
  refine ⟨kvps1, w1, e1, ?_, pk, pp, MsKeeps.ofWm inv (KeepsL.agg pk.1) wk, hview,
    hmt, hv, qk⟩
  -- the computation: `Range(lo, hi)` of the left-over costs is well-formed
  have hwf := inv.leftIv_wf
  refine bind_of_eq hb (bind_of_eq hk ?_)
  cases hm : w.mtch with
  | some pairs =>
    have hm1 : w1.mtch = some pairs := by rw [hmt, hm]
    simp only [hm1, pure_eq_ok, msViewOf, leftIv, hm, wk.nf, wk.nt, extraOf]
  | none =>
    have hm1 : w1.mtch = none := by rw [hmt, hm]
    simp only [hm1, wk.nf, wk.nt]
    simp only [leftIvD, leftIv, hm] at hwf
    by_cases hgt : w.nf > w.nt
    · simp only [hgt, if_true, Option.getD_some] at hwf
      simp only [hgt, if_true, mk?_ok _ _ (Nat.le_trans hwf.1 hwf.2), ok_bind, pure_eq_ok, msViewOf, leftIv, hm]
    · by_cases hlt : w.nf < w.nt
      · simp only [hgt, hlt, if_true, if_false, Option.getD_some] at hwf
        simp only [hgt, hlt, if_true, if_false, mk?_ok _ _ (Nat.le_trans hwf.1 hwf.2), ok_bind, pure_eq_ok, msViewOf,
          leftIv, hm]
      · simp only [hgt, hlt, if_false, pure_eq_ok, msViewOf, leftIv, hm]

theorem firstTighten_ok (h : Protocol rec g) : ∀ (kvps : List M), (∀ m ∈ kvps, g.I m) →
    ∃ kvps' r, firstTighten rec kvps = .ok (kvps', r) ∧ KeepsL g kvps kvps' ∧
      (r = true → sumMu g kvps' < sumMu g kvps) ∧
      (r = false → ∀ m ∈ kvps', Single g m) ∧
      ((∀ m ∈ kvps, g.Q m) → r = true → sumLo g kvps < sumLo g kvps' ∨ sumHi g kvps' < sumHi g kvps)
  | [], _ => ⟨[], false, rfl, trivial, by simp, by simp, by simp⟩
  | m :: ms, hI => by
      obtain ⟨hIm, hIms⟩ := List.forall_mem_cons.mp hI
      refine Ret.ex₂ (Ret.bind₂ (h.tighten m hIm) fun m' r st => ?_)
      cases r with
      | true =>
        exact Ret.pure ⟨⟨st.keeps, KeepsL.refl ms hIms⟩, fun _ => Nat.add_lt_add_right (st.dec rfl) _, by simp,
          fun hQ _ => (iv_ne_of_sub st.sub (st.strict (hQ m List.mem_cons_self) rfl)).imp
            (Nat.add_lt_add_right · _) (Nat.add_lt_add_right · _)⟩
      | false =>
        refine Ret.bind₂ (firstTighten_ok h ms hIms) fun ms' r' ⟨kk, hdec, hdef, hstr⟩ => ?_
        exact Ret.pure ⟨⟨st.keeps, kk⟩,
          fun hr => Nat.add_lt_add_of_le_of_lt st.mu (hdec hr),
          fun hr => List.forall_mem_cons.mpr ⟨st.stop rfl, hdef hr⟩,
          fun hQ hr => (hstr (fun x hx => hQ x (List.mem_cons_of_mem _ hx)) hr).imp
            (Nat.add_lt_add_of_le_of_lt st.sub.1 ·) (Nat.add_lt_add_of_le_of_lt st.sub.2 ·)⟩

/-- `MultiSetEdit.tighten_bounds()`: the first key/value edit that can be tightened; else the matcher; else, if the
    matcher is definitive without a matching, `bounds()`, the forced matching, `bounds()` -/
theorem msTighten_ok (h : Protocol rec g) (n : Nat) (l : Lbl) (inv : MsInv g s kvps w edges)
    (hn : wmFlags w + muLLg g edges < n) :
    ∃ kvps' w' e' r, msTighten rec n l s kvps w edges = .ok (.ms l s kvps' w' e', r) ∧ KeepsL g kvps kvps' ∧
      MsKeeps g s kvps w edges kvps' w' e' ∧
      (r = true → msBase g kvps' w' e' < msBase g kvps w edges ∨
        (msViewOf g s kvps w edges).lo < (msViewOf g s kvps' w' e').lo ∨
        (msViewOf g s kvps' w' e').hi < (msViewOf g s kvps w edges).hi) ∧
      (r = false → (msViewOf g s kvps' w' e').lo = (msViewOf g s kvps' w' e').hi) ∧
      ((∀ m ∈ kvps, g.Q m) → r = true → msViewOf g s kvps' w' e' ≠ msViewOf g s kvps w edges) := by
  obtain ⟨kvps1, r, hft, kk, hdec, hdef, hstr⟩ := firstTighten_ok h kvps inv.kI
  have ag := KeepsL.agg kk
  cases r with
  | true =>
    have wk := WmKeeps.refl inv.wm
    have mk := MsKeeps.ofWm inv ag wk
    refine ⟨kvps1, w, edges, true, bind_of_eq hft rfl, kk, mk,
      fun _ => .inl ?_, by simp,
      fun hQ _ => msView_ne inv ag wk (.inr (iv_ne_of_lt (hstr hQ rfl)))⟩
    have := hdec rfl
    simp only [msBase]
    omega
  | false =>
    obtain ⟨w1, e1, r1, hwt, wk1, hr1, hr0⟩ := wmTighten_keeps h n inv.wm hn
    have mk1 := MsKeeps.ofWm inv ag wk1
    cases r1 with
    | true =>
      have hne := msView_ne inv ag wk1 (.inl (hr1 rfl))
      exact ⟨kvps1, w1, e1, true, bind_of_eq hft (bind_of_eq hwt rfl), kk, mk1,
        fun _ => .inr (iv_ne_of_sub mk1.sub hne), by simp, fun _ _ => hne⟩
    | false =>
      -- nothing below the MultiSetEdit can be tightened any more
      have hwd : (wmViewV w1 (viewM g e1)).Single := (hr0 rfl).2.2.2 ▸ (hr0 rfl).1
      have hksum : sumLo g kvps1 = sumHi g kvps1 := sum_eq_of_def kvps1 (hdef rfl)
      by_cases hsome : w1.mtch.isSome = true
      · obtain ⟨pairs, hp⟩ := Option.isSome_iff_exists.mp hsome
        exact ⟨kvps1, w1, e1, false, bind_of_eq hft (bind_of_eq hwt (if_pos hsome)), kk, mk1, by simp,
          fun _ => msView_def hp hwd hksum, by simp⟩
      · obtain ⟨kvps2, w2, e2, hb1, pk2, _, mk2, hview2, hmt2, hwv2, _⟩ := msBounds_keeps h l mk1.inv
        obtain ⟨w3, e3, hma, wk3, hm3, _, _, hfl3⟩ := wmMatching_keeps h mk2.inv.wm
        have mk3 := MsKeeps.ofWm mk2.inv (Agg.refl kvps2 mk2.inv.kI) wk3
        obtain ⟨kvps4, w4, e4, hb2, pk4, _, mk4, hview4, _⟩ := msBounds_keeps h l mk3.inv
        have mk := mk1.trans (mk2.trans (mk3.trans mk4))
        have hnone : w1.mtch = none := by simpa using hsome
        -- forcing the matching flips a flag
        have hbase : msBase g kvps4 w4 e4 < msBase g kvps w edges :=
          Nat.lt_of_le_of_lt mk4.base (Nat.lt_of_lt_of_le
            (Nat.add_lt_add_of_le_of_lt (Nat.add_le_add_left wk3.kl.mu _) (hfl3 (hmt2.trans hnone)))
            (Nat.le_trans mk2.base mk1.base))
        -- with the matching known, everything is a single value
        have hdef3 : (msViewOf g s kvps2 w3 e3).Single := by
          have wf3 := wmView_wf h wk3.inv
          exact msView_def hm3 (iv_def_of_sub wk3.sub (Nat.le_trans wf3.1 wf3.2) (hwv2 ▸ hwd))
            (pk2.sums.1.trans (hksum.trans pk2.sums.2.symm))
        refine ⟨kvps4, w4, e4, _,
          bind_of_eq hft (bind_of_eq hwt ((if_neg hsome).trans
            (bind_of_eq hb1 (bind_of_eq rfl (bind_of_eq hma (bind_of_eq hb2 rfl)))))),
          (kk.trans pk2.1).trans pk4.1, mk, fun _ => .inl hbase, fun _ => hview4 ▸ hdef3, fun _ hr he => ?_⟩
        -- the interval returned last is the starting one only if the one after the first `bounds()` was it too
        have h3 := mk3.sub
        rw [hview2, ← hview4, he] at h3
        rw [← iv_sub_antisymm mk1.sub h3, ← he, hview4] at hr
        simp at hr

end

end GtModel.Lazy
