/- `bounds.sort` with an abstract heap: a validated comparison transcript yields a sorted permutation. -/
import GtModel.Proofs.CompareLemmas

namespace GtModel.Bounded
open GtModel

variable {fs : List Int}

def KnowOK (fs : List Int) (know : List (Nat × Nat)) : Prop := ∀ p ∈ know, LE fs p.1 p.2

theorem reachStep_sound {know : List (Nat × Nat)} (hk : KnowOK fs know) {m : Nat} {s : List Nat}
    (hs : ∀ x ∈ s, LE fs m x) : ∀ y ∈ reachStep know s, LE fs m y := by
  intro y hy
  unfold reachStep at hy
  rcases List.mem_append.mp hy with h | h
  · exact hs y h
  · obtain ⟨p, hp, rfl⟩ := List.mem_map.mp h
    obtain ⟨hpk, hps⟩ := List.mem_filter.mp hp
    simp at hps
    exact (hs p.1 hps).trans (hk p hpk)

theorem reachN_sound {know : List (Nat × Nat)} (hk : KnowOK fs know) {m : Nat} :
    ∀ (k : Nat) (s : List Nat), (∀ x ∈ s, LE fs m x) → ∀ y ∈ reachN know k s, LE fs m y := by
  intro k
  induction k with
  | zero => intro s hs y hy; exact hs y hy
  | succ k ih => intro s hs y hy; exact ih _ (reachStep_sound hk hs) y hy

theorem justified_sound {know : List (Nat × Nat)} (hk : KnowOK fs know) {rem : List Nat} {m : Nat}
    (hm : m < fs.length) (h : justified know rem m = true) : ∀ y ∈ rem, LE fs m y := by
  intro y hy
  unfold justified at h
  simp only [List.all_eq_true] at h
  have := h y hy
  simp at this
  exact reachN_sound hk _ [m] (by intro x hx; simp at hx; subst hx; exact LE.refl hm) y this

structure SortInv (fs : List Int) (n : Nat) (s : SortSt) : Prop where
  valid : ValidSt s.σ fs
  know : KnowOK fs s.know
  rem : ∀ x ∈ s.remaining, x < n
  below : ∀ o ∈ s.out, ∀ y ∈ s.remaining, LE fs o y
  sorted : s.out.Pairwise (LE fs)
  perm : (s.out ++ s.remaining).Perm (List.range n)

theorem sortReplay_cmp {evs : List SortEv} {s s' : SortSt} {i j : Nat} {idlt res : Bool}
    (h : sortReplay (.cmp i j idlt res :: evs) s = .ok s') :
    i < s.σ.length ∧ j < s.σ.length ∧ (ltCmp s.σ i j idlt).1 = res ∧
    sortReplay evs { s with σ := (ltCmp s.σ i j idlt).2, know := (if res then (i, j) else (j, i)) :: s.know } = .ok s' := by
  simp only [sortReplay] at h
  split at h
  · cases h
  · rename_i hidx
    split at h
    · cases h
    · rename_i hres
      simp only [Bool.or_eq_true, decide_eq_true_eq, not_or, Nat.not_le] at hidx
      exact ⟨hidx.1, hidx.2, by simpa using hres, h⟩

theorem sortReplay_pop {evs : List SortEv} {s s' : SortSt} {m : Nat} (h : sortReplay (.pop m :: evs) s = .ok s') :
    m ∈ s.remaining ∧ justified s.know s.remaining m = true ∧
    sortReplay evs { s with remaining := s.remaining.erase m, out := s.out ++ [m] } = .ok s' := by
  simp only [sortReplay] at h
  split at h
  · cases h
  · rename_i hmem
    split at h
    · cases h
    · rename_i hjust
      exact ⟨by simpa using hmem, by simpa using hjust, h⟩

theorem sortReplay_spec (fs : List Int) : ∀ (evs : List SortEv) (s s' : SortSt),
    SortInv fs fs.length s → sortReplay evs s = .ok s' → Reach s.σ s'.σ ∧ SortInv fs fs.length s'
  | [], s, s', inv, h => by cases h; exact ⟨.refl _, inv⟩
  | .cmp i j idlt res :: evs, s, s', inv, h => by
    obtain ⟨hi, hj, hres, h⟩ := sortReplay_cmp h
    rw [inv.valid.1] at hi hj
    obtain ⟨c1, c2, c3⟩ := ltCmp_le inv.valid hi hj idlt
    refine (sortReplay_spec fs evs { s with σ := _, know := _ } s'
      { inv with valid := c1.valid inv.valid, know := ?_ } h).imp c1.trans id
    intro p hp
    rcases List.mem_cons.mp hp with rfl | hp
    · subst hres
      cases hres : (ltCmp s.σ i j idlt).1
      · exact c3 hres
      · exact c2 hres
    · exact inv.know p hp
  | .pop m :: evs, s, s', inv, h => by
    obtain ⟨hmem, hjust, h⟩ := sortReplay_pop h
    have hbelow := justified_sound inv.know (inv.rem m hmem) hjust
    refine sortReplay_spec fs evs { s with remaining := s.remaining.erase m, out := s.out ++ [m] } s'
      ⟨inv.valid, inv.know, fun x hx => inv.rem x (List.mem_of_mem_erase hx), ?_, ?_, ?_⟩ h
    · intro o ho y hy
      have hy' := List.mem_of_mem_erase hy
      rcases List.mem_append.mp ho with h' | h'
      · exact inv.below o h' y hy'
      · rw [List.mem_singleton] at h'; subst h'; exact hbelow y hy'
    · rw [List.pairwise_append]
      refine ⟨inv.sorted, List.pairwise_singleton _ _, fun a ha b hb => ?_⟩
      rw [List.mem_singleton] at hb; subst hb
      exact inv.below a ha b hmem
    · rw [List.append_assoc]
      exact (List.Perm.append_left _ (List.perm_cons_erase hmem).symm).trans inv.perm

theorem sortInit_inv {σ : St} (hv : ValidSt σ fs) : SortInv fs fs.length (sortInit σ) := by
  unfold sortInit
  refine ⟨hv, (by intro p hp; cases hp), ?_, (by intro o ho; cases ho), List.Pairwise.nil, ?_⟩
  · intro x hx; rw [← hv.1]; simpa using hx
  · simp [hv.1]

end GtModel.Bounded
