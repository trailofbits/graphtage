/-
  The ghost data `G` of all seven classes by structural recursion over `M` (a nested inductive: hence the list-level
  functions `viewL`, `finLL`, `invLL2`, … and formulas that repeat `collView`, `collMu0`, `edScriptOf` of the per-class
  files; `LazyEngine.layer` is the same ghost over an arbitrary ghost of the sub-machines, and `G_succ` the link).
  Second half (section `Classes`), generic in the ghost `g` of the sub-edits: the frames of lists of machines (`Agg`,
  `KeepsL` with `KeepsL.pw`), the methods of KeyValuePairEdit and of FixedLengthSequenceEdit with
  `repeat_until_tightened` (`fixedLoop_ok`), `mapOnDiff_*`, `dumpList_*`.
-/
import GtModel.Proofs.LazyDefsMs
import GtModel.Proofs.ExceptBasic

namespace GtModel.Lazy

/-! None of these functions reads the parameter
  `a`: it is the ghost of machine classes left abstract, of which there is none (`isAtom` is constantly false); the
  statements of C04 / C05 put `noAtoms` for it. -/

mutual
def finG (a : Ghost) : M → Nat
  | .const _ c => c
  | .kvp _ k v => finG a k + finG a v
  | .str _ e => finG a e
  | .fixed _ subs tail => finL a subs + tailCost tail
  | .ed _ s cells => edFinOf s (finLL a cells)
  | .coll _ _ p q => finL a q + finL a p
  | .ms _ s k w e => (w.assign.map (finAt (finLL a e))).sum + finL a k + extraOf s w w.assign
def finL (a : Ghost) : List M → Nat
  | [] => 0
  | m :: ms => finG a m + finL a ms
def finRow (a : Ghost) : List M → List Nat
  | [] => []
  | m :: ms => finG a m :: finRow a ms
def finLL (a : Ghost) : List (List M) → List (List Nat)
  | [] => []
  | r :: rs => finRow a r :: finLL a rs
end

mutual
def viewG (a : Ghost) : M → Iv
  | .const _ c => Iv.point c
  | .kvp _ k v => (viewG a k).add (viewG a v)
  | .str _ e => viewG a e
  | .fixed _ subs tail => ⟨(viewL a subs).lo + tailCost tail, (viewL a subs).hi + tailCost tail⟩
  | .ed _ s cells => edViewOf s (finLL a cells)
  | .coll _ s _ q =>
      match s.cost with
      | some c => c
      | none =>
        if s.iterDone then ⟨(viewL a q).lo, Nat.min s.ub0 (viewL a q).hi⟩
        else ⟨(viewL a q).lo, Nat.min s.ub0 (s.ub0 - decL a q s.inits)⟩
  | .ms _ s k w e =>
      let b1 : Iv := ⟨(wmViewV w (viewLL a e)).lo + (viewL a k).lo, (wmViewV w (viewLL a e)).hi + (viewL a k).hi⟩
      match leftIv s w with
      | some r => b1.add r
      | none => b1
def viewL (a : Ghost) : List M → Iv
  | [] => ⟨0, 0⟩
  | m :: ms => (viewG a m).add (viewL a ms)
def viewRow (a : Ghost) : List M → List Iv
  | [] => []
  | m :: ms => viewG a m :: viewRow a ms
def viewLL (a : Ghost) : List (List M) → List (List Iv)
  | [] => []
  | r :: rs => viewRow a r :: viewLL a rs
/-- what `EditCollection.bounds()` subtracts from the upper bound (`decOf` over `viewG`) -/
def decL (a : Ghost) : List M → List Nat → Nat
  | [], _ => 0
  | m :: ms, is => (is.headD 0 - (viewG a m).hi) + decL a ms is.tail
end

mutual
/-- structural measure: an upper bound of the number of `True` answers still possible.  The `+ width` summands:
    `repeat_until_tightened` and the collection's loop may answer True for a move of the interval alone -/
def muG (a : Ghost) : M → Nat
  | .const _ _ => 0
  | .kvp _ k v => muG a k + muG a v
  | .str _ e => muG a e
  | .fixed _ subs tail => muL a subs + ((viewL a subs).hi - (viewL a subs).lo)
  | .ed _ s cells => edMu0 s + muLL2 a cells
  | .coll l s p q =>
      muL a q + muL a p + p.length + (if s.iterDone then 0 else 1)
        + ((viewG a (.coll l s p q)).hi - (viewG a (.coll l s p q)).lo)
  | .ms l s k w e =>
      muL a k + muLL2 a e + wmFlags w + ((viewG a (.ms l s k w e)).hi - (viewG a (.ms l s k w e)).lo)
def muL (a : Ghost) : List M → Nat
  | [] => 0
  | m :: ms => muG a m + muL a ms
def muLL2 (a : Ghost) : List (List M) → Nat
  | [] => 0
  | r :: rs => muL a r + muLL2 a rs
end

def DScript.subs : DScript → List DScript
  | .mk _ _ _ _ subs => subs

mutual
/-- the script the harness' dump prints once the machine is definitive -/
def scriptG (a : Ghost) : M → DScript
  | .const l c => .mk l.kind l.fi l.ti (Iv.point c) []
  | .kvp l k v => .mk l.kind l.fi l.ti (Iv.point (finG a k + finG a v)) [scriptG a k, scriptG a v]
  | .str l e => .mk l.kind l.fi l.ti (Iv.point (finG a e)) (scriptG a e).subs
  | .fixed l subs tail =>
      .mk l.kind l.fi l.ti (Iv.point (finL a subs + tailCost tail)) (scriptL a subs ++ tail.map DScript.ofScript)
  | .ed l s cells =>
      .mk l.kind l.fi l.ti (Iv.point (edFinOf s (finLL a cells)))
        (matchesFrom 0 0 s.pre
          ++ edPathScripts s (scriptLL a cells) (ptrace s (finLL a cells) (s.nt + s.nf + 1) s.nt s.nf).reverse
          ++ matchesFrom (s.flen - s.suf) (s.tlen - s.suf) s.suf)
  | .coll l _ p q =>
      .mk l.kind l.fi l.ti (Iv.point (finL a q + finL a p)) (scriptL a q ++ scriptL a p)
  | .ms l s k w e =>
      .mk l.kind l.fi l.ti
        (Iv.point ((w.assign.map (finAt (finLL a e))).sum + finL a k + extraOf s w w.assign))
        (s.nMatch.map DScript.ofScript ++ scriptL a k ++ w.assign.map (scrAt (scriptLL a e))
          ++ ((unmatched w.nf (w.assign.map (·.1))).map fun x =>
              DScript.mk .remove (.at (s.remIdx.getD x 0)) .none (Iv.point (s.remCosts.getD x 0)) [])
          ++ ((unmatched w.nt (w.assign.map (·.2))).map fun x =>
              DScript.mk .insert (.at (s.insIdx.getD x 0)) .none (Iv.point (s.insCosts.getD x 0)) []))
def scriptL (a : Ghost) : List M → List DScript
  | [] => []
  | m :: ms => scriptG a m :: scriptL a ms
def scriptLL (a : Ghost) : List (List M) → List (List DScript)
  | [] => []
  | r :: rs => scriptL a r :: scriptLL a rs
end

/-- the ghost that only knows intervals, final costs, measures and scripts (used inside the invariant of `ed`) -/
def ghostOf (a : Ghost) : Ghost :=
  { I := fun _ => True, Q := fun _ => True, view := viewG a, fin := finG a, μ := muG a, script := scriptG a }

mutual
/-- the invariant; `F` = the iteration bound of the loops (`mkOps q F n`): a collection must be able to finish its
    `while True` loop within `F` iterations -/
def invG (a : Ghost) (F : Nat) : M → Prop
  | .const _ _ => True
  | .kvp _ k v => invG a F k ∧ invG a F v
  | .str _ e => invG a F e
  | .fixed _ subs _ => invL a F subs
  | .ed _ s cells => edMu0 s + muLL2 a cells < F ∧ invLL2 a F cells ∧ EdInv (ghostOf a) s cells
  | .coll _ s p q =>
      muL a q + muL a p + p.length + (if s.iterDone then 0 else 1) < F ∧
      invL a F q ∧ invL a F p ∧ HiLe (viewOnly (viewG a)) q s.inits ∧ HiLe (viewOnly (viewG a)) p s.pinits ∧
        s.inits.sum + s.pinits.sum ≤ s.ub0 ∧ (s.iterDone = true → p = [] ∧ q ≠ []) ∧
        (∀ c, s.cost = some c → s.iterDone = true ∧
            c = ⟨(viewL a q).lo, Nat.min s.ub0 (viewL a q).hi⟩ ∧ c.lo = c.hi) ∧
        (p ≠ [] ∨ q ≠ [])
  | .ms _ s k w e =>
      wmFlags w + muLL2 a e < F ∧ invL a F k ∧ invLL2 a F e ∧ MShape e w.nf w.nt ∧ AssignOK w ∧
        (∀ pairs, w.mtch = some pairs → pairs = w.assign) ∧
        (∀ b, w.memo = some b → b = Iv.point ((w.assign.map (finAt (finLL a e))).sum) ∧
          ∀ p ∈ w.assign, (ivAt (viewLL a e) p).lo = (ivAt (viewLL a e) p).hi) ∧
        s.remCosts.length = w.nf ∧ s.insCosts.length = w.nt
def invL (a : Ghost) (F : Nat) : List M → Prop
  | [] => True
  | m :: ms => invG a F m ∧ invL a F ms
def invLL2 (a : Ghost) (F : Nat) : List (List M) → Prop
  | [] => True
  | r :: rs => invL a F r ∧ invLL2 a F rs
end

mutual
/-- settled, the `Q` of `G` (what a `bounds()` call establishes): a complete EditDistance has its script cached; followed
    through kvp / str / fixed sub-edits and the auto-matched pairs of a MultiSetEdit, not into collections or matcher edges
    (their `bounds()` may answer from the memo without calling the sub-edits' `bounds()`) -/
def setG (a : Ghost) : M → Prop
  | .const _ _ => True
  | .kvp _ k v => setG a k ∧ setG a v
  | .str _ e => setG a e
  | .fixed _ subs _ => setL a subs
  | .ed _ s _ => edComplete s = true → s.cache.isSome = true
  | .coll _ _ _ _ => True
  | .ms _ _ k _ _ => setL a k
def setL (a : Ghost) : List M → Prop
  | [] => True
  | m :: ms => setG a m ∧ setL a ms
end

mutual
/-- nesting depth of a machine (a constant edit counts 1) -/
def height : M → Nat
  | .const _ _ => 1
  | .kvp _ k v => Nat.max (height k) (height v) + 1
  | .str _ e => height e + 1
  | .fixed _ subs _ => heightL subs + 1
  | .ed _ _ cells => heightLL cells + 1
  | .coll _ _ p q => Nat.max (heightL q) (heightL p) + 1
  | .ms _ _ k _ e => Nat.max (heightL k) (heightLL e) + 1
def heightL : List M → Nat
  | [] => 0
  | m :: ms => Nat.max (height m) (heightL ms)
def heightLL : List (List M) → Nat
  | [] => 0
  | r :: rs => Nat.max (heightL r) (heightLL rs)
end

/-- constantly `false`: no machine class is left abstract -/
def isAtom : M → Bool
  | _ => false

/-- the ghost of all machines of height ≤ n -/
def G (a : Ghost) (F n : Nat) : Ghost :=
  { I := fun m => invG a F m ∧ height m ≤ n, Q := setG a, view := viewG a, fin := finG a, μ := muG a,
    script := scriptG a }

theorem scriptL_eq_map (a : Ghost) (ms : List M) : scriptL a ms = ms.map (scriptG a) :=
  (map_eq_of_cons rfl (fun _ _ => rfl) ms).symm

theorem scriptLL_eq_map (a : Ghost) (cells : List (List M)) : scriptLL a cells = cells.map (·.map (scriptG a)) :=
  (map_eq_of_cons rfl (fun r _ => congrArg (· :: _) (scriptL_eq_map a r)) cells).symm

theorem finRow_eq_map (a : Ghost) (r : List M) : finRow a r = r.map (finG a) :=
  (map_eq_of_cons rfl (fun _ _ => rfl) r).symm

theorem finLL_eq_map (a : Ghost) (cells : List (List M)) : finLL a cells = cells.map (·.map (finG a)) :=
  (map_eq_of_cons rfl (fun r _ => congrArg (· :: _) (finRow_eq_map a r)) cells).symm

theorem finL_eq_sum (a : Ghost) (ms : List M) : finL a ms = (ms.map (finG a)).sum := by
  induction ms with
  | nil => rfl
  | cons m ms ih => rw [finL, ih]; rfl

theorem edFin_eq_solve (s : EdSt) (fm : List (List Nat)) : edFinOf s fm = (EditMatrix.solve s.rem s.ins fm).1 := by
  rw [EditMatrix.solve_eq_spec]; rfl

section Classes
variable {rec : Ops} {g : Ghost}

theorem HiLe.iff {l : List M} {is : List Nat} : HiLe g l is ↔ Forall2 (fun m i => (g.view m).hi ≤ i) l is :=
  Builder.Forall2.iff_of_rec trivial Iff.rfl id id

theorem nmin (a b : Nat) : Nat.min a b = min a b := rfl

theorem sumLo_append (a b : List M) : sumLo g (a ++ b) = sumLo g a + sumLo g b := by
  induction a with
  | nil => simp [sumLo]
  | cons x xs ih => simp only [List.cons_append, sumLo, ih]; omega
theorem sumHi_append (a b : List M) : sumHi g (a ++ b) = sumHi g a + sumHi g b := by
  induction a with
  | nil => simp [sumHi]
  | cons x xs ih => simp only [List.cons_append, sumHi, ih]; omega
theorem sumFin_append (a b : List M) : sumFin g (a ++ b) = sumFin g a + sumFin g b := by
  induction a with
  | nil => simp [sumFin]
  | cons x xs ih => simp only [List.cons_append, sumFin, ih]; omega
theorem sumMu_append (a b : List M) : sumMu g (a ++ b) = sumMu g a + sumMu g b := by
  induction a with
  | nil => simp [sumMu]
  | cons x xs ih => simp only [List.cons_append, sumMu, ih]; omega


theorem sumMu_set_eq (l : List M) (c : Nat) (x y : M) (h : l[c]? = some x) :
    sumMu g (l.set c y) + g.μ x = sumMu g l + g.μ y := sum_set_eq (fun _ _ => rfl) l c x y h

theorem sumMu_set_lt (q : List M) (i : Nat) (c c1 : M) (hq : q[i]? = some c) (hlt : g.μ c1 < g.μ c) :
    sumMu g (q.set i c1) < sumMu g q := by
  have := sumMu_set_eq (g := g) q i c c1 hq
  omega
theorem sumLo_map (l : List M) : sumLo g l = ((l.map g.view).map (·.lo)).sum := by
  induction l with
  | nil => rfl
  | cons m ms ih => simp [sumLo, ih]

theorem sumHi_map (l : List M) : sumHi g l = ((l.map g.view).map (·.hi)).sum := by
  induction l with
  | nil => rfl
  | cons m ms ih => simp [sumHi, ih]

theorem kvpBounds_ok (h : Protocol rec g) (l : Lbl) (k v : M) (hk : g.I k) (hv : g.I v) :
    ∃ k' v', kvpBounds rec l k v = .ok (.kvp l k' v', (g.view k).add (g.view v)) ∧
      Pres g k k' ∧ g.Q k' ∧ Pres g v v' ∧ g.Q v' := by
  obtain ⟨k', ek, pk, qk⟩ := h.bounds k hk
  obtain ⟨v', ev, pv, qv⟩ := h.bounds v hv
  exact ⟨k', v', bind_of_eq ek (bind_of_eq ev rfl), pk, qk, pv, qv⟩

theorem kvpTighten_ok (h : Protocol rec g) (l : Lbl) (k v : M) (hk : g.I k) (hv : g.I v) :
    ∃ k' v' r, kvpTighten rec l k v = .ok (.kvp l k' v', r) ∧
      ((r = true ∧ Step g k k' true ∧ v' = v) ∨ (Step g k k' false ∧ Step g v v' r)) := by
  obtain ⟨k', rk, ek, sk⟩ := h.tighten k hk
  cases rk with
  | true =>
    exact ⟨k', v, true, bind_of_eq ek rfl, Or.inl ⟨rfl, sk, rfl⟩⟩
  | false =>
    obtain ⟨v', rv, ev, sv⟩ := h.tighten v hv
    exact ⟨k', v', rv, bind_of_eq ek (bind_of_eq ev rfl), Or.inr ⟨sk, sv⟩⟩

/-- `ms'` is `ms` after some operations on its elements -/
structure Agg (g : Ghost) (ms ms' : List M) : Prop where
  inv : ∀ m ∈ ms', g.I m
  fin : sumFin g ms' = sumFin g ms
  lo : sumLo g ms ≤ sumLo g ms'
  hi : sumHi g ms' ≤ sumHi g ms
  mu : sumMu g ms' ≤ sumMu g ms
  scr : ms'.map g.script = ms.map g.script

theorem Agg.refl (ms : List M) (h : ∀ m ∈ ms, g.I m) : Agg g ms ms :=
  ⟨h, rfl, Nat.le_refl _, Nat.le_refl _, Nat.le_refl _, rfl⟩

theorem Agg.trans {a b c : List M} (h1 : Agg g a b) (h2 : Agg g b c) : Agg g a c :=
  ⟨h2.inv, h2.fin.trans h1.fin, Nat.le_trans h1.lo h2.lo, Nat.le_trans h2.hi h1.hi, Nat.le_trans h2.mu h1.mu,
    h2.scr.trans h1.scr⟩

/-- `l'` is `l` after operations on its elements -/
def KeepsL (g : Ghost) : List M → List M → Prop
  | [], [] => True
  | m :: ms, m' :: ms' => Keeps g m m' ∧ KeepsL g ms ms'
  | _, _ => False

theorem KeepsL.pw {a b : List M} : KeepsL g a b ↔ Forall2 (Keeps g) a b := Builder.Forall2.iff_of_rec trivial Iff.rfl id id

theorem KeepsL.refl (l : List M) (h : ∀ m ∈ l, g.I m) : KeepsL g l l :=
  KeepsL.pw.mpr (.same fun m hm => Keeps.refl g m (h m hm))

theorem KeepsL.trans {a b c : List M} (h1 : KeepsL g a b) (h2 : KeepsL g b c) : KeepsL g a c :=
  KeepsL.pw.mpr ((KeepsL.pw.mp h1).trans (KeepsL.pw.mp h2) Keeps.trans)

theorem KeepsL.length : ∀ {a b : List M}, KeepsL g a b → b.length = a.length :=
  fun h => (KeepsL.pw.mp h).length_eq.symm

theorem KeepsL.ne_nil {a b : List M} (k : KeepsL g a b) (h : a ≠ []) : b ≠ [] := by
  intro e
  have := k.length
  rw [e] at this
  exact h (List.eq_nil_of_length_eq_zero this.symm)

theorem KeepsL.inv {a b : List M} (h : KeepsL g a b) : ∀ m ∈ b, g.I m :=
  fun _ hm => let ⟨_, _, k⟩ := (KeepsL.pw.mp h).mem_right hm; k.inv

theorem KeepsL.mapFin {a b : List M} (h : KeepsL g a b) : b.map g.fin = a.map g.fin :=
  (KeepsL.pw.mp h).flip.map_eq fun _ _ _ _ k => k.fin

theorem Agg.cons {m m' : M} {ms ms' : List M} (k : Keeps g m m') (a : Agg g ms ms') :
    Agg g (m :: ms) (m' :: ms') := by
  refine ⟨?_, ?_, ?_, ?_, ?_, by simp only [List.map, k.scr, a.scr]⟩
  · intro x hx
    rcases List.mem_cons.mp hx with rfl | hx
    · exact k.inv
    · exact a.inv x hx
  · simp only [sumFin, k.fin, a.fin]
  · simp only [sumLo]; have := k.sub.1; have := a.lo; omega
  · simp only [sumHi]; have := k.sub.2; have := a.hi; omega
  · simp only [sumMu]; have := k.mu; have := a.mu; omega

theorem KeepsL.agg : ∀ {a b : List M}, KeepsL g a b → Agg g a b
  | [], [], _ => Agg.refl [] (by simp)
  | _ :: _, _ :: _, h => Agg.cons h.1 (KeepsL.agg h.2)
  | [], _ :: _, h => h.elim
  | _ :: _, [], h => h.elim

theorem KeepsL.sums {a b : List M} (k : KeepsL g a b) :
    sumLo g a ≤ sumLo g b ∧ sumHi g b ≤ sumHi g a ∧ sumFin g b = sumFin g a ∧ sumMu g b ≤ sumMu g a ∧
      b.map g.script = a.map g.script :=
  ⟨k.agg.lo, k.agg.hi, k.agg.fin, k.agg.mu, k.agg.scr⟩

theorem KeepsL.set (l : List M) (i : Nat) (x y : M) (hI : ∀ m ∈ l, g.I m) (h : l[i]? = some x) (k : Keeps g x y) :
    KeepsL g l (l.set i y) :=
  KeepsL.pw.mpr (.set l i (fun m hm => Keeps.refl g m (hI m hm)) h k)

theorem KeepsL.append : ∀ {a b : List M} (c : List M), KeepsL g a b → (∀ m ∈ c, g.I m) → KeepsL g (a ++ c) (b ++ c) :=
  fun c h hc => KeepsL.pw.mpr ((KeepsL.pw.mp h).append (.same fun m hm => Keeps.refl g m (hc m hm)))

theorem KeepsL.get {a b : List M} (j : Nat) (y : M) (h : KeepsL g a b) : b[j]? = some y →
    ∃ x, a[j]? = some x ∧ Keeps g x y := (KeepsL.pw.mp h).get? j y

theorem sum_wf (h : Protocol rec g) (ms : List M) (hI : ∀ m ∈ ms, g.I m) :
    sumLo g ms ≤ sumFin g ms ∧ sumFin g ms ≤ sumHi g ms := by
  induction ms with
  | nil => simp [sumLo, sumFin, sumHi]
  | cons m ms ih =>
    have hm := h.wf m (hI m (by simp))
    have := ih (fun x hx => hI x (by simp [hx]))
    simp only [sumLo, sumFin, sumHi]; omega

theorem boundsGo_keeps (h : Protocol rec g) : ∀ (ms : List M), (∀ m ∈ ms, g.I m) →
    ∃ ms', fixedBoundsGo rec ms = .ok (ms', sumLo g ms, sumHi g ms) ∧ KeepsL g ms ms' ∧
      sumLo g ms' = sumLo g ms ∧ sumHi g ms' = sumHi g ms ∧ (∀ m ∈ ms', g.Q m)
  | [], _ => ⟨[], rfl, trivial, rfl, rfl, by simp⟩
  | m :: ms, hI => by
    obtain ⟨m', em, pm, qm⟩ := h.bounds m (hI m (by simp))
    obtain ⟨ms', ems, k, elo, ehi, qs⟩ := boundsGo_keeps h ms (fun x hx => hI x (by simp [hx]))
    refine ⟨m' :: ms', ?_, ⟨pm.keeps, k⟩, ?_, ?_, ?_⟩
    · exact bind_of_eq em (bind_of_eq ems rfl)
    · simp only [sumLo, pm.view, elo]
    · simp only [sumHi, pm.view, ehi]
    · intro x hx
      rcases List.mem_cons.mp hx with rfl | hx
      · exact qm
      · exact qs x hx

/-- outcome of the undecorated `FixedLengthSequenceEdit.tighten_bounds` -/
structure RawOut (g : Ghost) (ms ms' : List M) (r : Bool) : Prop where
  agg : Agg g ms ms'
  dec : r = true → sumMu g ms' < sumMu g ms
  strict : r = true → sumLo g ms < sumLo g ms' ∨ sumHi g ms' < sumHi g ms
  stop : r = false → sumLo g ms' = sumHi g ms'

theorem fixedRaw_ok (h : Protocol rec g) (ms : List M) (hI : ∀ m ∈ ms, g.I m) :
    ∃ ms' r, fixedRaw rec ms = .ok (ms', r) ∧ RawOut g ms ms' r := by
  induction ms with
  | nil =>
    exact ⟨[], false, rfl, ⟨Agg.refl [] (by simp), by simp, by simp, by simp [sumLo, sumHi]⟩⟩
  | cons m ms ih =>
    have hIms : ∀ x ∈ ms, g.I x := fun x hx => hI x (by simp [hx])
    obtain ⟨m1, e1, p1, q1⟩ := h.bounds m (hI m (by simp))
    obtain ⟨m2, r, e2, s2⟩ := h.tighten m1 p1.inv
    have h1 := s2.sub.1; have h2 := s2.sub.2; rw [p1.view] at h1 h2
    cases r with
    | true =>
      obtain ⟨m3, e3, p3, _⟩ := h.bounds m2 s2.inv
      refine ⟨m3 :: ms, true, bind_of_eq e1 (bind_of_eq e2 (bind_of_eq e3 rfl)),
        ⟨(Agg.refl ms hIms).cons ((p1.keeps.trans s2.keeps).trans p3.keeps), ?_, ?_, by simp⟩⟩
      · intro _; simp only [sumMu]; have := p3.mu; have := s2.dec rfl; have := p1.mu; omega
      · intro _
        have := iv_ne_of_sub s2.sub (s2.strict q1 rfl)
        rw [p1.view] at this
        simp only [sumLo, sumHi, p3.view]; omega
    | false =>
      obtain ⟨ms', r', ems, out⟩ := ih hIms
      refine ⟨m2 :: ms', r', bind_of_eq e1 (bind_of_eq e2 (bind_of_eq ems rfl)), ⟨out.agg.cons (p1.keeps.trans s2.keeps), ?_, ?_, ?_⟩⟩
      · intro hr; simp only [sumMu]; have := s2.mu; have := p1.mu; have := out.dec hr; omega
      · intro hr
        have := out.strict hr
        simp only [sumLo, sumHi]; omega
      · intro hr
        have := s2.stop rfl
        have := out.stop hr
        simp only [sumLo, sumHi]; omega

theorem fixedBounds_ok (h : Protocol rec g) (l : Lbl) (ms : List M) (tail : List Script) (hI : ∀ m ∈ ms, g.I m) :
    ∃ ms', fixedBounds rec l ms tail = .ok (.fixed l ms' tail, ⟨sumLo g ms + tailCost tail, sumHi g ms + tailCost tail⟩) ∧
      Agg g ms ms' ∧ sumLo g ms' = sumLo g ms ∧ sumHi g ms' = sumHi g ms ∧ (∀ m ∈ ms', g.Q m) := by
  obtain ⟨ms', e, k, elo, ehi, qs⟩ := boundsGo_keeps h ms hI
  have wf := sum_wf h ms hI
  refine ⟨ms', ?_, k.agg, elo, ehi, qs⟩
  exact bind_of_eq e (bind_of_eq (mk?_ok _ _ (by omega)) rfl)

/-- outcome of the decorated `tighten_bounds` (sums of the sub-edits; the constant tail is added on both sides) -/
structure FixedOut (g : Ghost) (ms ms' : List M) (r : Bool) : Prop where
  agg : Agg g ms ms'
  dec : r = true → sumMu g ms' + (sumHi g ms' - sumLo g ms') < sumMu g ms + (sumHi g ms - sumLo g ms)
  strict : r = true → sumLo g ms < sumLo g ms' ∨ sumHi g ms' < sumHi g ms
  stop : r = false → sumLo g ms' = sumHi g ms'

/-- `repeat_until_tightened` around `FixedLengthSequenceEdit.tighten_bounds` terminates: ONE iteration of its loop
    suffices whenever the sub-edits obey the protocol (so any fuel ≥ 1 is enough) -/
theorem fixedLoop_ok (h : Protocol rec g) (l : Lbl) (tail : List Script) (n : Nat) (ms : List M)
    (hI : ∀ m ∈ ms, g.I m) (hnd : sumLo g ms ≠ sumHi g ms) :
    ∃ ms', fixedLoop rec l tail ⟨sumLo g ms + tailCost tail, sumHi g ms + tailCost tail⟩ (n + 1) ms
        = .ok (.fixed l ms' tail, true) ∧ FixedOut g ms ms' true := by
  obtain ⟨ms1, r, e1, out⟩ := fixedRaw_ok h ms hI
  obtain ⟨ms2, e2, ag2, elo, ehi, _⟩ := fixedBounds_ok h l ms1 tail out.agg.inv
  have wf0 := sum_wf h ms hI
  have wf1 := sum_wf h ms1 out.agg.inv
  have hlo := out.agg.lo
  have hhi := out.agg.hi
  have c1 : ¬ (sumLo g ms1 < sumLo g ms ∨ sumHi g ms < sumHi g ms1) := by omega
  have c2 : (sumLo g ms1 = sumHi g ms1 ∨ sumLo g ms < sumLo g ms1) ∨ sumHi g ms1 < sumHi g ms := by
    cases r with
    | true => have := out.strict rfl; omega
    | false => have := out.stop rfl; omega
  refine ⟨ms2, ?_, ⟨out.agg.trans ag2, ?_, ?_, by simp⟩⟩
  · refine bind_of_eq e1 (bind_of_eq e2 ?_)
    dsimp only
    rw [if_neg (by simpa using c1), if_pos (by simpa [Iv.definitive] using c2)]
    rfl
  · intro _
    have := ag2.mu
    rw [elo, ehi]
    cases r with
    | true => have := out.dec rfl; omega
    | false => have := out.stop rfl; have := out.agg.mu; omega
  · intro _
    rw [elo, ehi]
    cases r with
    | true => exact out.strict rfl
    | false => have := out.stop rfl; omega

theorem fixedTighten_ok (h : Protocol rec g) (l : Lbl) (tail : List Script) (n : Nat) (ms : List M)
    (hI : ∀ m ∈ ms, g.I m) :
    ∃ ms' r, fixedTighten rec (n + 1) l ms tail = .ok (.fixed l ms' tail, r) ∧ FixedOut g ms ms' r := by
  obtain ⟨ms1, e1, ag1, elo, ehi, _⟩ := fixedBounds_ok h l ms tail hI
  by_cases hd : sumLo g ms = sumHi g ms
  · refine ⟨ms1, false, ?_, ⟨ag1, by simp, by simp, ?_⟩⟩
    · exact bind_of_eq e1 (if_pos (by simp [Iv.definitive, hd]))
    · intro _; rw [elo, ehi]; exact hd
  · have hd1 : sumLo g ms1 ≠ sumHi g ms1 := by rw [elo, ehi]; exact hd
    obtain ⟨ms2, e2, out⟩ := fixedLoop_ok h l tail n ms1 ag1.inv hd1
    rw [elo, ehi] at e2
    refine ⟨ms2, true, ?_, ⟨ag1.trans out.agg, ?_, ?_, by simp⟩⟩
    · exact bind_of_eq e1 ((if_neg (by simp [Iv.definitive, hd])).trans e2)
    · intro _; have h1 := out.dec rfl; have := ag1.mu; rw [elo, ehi] at h1; omega
    · intro _; have := out.strict rfl; rw [elo, ehi] at this; exact this

theorem fixedComplete_ok (h : Protocol rec g) (ms : List M) (hI : ∀ m ∈ ms, g.I m) :
    ∃ ms' c, fixedComplete rec ms = .ok (ms', c) ∧ Agg g ms ms' ∧
      sumLo g ms' = sumLo g ms ∧ sumHi g ms' = sumHi g ms ∧ ((∀ m ∈ ms, g.Q m) → ∀ m ∈ ms', g.Q m) := by
  induction ms with
  | nil => exact ⟨[], true, rfl, Agg.refl [] (by simp), rfl, rfl, fun _ => by simp⟩
  | cons m ms ih =>
    have hIms : ∀ x ∈ ms, g.I x := fun x hx => hI x (by simp [hx])
    obtain ⟨m', c, em, pm, qm⟩ := h.complete m (hI m (by simp))
    cases c with
    | false =>
      exact ⟨m' :: ms, false, bind_of_eq em rfl, (Agg.refl ms hIms).cons pm.keeps,
        by simp only [sumLo, pm.view], by simp only [sumHi, pm.view],
        fun hq => List.forall_mem_cons.mpr ⟨qm (hq m (by simp)), fun x hx => hq x (by simp [hx])⟩⟩
    | true =>
      obtain ⟨ms', c', ems, ag, elo, ehi, qs⟩ := ih hIms
      exact ⟨m' :: ms', c', bind_of_eq em (bind_of_eq ems rfl), ag.cons pm.keeps,
        by simp only [sumLo, pm.view, elo], by simp only [sumHi, pm.view, ehi],
        fun hq => List.forall_mem_cons.mpr ⟨qm (hq m (by simp)), qs (fun y hy => hq y (by simp [hy]))⟩⟩

theorem all_definitive (h : Protocol rec g) (ms : List M) (hI : ∀ m ∈ ms, g.I m)
    (hd : sumLo g ms = sumHi g ms) : ∀ m ∈ ms, (g.view m).lo = (g.view m).hi := by
  induction ms with
  | nil => simp
  | cons m ms ih =>
    have hm := h.wf m (hI m (by simp))
    have hr := sum_wf h ms (fun x hx => hI x (by simp [hx]))
    simp only [sumLo, sumHi] at hd
    intro x hx
    rcases List.mem_cons.mp hx with rfl | hx
    · omega
    · exact ih (fun x hx => hI x (by simp [hx])) (by omega) x hx

theorem sum_eq_of_def : ∀ (q : List M), (∀ x ∈ q, (g.view x).lo = (g.view x).hi) → sumLo g q = sumHi g q
  | [], _ => rfl
  | x :: xs, hd => by
      have := hd x (by simp)
      have := sum_eq_of_def xs (fun y hy => hd y (by simp [hy]))
      simp only [sumLo, sumHi]; omega

theorem mapOnDiff_keeps (h : Protocol rec g) : ∀ (ms : List M), (∀ m ∈ ms, g.I m) →
    ∃ ms', mapMStates rec.onDiff ms = .ok ms' ∧ KeepsL g ms ms'
  | [], _ => ⟨[], rfl, trivial⟩
  | m :: ms, hI => by
    obtain ⟨m', em, pm⟩ := h.onDiff m (hI m (by simp))
    obtain ⟨ms', ems, k⟩ := mapOnDiff_keeps h ms (fun x hx => hI x (by simp [hx]))
    exact ⟨m' :: ms', bind_of_eq em (bind_of_eq ems rfl), ⟨pm, k⟩⟩

theorem dumpList_keeps (h : Protocol rec g) : ∀ (ms : List M), (∀ m ∈ ms, g.I m) →
    (∀ m ∈ ms, (g.view m).lo = (g.view m).hi) →
    ∃ ms', dumpList rec ms = .ok (ms', ms.map g.script) ∧ KeepsL g ms ms'
  | [], _, _ => ⟨[], rfl, trivial⟩
  | m :: ms, hI, hd => by
    obtain ⟨m', em, pm⟩ := h.dump m (hI m (by simp)) (hd m (by simp))
    obtain ⟨ms', ems, k⟩ := dumpList_keeps h ms (fun x hx => hI x (by simp [hx])) (fun x hx => hd x (by simp [hx]))
    exact ⟨m' :: ms', bind_of_eq em (bind_of_eq ems rfl), ⟨pm, k⟩⟩

theorem mapOnDiff_ok (h : Protocol rec g) (ms : List M) (hI : ∀ m ∈ ms, g.I m) :
    ∃ ms', mapMStates rec.onDiff ms = .ok ms' ∧ Agg g ms ms' := by
  obtain ⟨ms', e, k⟩ := mapOnDiff_keeps h ms hI
  exact ⟨ms', e, k.agg⟩

theorem dumpList_ok (h : Protocol rec g) (ms : List M) (hI : ∀ m ∈ ms, g.I m)
    (hd : ∀ m ∈ ms, (g.view m).lo = (g.view m).hi) :
    ∃ ms', dumpList rec ms = .ok (ms', ms.map g.script) ∧ Agg g ms ms' ∧
      sumLo g ms' = sumLo g ms ∧ sumHi g ms' = sumHi g ms := by
  obtain ⟨ms', e, k⟩ := dumpList_keeps h ms hI hd
  have w := sum_wf h ms' k.inv
  have := sum_eq_of_def ms hd
  have := k.sums.1; have := k.sums.2.1
  exact ⟨ms', e, k.agg, by omega, by omega⟩

end Classes

end GtModel.Lazy
