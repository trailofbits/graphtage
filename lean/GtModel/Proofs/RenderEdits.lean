/-
  The script the engine computes is a well-formed edit in the sense of `Render.WF`:
  `wf_edits` and the root gate.
  Uses the index accounting of every compound edit (`*_idx` in Proofs/EditsIdx and EditsPerm: `fromIdx`/`toIdx` are
  `ixRange`; `pick` in Proofs/EditsProject),
  `cost_zero_imp_eq` (Proofs/ZeroMain) for the cost gates, `edits_ind` (Proofs/EditsBasic) for the recursion of `edits`
  and `SubForm` (Proofs/EditsParts) for what a sub-edit of each compound script can be.
-/
import GtModel.Proofs.EditsProject
import GtModel.Proofs.RenderMain

namespace GtModel.Render
open GtModel
open GtModel.C01 (pick pick_ixRange)

theorem wf_relabel (x y : Item) (s : Script) (f t : Ix) : WF x y (s.relabel f t) ↔ WF x y s := by
  cases s with
  | mk k fi ti c subs =>
    cases k <;> simp only [Script.relabel, Script.kind, Script.cost, Script.subs] <;>
      first | (simp only [WF]) | (rw [WF.eq_def]; conv => rhs; rw [WF.eq_def])

theorem gate_relabel (x y : Item) (s : Script) (f t : Ix) : Gate x y (s.relabel f t) ↔ Gate x y s := by
  cases s; simp [Gate, Script.relabel, Script.kind, Script.cost]

theorem pick_cons_at {α : Type} (l : List α) (i : Nat) (ixs : List Ix) :
    pick l (.at i :: ixs) = (l[i]?).toList ++ pick l ixs := by
  cases h : l[i]? <;> simp [pick, h]

/-- C01's index lists: `k0 = .insert`, `ix = fi` (from) and `k0 = .remove`, `ix = toIxOf r` (to) -/
theorem filterMap_pick {α : Type} (k0 : Kind) (ix : Script → Ix) (subs : List Script) (l : List α)
    (F : Script → Option α) {idx : List Ix} (hidx : (subs.filter fun s => s.kind != k0).map ix = idx)
    (h : ∀ s ∈ subs, (s.kind = k0 → F s = none) ∧ (s.kind ≠ k0 → ∃ i, ix s = .at i ∧ F s = l[i]?)) :
    subs.filterMap F = pick l idx := by
  subst hidx
  induction subs with
  | nil => rfl
  | cons s rest ih =>
    have ih := ih (fun s hs => h s (by simp [hs]))
    obtain ⟨h1, h2⟩ := h s (by simp)
    by_cases hk : s.kind = k0
    · simp [hk, h1 hk, ih]
    · obtain ⟨i, hi, hF⟩ := h2 hk
      simp only [List.filter_cons, bne_iff_ne, ne_eq, hk, not_false_eq_true, if_true, List.map_cons, hi,
        pick_cons_at, ← ih, List.filterMap_cons, hF]
      cases l[i]? <;> simp

theorem filterMap_to_valPerm (r : Ix → Ix) (subs : List Script) (l : List Item) (F : Script → Option Item)
    (h : ∀ s ∈ subs, (s.kind = .remove → F s = none) ∧
      (s.kind ≠ .remove → ∃ z j z', F s = some z ∧ toIxOf r s = .at j ∧ l[j]? = some z' ∧ ValPerm z.val z'.val)) :
    ValPermL ((subs.filterMap F).map Item.val) ((pick l (toIdx r subs)).map Item.val) := by
  induction subs with
  | nil => exact .nil
  | cons s rest ih =>
    have ih := ih (fun s hs => h s (by simp [hs]))
    obtain ⟨h1, h2⟩ := h s (by simp)
    rw [toIdx_cons]
    by_cases hk : s.kind = .remove
    · simpa [hk, List.filterMap_cons, h1 hk] using ih
    · obtain ⟨z, j, z', hF, hj, hz', hsim⟩ := h2 hk
      simp only [hk, if_false, hj, pick_cons_at, hz', List.filterMap_cons, hF, Option.toList_some,
        List.singleton_append, List.map_cons]
      exact .cons hsim ih

/-- the three shapes of a sub-edit of a string edit: Match of two positions, Remove of a from position, Insert of a to
    position (kept in `fi`) -/
def CharForm (s : Script) : Prop :=
  (s.kind = .match_ ∧ ∃ i j, s.fi = .at i ∧ s.ti = .at j) ∨ (s.kind = .remove ∧ ∃ i, s.fi = .at i) ∨
  (s.kind = .insert ∧ ∃ j, s.fi = .at j)

theorem char_resolved (r : Ix → Ix) (a b : Str) (s : Script) (hform : CharForm s)
    (hf : s.kind ≠ .insert → ∃ i, s.fi = .at i ∧ i < a.length)
    (ht : s.kind ≠ .remove → ∃ j, toIxOf r s = .at j ∧ j < b.length) :
    ∃ e, classifyChar a b s = some e ∧
      (s.kind = .insert → e.side true = none) ∧ (s.kind ≠ .insert → ∃ i, s.fi = .at i ∧ e.side true = a[i]?) ∧
      (s.kind = .remove → e.side false = none) ∧
      (s.kind ≠ .remove → ∃ j, toIxOf r s = .at j ∧ e.side false = b[j]?) := by
  cases s with
  | mk k fi ti c subs =>
    rcases hform with ⟨rfl, i, j, rfl, rfl⟩ | ⟨rfl, i, rfl⟩ | ⟨rfl, j, rfl⟩
    · obtain ⟨_, h, hi⟩ := hf nofun; cases h
      obtain ⟨_, h, hj⟩ := ht nofun; cases h
      have hai := List.getElem?_eq_getElem hi
      have hbj := List.getElem?_eq_getElem hj
      simp only [classifyChar, hai, hbj]
      split
      · rename_i hxy
        exact ⟨_, rfl, nofun, fun _ => ⟨i, rfl, hai.symm⟩, nofun, fun _ => ⟨j, rfl, (beq_iff_eq.1 hxy ▸ hbj.symm :)⟩⟩
      · exact ⟨_, rfl, nofun, fun _ => ⟨i, rfl, hai.symm⟩, nofun, fun _ => ⟨j, rfl, hbj.symm⟩⟩
    · obtain ⟨_, h, hi⟩ := hf nofun; cases h
      have hai := List.getElem?_eq_getElem hi
      exact ⟨.rem a[i], by simp [classifyChar, hai], nofun, fun _ => ⟨i, rfl, hai.symm⟩, fun _ => rfl,
        fun h => absurd rfl h⟩
    · obtain ⟨_, h, hj⟩ := ht nofun; cases h
      have hbj := List.getElem?_eq_getElem hj
      exact ⟨.ins b[j], by simp [classifyChar, hbj], fun _ => rfl, fun h => absurd rfl h, nofun,
        fun _ => ⟨j, rfl, hbj.symm⟩⟩

theorem strOK_of_idx (r : Ix → Ix) (a b : Str) (subs : List Script) (hform : ∀ s ∈ subs, CharForm s)
    (hf : fromIdx subs = ixRange a.length) (ht : toIdx r subs = ixRange b.length) (hne : a ≠ b) :
    StrOK a b subs := by
  have hall : ∀ s ∈ subs, _ := fun s hs => char_resolved r a b s (hform s hs)
    (fun hk => mem_ixRange_of (hf ▸ fi_mem_fromIdx hs hk)) (fun hk => mem_ixRange_of (ht ▸ toIx_mem_toIdx r hs hk))
  refine ⟨fun s hs => let ⟨e, he, _⟩ := hall s hs; ⟨e, he⟩, ?_, ?_, hne⟩
  · rw [sideChars, filterMap_pick .insert Script.fi subs a _ hf, pick_ixRange]
    intro s hs
    obtain ⟨e, he, h1, h2, _⟩ := hall s hs
    simp only [he, Option.bind_some]
    exact ⟨h1, h2⟩
  · rw [sideChars, filterMap_pick .remove (toIxOf r) subs b _ ht, pick_ixRange]
    intro s hs
    obtain ⟨e, he, _, _, h3, h4⟩ := hall s hs
    simp only [he, Option.bind_some]
    exact ⟨h3, h4⟩

theorem strSubs_charForm (a b : Str) : ∀ s ∈ (strSubs a b).1, CharForm s := by
  intro s hs
  simp only [strSubs, List.mem_append, List.mem_map] at hs
  rcases hs with (⟨k, _, rfl⟩ | ⟨⟨m, r, c⟩, _, rfl⟩) | ⟨k, _, rfl⟩
  · exact Or.inl ⟨rfl, _, _, rfl, rfl⟩
  · cases m
    · exact Or.inl ⟨rfl, _, _, rfl, rfl⟩
    · exact Or.inr (Or.inr ⟨rfl, _, rfl⟩)
    · exact Or.inr (Or.inl ⟨rfl, _, rfl⟩)
  · exact Or.inl ⟨rfl, _, _, rfl, rfl⟩

theorem strOK_strSubs (a b : Str) (hne : a ≠ b) : StrOK a b (strSubs a b).1 :=
  strOK_of_idx id a b _ (strSubs_charForm a b) (strSubs_idx id a b).1 (strSubs_idx id a b).2 hne

/-- Idea: pull the partner `q` of the first pair out of `bs` (`append_of_mem`), recurse on what is left of
    `bs` (no other pair has its partner at `q`: keys are distinct), and put `q` back with `perm_middle`. -/
theorem valKV_perm_of_sub : ∀ (as bs : List (Str × Tree)), (keys as).Nodup → as.length = bs.length →
    (∀ p ∈ as, ∃ q ∈ bs, p.1 = q.1 ∧ ValPerm (treeVal p.2) (treeVal q.2)) → ValPermP (valKV as) (valKV bs) := by
  intro as
  induction as with
  | nil =>
    intro bs _ hl _
    have : bs = [] := by cases bs <;> simp_all
    subst this; exact .nil
  | cons p rest ih =>
    intro bs hnd hl hsub
    obtain ⟨q, hq, hk, hv⟩ := hsub p (by simp)
    obtain ⟨s, t, rfl⟩ := List.append_of_mem hq
    simp only [keys, List.map_cons, List.nodup_cons, List.mem_map, not_exists, not_and] at hnd
    have ih' := ih (s ++ t) (by simpa [keys] using hnd.2) (by simp at hl ⊢; omega) (by
      intro p' hp'
      obtain ⟨q', hq', hk', hv'⟩ := hsub p' (by simp [hp'])
      refine ⟨q', ?_, hk', hv'⟩
      simp only [List.mem_append, List.mem_cons] at hq' ⊢
      rcases hq' with h | rfl | h
      · exact Or.inl h
      · exact absurd (hk'.trans hk.symm) (hnd.1 p' hp')
      · exact Or.inr h)
    have hpq : ValPerm (Val.pair p.1 (treeVal p.2)) (Val.pair q.1 (treeVal q.2)) := by
      rw [hk]; exact .pair hv
    have h1 : ValPermP (valKV (p :: rest)) (Val.pair q.1 (treeVal q.2) :: valKV (s ++ t)) := by
      obtain ⟨pk, pv⟩ := p
      simpa [valKV] using ValPermP.cons hpq ih'
    refine .permR h1 ?_
    simp only [valKV_eq, List.map_append, List.map_cons]
    exact List.perm_middle.symm

theorem valL_perm_of_eq (as bs : List Tree)
    (ih : ∀ a ∈ as, ∀ b, a.KeysDistinct → b.KeysDistinct → a.eq b = true → ValPerm (treeVal a) (treeVal b))
    (ha : ∀ a ∈ as, a.KeysDistinct) (hb : ∀ b ∈ bs, b.KeysDistinct) (h : eqL as bs = true) :
    ValPermL (valL as) (valL bs) := by
  rw [valL_eq, valL_eq, ValPermL_iff_forall₂]
  exact .map ((eqL_iff_forall₂.1 h).imp fun a haa b hbb e => ih a haa b (ha a haa) (hb b hbb) e)

theorem valKV_perm_of_eq (as bs : List (Str × Tree))
    (ih : ∀ p ∈ as, ∀ b, p.2.KeysDistinct → b.KeysDistinct → p.2.eq b = true → ValPerm (treeVal p.2) (treeVal b))
    (ha : (keys as).Nodup ∧ ∀ kv ∈ as, kv.2.KeysDistinct) (hb : ∀ kv ∈ bs, kv.2.KeysDistinct)
    (h : (as.length == bs.length && subKV as bs) = true) : ValPermP (valKV as) (valKV bs) := by
  simp only [Bool.and_eq_true, beq_iff_eq] at h
  apply valKV_perm_of_sub as bs ha.1 h.1
  intro p hp
  obtain ⟨q, hq, hk, hv⟩ := (subKV_iff as bs).1 h.2 p hp
  exact ⟨q, hq, hk, ih p hp q.2 (ha.2 p hp) (hb q hq) hv⟩

theorem eq_valPerm : ∀ a b : Tree, a.KeysDistinct → b.KeysDistinct → a.eq b = true →
    ValPerm (treeVal a) (treeVal b) := by
  intro a
  induction a using Tree.ind with
  | leaf s =>
    intro b _ _ h
    cases b with
    | leaf s' =>
      have : s = s' := (Scalar.eq_iff s s').1 (by simpa [Tree.eq] using h)
      subst this; exact .refl _
    | _ => simp [Tree.eq] at h
  | list as ih =>
    intro b ha hb h
    cases b with
    | list bs => exact .list (valL_perm_of_eq as bs ih ((kd_list as).1 ha) ((kd_list bs).1 hb)
      (by simpa only [Tree.eq] using h))
    | _ => simp [Tree.eq] at h
  | dict as ih =>
    intro b ha hb h
    cases b with
    | dict bs => exact .map (valKV_perm_of_eq as bs ih ((kd_dict as).1 ha) ((kd_dict bs).1 hb).2
      (by simpa only [Tree.eq] using h))
    | _ => simp [Tree.eq] at h
  | fdict as ih =>
    intro b ha hb h
    cases b with
    | fdict bs => exact .map (valKV_perm_of_eq as bs ih ((kd_fdict as).1 ha) ((kd_fdict bs).1 hb).2
      (by simpa only [Tree.eq] using h))
    | _ => simp [Tree.eq] at h

/-- node equality of two items (graphtage's `==`) -/
def itemEqB : Item → Item → Bool
  | .tree a, .tree b => a.eq b
  | .kv k v, .kv k' v' => k == k' && v.eq v'
  | _, _ => false

/-- the mappings of the node have distinct keys (`Tree.keysDistinct`; for a pair: of its value) -/
def Item.kd : Item → Bool
  | .tree t => t.keysDistinct
  | .kv _ v => v.keysDistinct

theorem itemEqB_sound {a b : Item} (ha : a.kd = true) (hb : b.kd = true) (h : itemEqB a b = true) :
    ValPerm a.val b.val := by
  match a, b, ha, hb, h with
  | .tree a, .tree b, ha, hb, h => exact eq_valPerm a b ha hb h
  | .kv k v, .kv k' v', ha, hb, h =>
    simp only [itemEqB, Bool.and_eq_true, beq_iff_eq] at h
    obtain ⟨rfl, hv⟩ := h
    exact .pair (eq_valPerm v v' ha hb hv)

theorem wf_mkMatch (x y : Item) (c : Nat) (h : c > 0 ∨ ValPerm y.val x.val) : WF x y (mkMatch c) := by
  simpa only [mkMatch, WF] using h

theorem wf_mkMatch0_of_eq {x y : Item} (hx : x.kd = true) (hy : y.kd = true) (h : itemEqB x y = true) :
    WF x y (mkMatch 0) := wf_mkMatch _ _ 0 (.inr (.symm (itemEqB_sound hx hy h)))

theorem wf_mkReplace (x y : Item) (a b : Nat) : WF x y (mkReplace a b) := by
  simp only [mkReplace, WF]; omega

theorem wf_strEdits (a b : Str) : WF (.tree (.leaf (.str a))) (.tree (.leaf (.str b))) (strEdits a b) := by
  unfold strEdits
  split
  · rename_i h
    have : a = b := by simpa using h
    subst this
    exact wf_mkMatch _ _ 0 (.inr (.refl _))
  · split
    · exact wf_mkMatch _ _ 1 (.inl (by decide))
    · rename_i h _
      simp only [WF]
      exact ⟨a, b, rfl, rfl, strOK_strSubs a b (by simpa using h)⟩

theorem wf_leafEdits (a : Scalar) (t : Tree) : WF (.tree (.leaf a)) (.tree t) (leafEdits a t) := by
  unfold leafEdits
  split
  · exact wf_mkMatch _ _ 0 (.inr (.refl _))
  · exact wf_mkReplace _ _ _ _
  · exact wf_strEdits _ _
  · rename_i b _ _ _
    -- a Match of unequal scalars never costs 0
    rw [show leafLeaf a b = mkMatch (leafLeaf a b).cost from rfl]
    by_cases hc : (leafLeaf a b).cost = 0
    · rw [hc]
      exact wf_mkMatch0_of_eq rfl rfl
        (by simpa [itemEqB, Tree.eq] using (leafLeaf_cost_zero_iff a b).1 hc)
    · exact wf_mkMatch _ _ _ (.inl (Nat.pos_of_ne_zero hc))
  · exact wf_mkReplace _ _ _ _

theorem strEdits_str (a b : Str) (h : (strEdits a b).kind = .str) :
    (strEdits a b).subs = (strSubs a b).1 ∧ a ≠ b := by
  unfold strEdits at h ⊢
  split at h
  · simp at h
  · split at h
    · simp at h
    · rename_i h1 h2
      simp only [h1, h2, Bool.false_eq_true, if_false]
      exact ⟨rfl, by simpa using h1⟩

theorem gate_edits (o : Opts) (orc : Oracle) (fp tp : List Nat) (v v' : Tree) (hv : v.KeysDistinct)
    (hv' : v'.KeysDistinct) : Gate (.tree v) (.tree v') (edits o orc fp tp v v') := by
  have htop := Kind.isTop_ne (edits_kind_top o orc fp tp v v')
  refine ⟨htop.2.1, htop.1, ?_⟩
  intro hc
  have := cost_zero_imp_eq o orc v fp tp v' (v.WF_eq_keysDistinct ▸ hv) (v'.WF_eq_keysDistinct ▸ hv') hc
  exact Or.inr (eq_valPerm v v' hv hv' this)

theorem wf_kvpScript (o : Opts) (orc : Oracle) (fp tp : List Nat) (k k' : Str) (v v' : Tree)
    (hv : v.KeysDistinct) (hv' : v'.KeysDistinct) (ih : WF (.tree v) (.tree v') (edits o orc fp tp v v')) :
    WF (.kv k v) (.kv k' v') (kvpScript k k' (v.eq v') (edits o orc fp tp v v')) := by
  simp only [kvpScript, mkCompound, WF]
  refine ⟨⟨?_, ?_, ?_⟩, ?_, ?_⟩
  · simp only [Script.relabel_kind]
    split
    · exact Or.inl rfl
    · exact strEdits_kind k k'
  · simp only [Script.relabel_cost]
    split
    · rename_i h; intro _; simpa using h
    · intro hc; exact (strEdits_cost_zero_iff k k').1 hc
  · simp only [Script.relabel_kind, Script.relabel_subs]
    split
    · intro h; simp at h
    · intro h
      obtain ⟨h1, h2⟩ := strEdits_str k k' h
      rw [h1]; exact strOK_strSubs k k' h2
  · rw [wf_relabel]
    split
    · rename_i h; exact wf_mkMatch0_of_eq hv hv' h
    · exact ih
  · rw [gate_relabel]
    split
    · rename_i h
      exact ⟨by simp, by simp, fun _ => Or.inr (eq_valPerm v v' hv hv' h)⟩
    · exact gate_edits o orc fp tp v v' hv hv'

/-- a sub-edit resolved against the children: its two nodes, that it is a well-formed edit of them, and the
    children that C01's index lists file it under (`same`: a to child equal to the from child) -/
def Resolved (fcs tcs : List Item) (r : Ix → Ix) (s : Script) : Prop :=
  ∃ a b, resolve fcs tcs s = some (a, b) ∧ WF a b s ∧
    (s.kind ≠ .insert → ∃ i, s.fi = .at i ∧ fcs[i]? = some a) ∧
    (s.kind ≠ .remove → ∃ j b', toIxOf r s = .at j ∧ tcs[j]? = some b' ∧ ValPerm b.val b'.val)

/-- what is asked of a sub-edit other than a Remove or an Insert: it is a well-formed edit between the children
    its indices name; a `same` Match is one of the from child into itself, and `r` finds an equal to child -/
def PairOK {α β : Type} (g : α → Item) (g' : β → Item) (fl : List α) (tl : List β) (r : Ix → Ix) (s : Script) : Prop :=
  ∀ i (hi : i < fl.length), s.fi = .at i →
    (∀ j (hj : j < tl.length), s.ti = .at j → WF (g fl[i]) (g' tl[j]) s) ∧
    (s.ti = .same → WF (g fl[i]) (g fl[i]) s ∧
      ∀ j (hj : j < tl.length), r (.at i) = .at j → ValPerm (g fl[i]).val (g' tl[j]).val)

theorem PairOK.map {α β : Type} {g : α → Item} {g' : β → Item} {fl : List α} {tl : List β} {r : Ix → Ix}
    {s : Script} (h : PairOK g g' fl tl r s) : PairOK id id (fl.map g) (tl.map g') r s := by
  intro i hi hfi
  simp only [List.getElem_map, id]
  obtain ⟨h1, h2⟩ := h i (by simpa using hi) hfi
  exact ⟨fun j hj => h1 j (by simpa using hj), fun hs => ⟨(h2 hs).1, fun j hj => (h2 hs).2 j (by simpa using hj)⟩⟩

theorem pairOK_relabel {α β : Type} (g : α → Item) (g' : β → Item) (fl : List α) (tl : List β) (r : Ix → Ix)
    (s : Script) (i j : Nat) (h : ∀ (hi : i < fl.length) (hj : j < tl.length), WF (g fl[i]) (g' tl[j]) s) :
    PairOK g g' fl tl r (s.relabel (.at i) (.at j)) := by
  intro i' hi hfi
  cases hfi
  refine ⟨fun j' hj htj => ?_, fun hs => by cases hs⟩
  cases htj
  exact (wf_relabel _ _ _ _ _).2 (h hi hj)

theorem pairOK_match0 {α β : Type} (g : α → Item) (g' : β → Item) (fl : List α) (tl : List β) (r : Ix → Ix)
    (hf : ∀ a ∈ fl, (g a).kd = true) (ht : ∀ b ∈ tl, (g' b).kd = true) (d : α) (d' : β) (i j : Nat)
    (h : itemEqB (g (fl.getD i d)) (g' (tl.getD j d')) = true) :
    PairOK g g' fl tl r ((mkMatch 0).relabel (.at i) (.at j)) :=
  pairOK_relabel _ _ _ _ r _ i j fun hi hj => by
    rw [getD_eq_getElem _ _ hi, getD_eq_getElem _ _ hj] at h
    exact wf_mkMatch0_of_eq (hf _ (List.getElem_mem hi)) (ht _ (List.getElem_mem hj)) h

theorem resolved_of_idx (fcs tcs : List Item) (r : Ix → Ix) (s : Script)
    (hf : s.kind ≠ .insert → ∃ i, s.fi = .at i ∧ i < fcs.length)
    (ht : s.kind ≠ .remove → ∃ j, toIxOf r s = .at j ∧ j < tcs.length)
    (hp : s.kind ≠ .remove → s.kind ≠ .insert → PairOK id id fcs tcs r s) : Resolved fcs tcs r s := by
  by_cases hr : s.kind = .remove
  · obtain ⟨i, hfi, hi⟩ := hf (by simp [hr])
    have ha := List.getElem?_eq_getElem hi
    refine ⟨fcs[i], fcs[i], by simp [resolve, hr, hfi, ha], ?_, fun _ => ⟨i, hfi, ha⟩, fun h => absurd hr h⟩
    cases s; cases hr; simp [WF]
  by_cases hi : s.kind = .insert
  · obtain ⟨j, htj, hj⟩ := ht hr
    have hfj : s.fi = .at j := by simpa [toIxOf, hi] using htj
    have hb := List.getElem?_eq_getElem hj
    refine ⟨tcs[j], tcs[j], by simp [resolve, hi, hfj, hb], ?_, fun h => absurd hi h, fun _ => ⟨j, _, htj, hb, .refl _⟩⟩
    cases s; cases hi; simp [WF]
  · obtain ⟨i, hfi, hi'⟩ := hf hi
    obtain ⟨j, htj, hj⟩ := ht hr
    obtain ⟨hat, hsame⟩ := hp hr hi i hi' hfi
    have ha := List.getElem?_eq_getElem hi'
    have hb := List.getElem?_eq_getElem hj
    have hki : (s.kind == Kind.insert) = false := by simpa using hi
    by_cases hsm : s.ti = .same
    · have hrj : r (.at i) = .at j := by simpa [toIxOf, hki, hsm, hfi] using htj
      exact ⟨_, _, (resolve_other fcs tcs s i _ hr hi hfi ha).2 hsm, (hsame hsm).1, fun _ => ⟨i, hfi, ha⟩,
        fun _ => ⟨j, _, htj, hb, (hsame hsm).2 j hj hrj⟩⟩
    · have htj' : s.ti = .at j := by simpa [toIxOf, hki, hsm] using htj
      exact ⟨_, _, (resolve_other fcs tcs s i _ hr hi hfi ha).1 j _ htj' hb, hat j hj htj', fun _ => ⟨i, hfi, ha⟩,
        fun _ => ⟨j, _, htj, hb, .refl _⟩⟩

/-- a sequence edit whose sub-edits C01 accounts for index by index is well formed as soon as every sub-edit that is
    not a Remove or an Insert is a well-formed edit between the children it names -/
theorem wf_of_idx (x y : Item) (o c : Nat) (hbx : x.brackets = some (o, c)) (hby : y.brackets = some (o, c))
    (s : Script) (hk : isSeqKind s.kind = true) (r : Ix → Ix)
    (hidx : if o = 91 then
        fromIdx s.subs = ixRange x.children.length ∧ toIdx r s.subs = ixRange y.children.length
      else (fromIdx s.subs).Perm (ixRange x.children.length) ∧ (toIdx r s.subs).Perm (ixRange y.children.length))
    (hp : ∀ s' ∈ s.subs, s'.kind ≠ .remove → s'.kind ≠ .insert → PairOK id id x.children y.children r s') :
    WF x y s := by
  have hmem := perm_of_ite hidx
  have hall : ∀ s' ∈ s.subs, Resolved x.children y.children r s' := fun s' hs' =>
    resolved_of_idx _ _ r s' (fun hk' => mem_ixRange_of (hmem.1.mem_iff.1 (fi_mem_fromIdx hs' hk')))
      (fun hk' => mem_ixRange_of (hmem.2.mem_iff.1 (toIx_mem_toIdx r hs' hk'))) (hp s' hs')
  -- the survivors of either side are the children the index lists pick
  have hfrom : sideItems true x.children y.children s.subs = pick x.children (fromIdx s.subs) := by
    apply filterMap_pick .insert Script.fi _ _ _ rfl
    intro s' hs'
    obtain ⟨a, b, hab, _, hf, _⟩ := hall s' hs'
    refine ⟨fun hk => by simp [absent, hk], fun hk => ?_⟩
    obtain ⟨i, hi, ha⟩ := hf hk
    exact ⟨i, hi, by simp [absent, hk, hab, sideItem, ha]⟩
  have hto : ValPermL ((sideItems false x.children y.children s.subs).map Item.val)
      ((pick y.children (toIdx r s.subs)).map Item.val) := by
    apply filterMap_to_valPerm
    intro s' hs'
    obtain ⟨a, b, hab, _, _, ht⟩ := hall s' hs'
    refine ⟨fun hk => by simp [absent, hk], fun hk => ?_⟩
    obtain ⟨j, b', hj, hb', hsim⟩ := ht hk
    exact ⟨b, j, b', by simp [absent, hk, hab, sideItem], hj, hb', hsim⟩
  have hcover : Cover x y s.subs := by
    refine ⟨o, c, hbx, hby, ?_⟩
    by_cases ho : o = 91
    · simp only [ho, if_true] at hidx ⊢
      rw [hfrom, hidx.1, pick_ixRange]
      rw [hidx.2, pick_ixRange] at hto
      exact ⟨ValPermL.refl' _, hto⟩
    · simp only [ho, if_false] at hidx ⊢
      rw [hfrom]
      exact ⟨.permR (ValPermP.ofL (ValPermL.refl' _)) ((pick_perm _ hidx.1).map Item.val),
        .permR (ValPermP.ofL hto) ((pick_perm _ hidx.2).map Item.val)⟩
  cases s with
  | mk k fi ti cost subs =>
    exact (wf_seq hk x y fi ti cost subs).2 ⟨hcover,
      (wfSubs_iff _ _ _).2 fun s' hs' => let ⟨a, b, h, hw, _⟩ := hall s' hs'; ⟨a, b, h, hw⟩⟩

/-- a pair of a mapping as the item `print_SequenceNode` prints -/
def kvItem (kv : Str × Tree) : Item := .kv kv.1 kv.2

theorem pairOK_msKvE (o : Opts) (orc : Oracle) (fp tp : List Nat) (fkv tkv : List (Str × Tree)) (r : Ix → Ix)
    (hf : ∀ kv ∈ fkv, kv.2.KeysDistinct) (ht : ∀ kv ∈ tkv, kv.2.KeysDistinct)
    (hc : Cells (fun f t s => WF (.tree f) (.tree t) s) fkv tkv Prod.snd Prod.snd (kvTbl o orc fp tp fkv tkv))
    (i j : Nat) : PairOK kvItem kvItem fkv tkv r (msKvE fkv tkv (kvTbl o orc fp tp fkv tkv) i j) :=
  pairOK_relabel _ _ _ _ r _ i j fun hi hj => by
    have hw := hc i j hi hj
    rw [kvTbl_getD _ _ _ _ _ _ _ _ _ hi hj] at hw ⊢
    rw [getD_eq_getElem _ _ hi, getD_eq_getElem _ _ hj]
    exact wf_kvpScript o orc _ _ _ _ _ _ (hf _ (List.getElem_mem hi)) (ht _ (List.getElem_mem hj)) hw

theorem wf_listScript {o : Opts} {orc : Oracle} {fp tp : List Nat} {fcs tcs : List Tree}
    (hf : (Tree.list fcs).KeysDistinct) (ht : (Tree.list tcs).KeysDistinct)
    (hc : Cells (fun f t s => WF (.tree f) (.tree t) s) fcs tcs id id (listTbl o orc fp tp fcs tcs))
    (s : Script) (hk : isSeqKind s.kind = true)
    (hidx : fromIdx s.subs = ixRange fcs.length ∧ toIdx id s.subs = ixRange tcs.length)
    (hsub : ∀ s' ∈ s.subs, SubForm (listEqAt fcs tcs) (fun i j => i < fcs.length ∧ j < tcs.length)
      (fun i j => (((listTbl o orc fp tp fcs tcs).getD i []).getD j (mkMatch 0)).relabel (.at i) (.at j)) [] s') :
    WF (.tree (.list fcs)) (.tree (.list tcs)) s := by
  rw [kd_list] at hf ht
  apply wf_of_idx _ _ 91 93 rfl rfl s hk id
  · simpa only [if_true, Item.children, List.length_map] using hidx
  · intro s' hs hr hi
    cases hsub s' hs with
    | eq h => exact (pairOK_match0 Item.tree Item.tree _ _ id hf ht _ _ _ _ h.2.2).map
    | cell _ => exact (pairOK_relabel Item.tree Item.tree _ _ id _ _ _ (hc _ _)).map
    | same h => nomatch h
    | remove => exact absurd rfl hr
    | insert => exact absurd rfl hi

theorem wf_edits (o : Opts) (orc : Oracle) : ∀ (f : Tree) (fp tp : List Nat) (t : Tree),
    f.KeysDistinct → t.KeysDistinct → WF (.tree f) (.tree t) (edits o orc fp tp f t) := by
  refine edits_ind treeInv_kd (P := fun f t s => WF (.tree f) (.tree t) s) o orc (fun a t => wf_leafEdits a t)
    (fun f t hf ht h => wf_mkMatch0_of_eq hf ht h) (fun _ _ _ _ => wf_mkReplace _ _ _ _)
    (fun fp tp fcs tcs hf ht _ _ hc => wf_listScript hf ht hc _ rfl
      (fixedScript_idx id fcs tcs _ (listTbl_top o orc fp tp fcs tcs)) fun _ => subForm_fixedScript)
    (fun fp tp fcs tcs hf ht _ hc => wf_listScript hf ht hc _ rfl
      (edScript_idx id fcs tcs _ _ (listTbl_top o orc fp tp fcs tcs)) fun _ => subForm_edScript) ?_ ?_
  · intro fp tp fkv tkv hf ht _ hc
    rw [kd_dict] at hf ht
    apply wf_of_idx (.tree (.dict fkv)) (.tree (.dict tkv)) 123 125 rfl rfl _ rfl (keyResolve fkv tkv)
    · simp only [show (123 : Nat) ≠ 91 by decide, if_false, Item.children, List.length_map]
      have hs : KvSymm fkv tkv :=
        kvSymm_of_eqSymm _ _ (fun x hx y hy => Tree.eq_symm _ _ (hf.2 x hx) (ht.2 y hy))
      exact ⟨msScript_fromIdx o.amk orc fp tp fkv tkv _, msScript_toIdx o.amk orc fp tp fkv tkv _ hf.1 ht.1 hs⟩
    · intro s' hs hr hi
      cases subForm_msScript hs with
      | eq h => exact h.elim
      | cell _ => exact (pairOK_msKvE o orc fp tp fkv tkv _ hf.2 ht.2 hc _ _).map
      | @same i him =>
        -- an identity match stands for a pair that has an equal pair on the other side: `keyResolve` finds that pair
        refine PairOK.map (g := kvItem) (g' := kvItem) (fl := fkv) (tl := tkv) fun i' hi' hfi => ?_
        cases hfi
        refine ⟨fun j _ htj => (by cases htj), fun _ => ⟨(wf_relabel _ _ _ _ _).2 (wf_mkMatch _ _ 0 (.inr (.refl _))),
          fun j hj hres => ?_⟩⟩
        have hkv := msToMatch_kvEq ht.1 him hres
        rw [getD_eq_getElem _ _ hi', getD_eq_getElem _ _ hj] at hkv
        exact itemEqB_sound (a := kvItem fkv[i]) (b := kvItem tkv[j]) (hf.2 _ (List.getElem_mem hi'))
          (ht.2 _ (List.getElem_mem hj)) hkv
      | remove => exact absurd rfl hr
      | insert => exact absurd rfl hi
  · intro fp tp fkv tkv hf ht _ hc
    rw [kd_fdict] at hf ht
    apply wf_of_idx (.tree (.fdict fkv)) (.tree (.fdict tkv)) 123 125 rfl rfl _ rfl id
    · simp only [show (123 : Nat) ≠ 91 by decide, if_false, Item.children, List.length_map]
      exact ⟨fkScript_fromIdx fkv tkv _, fkScript_toIdx id fkv tkv _ hf.1 ht.1⟩
    · intro s' hs hr hi
      cases subForm_fkScript hs with
      | eq h => exact (pairOK_match0 kvItem kvItem fkv tkv id hf.2 ht.2 dkv dkv _ _ h.2).map
      | cell _ => exact (pairOK_msKvE o orc fp tp fkv tkv id hf.2 ht.2 hc _ _).map
      | same h => nomatch h
      | remove => exact absurd rfl hr
      | insert => exact absurd rfl hi

theorem script_wellformed (o : Opts) (orc : Oracle) (fp tp : List Nat) (f t : Tree)
    (hf : f.KeysDistinct) (ht : t.KeysDistinct) :
    WF (.tree f) (.tree t) (edits o orc fp tp f t) ∧ Gate (.tree f) (.tree t) (edits o orc fp tp f t) :=
  ⟨wf_edits o orc f fp tp t hf ht, gate_edits o orc fp tp f t hf ht⟩

end GtModel.Render
