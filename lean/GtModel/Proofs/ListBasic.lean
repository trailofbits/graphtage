/-
  General facts about lists.  `getD` against `getElem`, `drop`, `take` and `map`, enumerating a list through `range`,
  `filter` / `filterMap` / `flatMap` under `map` and up to congruence; lists related position by position (`Forall2`, and
  `all₂` for Boolean tests); `map` and sums given by their recursion over `::`, sums under a pointwise bound, `perm_compl`.
  Lean core only.
-/
namespace GtModel

theorem getD_eq_getElem {α : Type _} (l : List α) (d : α) {i : Nat} (h : i < l.length) : l.getD i d = l[i] := by
  simp [List.getD_eq_getElem?_getD, h]

theorem getD_mem {α : Type} (l : List α) (i : Nat) (d : α) (h : i < l.length) : l.getD i d ∈ l := by
  simp [List.getD_eq_getElem?_getD, List.getElem?_eq_getElem h]

theorem exists_getD_of_mem {α : Type} {l : List α} {x : α} (d : α) (h : x ∈ l) : ∃ i, i < l.length ∧ l.getD i d = x := by
  obtain ⟨i, hi, rfl⟩ := List.getElem_of_mem h
  exact ⟨i, hi, by simp [List.getD_eq_getElem?_getD, List.getElem?_eq_getElem hi]⟩

theorem headD_drop {α : Type} (l : List α) (k : Nat) (d : α) : (l.drop k).headD d = l.getD k d := by
  simp [List.headD_eq_head?_getD, List.head?_drop]

theorem drop_eq_cons {α : Type} {l : List α} {k : Nat} {x : α} {xs : List α} (d : α)
    (h : l.drop k = x :: xs) : l.getD k d = x ∧ l.drop (k + 1) = xs := by
  rw [← List.drop_drop, h, ← headD_drop, h]
  exact ⟨rfl, rfl⟩

theorem sum_take_succ (l : List Nat) (k : Nat) : (l.take (k + 1)).sum = (l.take k).sum + l.getD k 0 := by
  induction l generalizing k with
  | nil => simp
  | cons x l ih =>
    cases k with
    | zero => simp
    | succ k => simp [ih k]; omega

theorem map_range_getD {α β : Type} (l : List α) (d : α) (F : α → β) :
    (List.range l.length).map (fun i => F (l.getD i d)) = l.map F := by
  apply List.ext_getElem (by simp)
  intro i hi hi'
  simp only [List.length_map, List.length_range] at hi
  simp [List.getD_eq_getElem?_getD, hi]

theorem map_getD_range {α : Type} (T : List α) (d : α) : (List.range T.length).map (fun a => T.getD a d) = T := by
  simpa using map_range_getD T d id

theorem filterMap_getElem?_range {α : Type} (l : List α) :
    (List.range l.length).filterMap (fun i => l[i]?) = l := by
  induction l with
  | nil => rfl
  | cons x xs ih => simp [List.range_succ_eq_map, List.filterMap_map, Function.comp_def, ih]

theorem map_filter_congr {α β : Type} (l : List α) (p q : α → Bool) (f g : α → β)
    (h : ∀ a ∈ l, p a = q a ∧ (p a = true → f a = g a)) : (l.filter p).map f = (l.filter q).map g := by
  induction l with
  | nil => rfl
  | cons a l ih =>
    have ha := h a (by simp)
    have ih := ih (fun a ha => h a (by simp [ha]))
    simp only [List.filter_cons, ← ha.1]
    cases hp : p a
    · simpa using ih
    · simp [ha.2 hp, ih]

theorem filterMap_eq_map_filter {α β : Type} (f : α → Option β) (d : β) (l : List α) :
    l.filterMap f = (l.filter fun a => (f a).isSome).map fun a => (f a).getD d := by
  induction l with
  | nil => rfl
  | cons a l ih =>
    cases h : f a <;> simp [h, ih]

theorem filterMap_eq_map_filterMap {α β : Type} (g : α → Option β) (l : List α) :
    l.filterMap g = (l.map g).filterMap id := by
  simp [List.filterMap_map]

theorem filterMap_congr' {α β : Type} (g g' : α → Option β) : ∀ (l : List α), (∀ a ∈ l, g a = g' a) →
    l.filterMap g = l.filterMap g' := by
  intro l h
  rw [filterMap_eq_map_filterMap g, filterMap_eq_map_filterMap g', List.map_congr_left h]

theorem filterMap_range_getD {α β : Type} (l : List α) (d : α) (F : α → Option β) :
    (List.range l.length).filterMap (fun i => F (l.getD i d)) = l.filterMap F := by
  rw [filterMap_eq_map_filterMap, map_range_getD l d F, ← filterMap_eq_map_filterMap]

theorem attach_zipIdx_filterMap {α β : Type} (l : List α) (g : α → Nat → Option β) (k : Nat) :
    (l.attach.zipIdx k).filterMap (fun p => g p.1.1 p.2) = (l.zipIdx k).filterMap (fun p => g p.1 p.2) := by
  have h : l.zipIdx k = (l.attach.zipIdx k).map (Prod.map Subtype.val id) := by
    rw [← List.zipIdx_map, List.attach_map_subtype_val]
  rw [h, List.filterMap_map]; rfl

theorem filterMap_none {α β : Type} {f : α → Option β} {l : List α} (h : ∀ x ∈ l, f x = none) : l.filterMap f = [] :=
  List.filterMap_eq_nil_iff.mpr h

theorem filterMap_some {α β : Type} {f : α → Option β} {g : α → β} {l : List α} (h : ∀ x ∈ l, f x = some (g x)) :
    l.filterMap f = l.map g := by
  induction l with
  | nil => rfl
  | cons x xs ih =>
    rw [List.filterMap_cons, h x List.mem_cons_self, List.map_cons, ih fun y hy => h y (List.mem_cons_of_mem x hy)]

theorem filterMap_range_window {β : Type} {n a k r : Nat} (hn : n = a + k + r) (f : Nat → Option β) (g : Nat → β)
    (hin : ∀ i, a ≤ i → i < a + k → f i = some (g i)) (hout : ∀ i, i < n → (i < a ∨ a + k ≤ i) → f i = none) :
    (List.range n).filterMap f = (List.range k).map fun c => g (c + a) := by
  subst hn
  have split : List.range (a + k + r) = List.range' 0 a ++ (List.range' a k ++ List.range' (a + k) r) := by
    rw [List.range'_append_1, Nat.add_assoc, List.range_eq_range', ← List.range'_append_1, Nat.zero_add]
  rw [split, List.filterMap_append, List.filterMap_append, filterMap_none (l := List.range' 0 a),
    filterMap_none (l := List.range' (a + k) r), filterMap_some (g := g) (l := List.range' a k), List.nil_append,
    List.append_nil, List.range'_eq_map_range, List.map_map]
  · exact List.map_congr_left fun c _ => by simp [Nat.add_comm]
  all_goals
    intro x hx
    have := List.mem_range'_1.mp hx
  · exact hin x (by omega) (by omega)
  · exact hout x (by omega) (Or.inr (by omega))
  · exact hout x (by omega) (Or.inl (by omega))

theorem zipIdx_eq_map_range {α : Type} (l : List α) (d : α) :
    l.zipIdx = (List.range l.length).map fun i => (l.getD i d, i) := by
  refine List.ext_getElem (by simp) fun i h1 _ => ?_
  rw [List.length_zipIdx] at h1
  simp [List.getD_eq_getElem?_getD, h1]

def grid {β : Type} (m n : Nat) (f : Nat → Nat → β) : List (List β) :=
  (List.range m).map fun r => (List.range n).map fun c => f r c

theorem getD_map_range {β : Type} (n : Nat) (g : Nat → β) (d : β) (i : Nat) :
    ((List.range n).map g).getD i d = if i < n then g i else d := by
  split
  · simp [List.getD_eq_getElem?_getD, *]
  · rw [List.getD_eq_getElem?_getD,
      List.getElem?_eq_none (by rw [List.length_map, List.length_range]; exact Nat.le_of_not_lt ‹_›)]
    rfl

section
variable {β γ : Type} (m n : Nat) (f : Nat → Nat → β)

theorem grid_map (g : β → γ) : (grid m n f).map (·.map g) = grid m n fun r c => g (f r c) := by
  simp only [grid, List.map_map, Function.comp_def]

theorem grid_congr {m n : Nat} {f g : Nat → Nat → β} (h : ∀ r c, r < m → c < n → f r c = g r c) :
    grid m n f = grid m n g :=
  List.map_congr_left fun r hr => List.map_congr_left fun c hc => h r c (List.mem_range.mp hr) (List.mem_range.mp hc)

theorem grid_getD (d : β) (r c : Nat) :
    ((grid m n f).getD r []).getD c d = if r < m ∧ c < n then f r c else d := by
  rw [grid, getD_map_range]
  by_cases hr : r < m
  · rw [if_pos hr, getD_map_range]
    by_cases hc : c < n
    · rw [if_pos hc, if_pos ⟨hr, hc⟩]
    · rw [if_neg hc, if_neg fun h => hc h.2]
  · rw [if_neg hr, if_neg fun h => hr h.1]; rfl

end

theorem zipIdx_grid {α β γ : Type} (ys : List β) (xs : List α) (dy : β) (dx : α) (f : β → Nat → α → Nat → γ) :
    (ys.zipIdx.map fun q => xs.zipIdx.map fun p => f q.1 q.2 p.1 p.2)
      = grid ys.length xs.length fun r c => f (ys.getD r dy) r (xs.getD c dx) c := by
  rw [zipIdx_eq_map_range ys dy, zipIdx_eq_map_range xs dx, List.map_map]
  exact List.map_congr_left fun r _ => List.map_map ..

theorem getElem?_eq_some_getD {α : Type} {l : List α} {i : Nat} (h : i < l.length) (d : α) :
    l[i]? = some (l.getD i d) := by
  rw [List.getD_eq_getElem?_getD, List.getElem?_eq_getElem h]; rfl

theorem flatMap_congr {α β : Type} (l : List α) (f g : α → List β) (h : ∀ x ∈ l, f x = g x) :
    l.flatMap f = l.flatMap g := by
  rw [List.flatMap_def, List.flatMap_def, List.map_congr_left h]

/-! ### Lists related position by position

  `Forall2 R as bs`: same length and `R as[i] bs[i]` for every `i`.  It is declared in the namespace of the builder layer,
  whose statements (C18) name it `GtModel.Builder.Forall2`; every layer uses this one relation, as `Forall2` (its lemmas:
  `h.length_eq`, `h.imp`, …, or `Builder.Forall2.iff_getD` in full).  The tuple comparisons of the model (`eqL`, `xeqL`,
  `dataEqL`, …) are `all₂ r` for a Boolean test `r`, the list companions of the mutual inductive relations (`TPermL`,
  `PermEqL`, `ValPermL`, …) and the frames of the L3 machines (`KeepsL`, `KeepsLL`, `PW`, `SubL`, `SubLL`, `HiLe`) are
  `Forall2 R`; `all₂_iff` joins the two, and what is proved of `Forall2` serves all of them.  Each of these has its own
  recursion or constructors; its bridge is `Forall2.iff_of_rec` (`eq_all₂_of_rec` for a Boolean test) applied to its
  four unfolding facts. -/

namespace Builder
inductive Forall2 {α β} (R : α → β → Prop) : List α → List β → Prop where
  | nil : Forall2 R [] []
  | cons {a b l r} : R a b → Forall2 R l r → Forall2 R (a :: l) (b :: r)
end Builder
export Builder (Forall2)

def all₂ {α β : Type} (r : α → β → Bool) : List α → List β → Bool
  | [], [] => true
  | a :: as, b :: bs => r a b && all₂ r as bs
  | _, _ => false

theorem all₂_iff {α β : Type} {r : α → β → Bool} : ∀ {as : List α} {bs : List β},
    all₂ r as bs = true ↔ Forall2 (fun a b => r a b = true) as bs
  | [], [] => ⟨fun _ => .nil, fun _ => rfl⟩
  | [], _ :: _ => ⟨nofun, nofun⟩
  | _ :: _, [] => ⟨nofun, nofun⟩
  | a :: as, b :: bs => by
    rw [all₂, Bool.and_eq_true, all₂_iff]
    exact ⟨fun h => .cons h.1 h.2, fun h => by cases h with | cons h1 h2 => exact ⟨h1, h2⟩⟩

namespace Builder.Forall2
variable {α β γ δ : Type _} {R : α → β → Prop} {as as' : List α} {bs bs' : List β}

theorem length_eq (h : Forall2 R as bs) : as.length = bs.length := by
  induction h with
  | nil => rfl
  | cons _ _ ih => rw [List.length_cons, List.length_cons, ih]

theorem get (h : Forall2 R as bs) : ∀ (i : Nat) (h1 : i < as.length) (h2 : i < bs.length), R as[i] bs[i] := by
  induction h with
  | nil => intro i h1; cases h1
  | cons h _ ih => intro i h1 h2; cases i with
    | zero => exact h
    | succ i => exact ih i (Nat.lt_of_succ_lt_succ h1) (Nat.lt_of_succ_lt_succ h2)

theorem of_get : ∀ {as : List α} {bs : List β}, as.length = bs.length →
    (∀ (i : Nat) (h1 : i < as.length) (h2 : i < bs.length), R as[i] bs[i]) → Forall2 R as bs
  | [], [], _, _ => .nil
  | [], _ :: _, h, _ => nomatch h
  | _ :: _, [], h, _ => nomatch h
  | _ :: _, _ :: _, hl, h => .cons (h 0 (Nat.succ_pos _) (Nat.succ_pos _))
      (of_get (Nat.succ.inj hl) fun i h1 h2 => h (i + 1) (Nat.succ_lt_succ h1) (Nat.succ_lt_succ h2))

/-- the same with `getD`, as the model reads its lists -/
theorem iff_getD (da : α) (db : β) : Forall2 R as bs ↔
    as.length = bs.length ∧ ∀ i, i < as.length → R (as.getD i da) (bs.getD i db) :=
  ⟨fun h => ⟨h.length_eq, fun i hi => by
      rw [getD_eq_getElem _ _ hi, getD_eq_getElem _ _ (h.length_eq ▸ hi)]; exact h.get i _ _⟩,
    fun ⟨hl, h⟩ => of_get hl fun i h1 h2 => by
      rw [← getD_eq_getElem _ da h1, ← getD_eq_getElem _ db h2]; exact h i h1⟩

theorem imp {S : α → β → Prop} (h : Forall2 R as bs) (hRS : ∀ a ∈ as, ∀ b ∈ bs, R a b → S a b) : Forall2 S as bs := by
  induction h with
  | nil => exact .nil
  | cons h _ ih =>
    exact .cons (hRS _ List.mem_cons_self _ List.mem_cons_self h)
      (ih fun a ha b hb => hRS a (List.mem_cons_of_mem _ ha) b (List.mem_cons_of_mem _ hb))

theorem imp_iff {S : α → β → Prop} (h : ∀ a ∈ as, ∀ b ∈ bs, R a b ↔ S a b) : Forall2 R as bs ↔ Forall2 S as bs :=
  ⟨fun p => p.imp fun a ha b hb => (h a ha b hb).1, fun p => p.imp fun a ha b hb => (h a ha b hb).2⟩

theorem map_iff {f : γ → α} {g : δ → β} : ∀ {cs : List γ} {ds : List δ},
    Forall2 R (cs.map f) (ds.map g) ↔ Forall2 (fun c d => R (f c) (g d)) cs ds
  | [], [] => ⟨fun _ => .nil, fun _ => .nil⟩
  | [], _ :: _ => ⟨nofun, nofun⟩
  | _ :: _, [] => ⟨nofun, nofun⟩
  | _ :: _, _ :: _ =>
    ⟨fun h => by cases h with | cons h1 h2 => exact .cons h1 (map_iff.1 h2),
     fun h => by cases h with | cons h1 h2 => exact .cons h1 (map_iff.2 h2)⟩

theorem map {f : γ → α} {g : δ → β} {cs : List γ} {ds : List δ} (h : Forall2 (fun c d => R (f c) (g d)) cs ds) :
    Forall2 R (cs.map f) (ds.map g) :=
  map_iff.2 h

theorem eq {as bs : List α} (h : Forall2 Eq as bs) : as = bs := by
  induction h with
  | nil => rfl
  | cons h _ ih => rw [h, ih]

theorem same {R : α → α → Prop} {l : List α} (h : ∀ a ∈ l, R a a) : Forall2 R l l :=
  of_get rfl fun _ h1 _ => h _ (List.getElem_mem h1)

theorem flip (h : Forall2 R as bs) : Forall2 (fun b a => R a b) bs as := by
  induction h with
  | nil => exact .nil
  | cons h _ ih => exact .cons h ih

theorem mem_left (h : Forall2 R as bs) {a : α} (ha : a ∈ as) : ∃ b ∈ bs, R a b := by
  obtain ⟨i, hi, rfl⟩ := List.getElem_of_mem ha
  exact ⟨bs[i]'(h.length_eq ▸ hi), List.getElem_mem _, h.get i hi _⟩

theorem mem_right (h : Forall2 R as bs) {b : β} (hb : b ∈ bs) : ∃ a ∈ as, R a b :=
  let ⟨a, ha, r⟩ := h.flip.mem_left hb; ⟨a, ha, r⟩

theorem append (h : Forall2 R as bs) (h' : Forall2 R as' bs') : Forall2 R (as ++ as') (bs ++ bs') := by
  induction h with
  | nil => exact h'
  | cons h _ ih => exact .cons h ih

theorem reverse (h : Forall2 R as bs) : Forall2 R as.reverse bs.reverse := by
  induction h with
  | nil => exact .nil
  | cons h _ ih => rw [List.reverse_cons, List.reverse_cons]; exact ih.append (.cons h .nil)

theorem drop (h : Forall2 R as bs) : ∀ k, Forall2 R (as.drop k) (bs.drop k) := by
  induction h with
  | nil => intro k; rw [List.drop_nil, List.drop_nil]; exact .nil
  | cons h h' ih => intro k; cases k with
    | zero => exact .cons h h'
    | succ k => exact ih k

theorem take (h : Forall2 R as bs) : ∀ k, Forall2 R (as.take k) (bs.take k) := by
  induction h with
  | nil => intro k; rw [List.take_nil, List.take_nil]; exact .nil
  | cons h _ ih => intro k; cases k with
    | zero => exact .nil
    | succ k => exact .cons h (ih k)

theorem map_eq {f : α → γ} {g : β → γ} (h : Forall2 R as bs) (hfg : ∀ a ∈ as, ∀ b ∈ bs, R a b → f a = g b) :
    as.map f = bs.map g :=
  (map (h.imp hfg)).eq

theorem all_eq {p : α → Bool} {q : β → Bool} (h : Forall2 R as bs) (hpq : ∀ a b, R a b → p a = q b) :
    as.all p = bs.all q := by
  induction h with
  | nil => rfl
  | cons h _ ih => rw [List.all_cons, List.all_cons, hpq _ _ h, ih]

theorem congr {S : α → α → Prop} {S' : β → β → Prop} {as bs : List α} {as' bs' : List β}
    (ha : Forall2 R as as') (hb : Forall2 R bs bs')
    (h : ∀ a ∈ as, ∀ a' ∈ as', ∀ b ∈ bs, ∀ b' ∈ bs', R a a' → R b b' → (S a b ↔ S' a' b')) :
    Forall2 S as bs ↔ Forall2 S' as' bs' := by
  have la := ha.length_eq
  have lb := hb.length_eq
  constructor
  · intro hs
    refine .of_get (by rw [← la, ← lb, hs.length_eq]) fun i h1 h2 => ?_
    exact (h _ (List.getElem_mem _) _ (List.getElem_mem _) _ (List.getElem_mem _) _ (List.getElem_mem _)
      (ha.get i (la ▸ h1) h1) (hb.get i (lb ▸ h2) h2)).1 (hs.get i _ _)
  · intro hs
    refine .of_get (by rw [la, lb, hs.length_eq]) fun i h1 h2 => ?_
    exact (h _ (List.getElem_mem _) _ (List.getElem_mem _) _ (List.getElem_mem _) _ (List.getElem_mem _)
      (ha.get i h1 (la ▸ h1)) (hb.get i h2 (lb ▸ h2))).2 (hs.get i _ _)

theorem map_left {R : γ → β → Prop} (f : α → γ) (h : Forall2 (fun a b => R (f a) b) as bs) : Forall2 R (as.map f) bs := by
  induction h with
  | nil => exact .nil
  | cons h1 _ ih => exact .cons h1 ih

theorem map_right {R : α → γ → Prop} (g : β → γ) (h : Forall2 (fun a b => R a (g b)) as bs) : Forall2 R as (bs.map g) := by
  induction h with
  | nil => exact .nil
  | cons h1 _ ih => exact .cons h1 ih

theorem map_self (f : α → β) (h : ∀ a ∈ as, R a (f a)) : Forall2 R as (as.map f) :=
  map_right f (same h)

theorem pairwise {P : α → α → Prop} {Q : β → β → Prop}
    (hPQ : ∀ a b r r', R a r → R b r' → P a b → Q r r') (h : Forall2 R as bs) : as.Pairwise P → bs.Pairwise Q := by
  induction h with
  | nil => exact fun _ => .nil
  | cons h1 h2 ih =>
    intro hp
    rw [List.pairwise_cons] at hp ⊢
    refine ⟨fun r' hr' => ?_, ih hp.2⟩
    obtain ⟨b, hb, hR⟩ := h2.mem_right hr'
    exact hPQ _ _ _ _ h1 hR (hp.1 b hb)

theorem perm {l1 l2 : List α} (hp : l1.Perm l2) :
    ∀ {r1 : List β}, Forall2 R l1 r1 → ∃ r2, Forall2 R l2 r2 ∧ r1.Perm r2 := by
  induction hp with
  | nil => exact fun h => ⟨_, h, .refl _⟩
  | cons x _ ih =>
    intro r1 h
    cases h with
    | cons hxy hrest =>
      obtain ⟨r2, h2, hp2⟩ := ih hrest
      exact ⟨_ :: r2, .cons hxy h2, .cons _ hp2⟩
  | swap x y l =>
    intro r1 h
    cases h with
    | cons hy hrest =>
      cases hrest with
      | cons hx hrest' => exact ⟨_ :: _ :: _, .cons hx (.cons hy hrest'), .swap _ _ _⟩
  | trans _ _ ih1 ih2 =>
    intro r1 h
    obtain ⟨r2, h2, hp2⟩ := ih1 h
    obtain ⟨r3, h3, hp3⟩ := ih2 h2
    exact ⟨r3, h3, hp2.trans hp3⟩

theorem comp {S : γ → β → Prop} {R : α → γ → Prop} (h : Forall2 (fun a b => ∃ c, R a c ∧ S c b) as bs) :
    ∃ cs, Forall2 R as cs ∧ Forall2 S cs bs := by
  induction h with
  | nil => exact ⟨[], .nil, .nil⟩
  | cons h1 _ ih =>
    obtain ⟨c, hr, hs⟩ := h1
    obtain ⟨cs, hrs, hss⟩ := ih
    exact ⟨c :: cs, .cons hr hrs, .cons hs hss⟩

theorem zip {S : γ → β → Prop} {cs : List γ} (h1 : Forall2 R as bs) (h2 : Forall2 S cs bs) :
    Forall2 (fun (p : α × γ) b => R p.1 b ∧ S p.2 b) (as.zip cs) bs := by
  induction h1 generalizing cs with
  | nil => cases h2; exact .nil
  | cons hr _ ih => cases h2 with | cons hs hss => exact .cons ⟨hr, hs⟩ (ih hss)

theorem trans {S : β → γ → Prop} {T : α → γ → Prop} {cs : List γ} (h1 : Forall2 R as bs) (h2 : Forall2 S bs cs)
    (hT : ∀ {a b c}, R a b → S b c → T a c) : Forall2 T as cs := by
  induction h1 generalizing cs with
  | nil => cases h2; exact .nil
  | cons h _ ih => cases h2 with | cons h' h2 => exact .cons (hT h h') (ih h2)

theorem get? (h : Forall2 R as bs) : ∀ (i : Nat) (b : β), bs[i]? = some b → ∃ a, as[i]? = some a ∧ R a b := by
  induction h with
  | nil => intro i b e; cases e
  | cons h _ ih => intro i b e; cases i with
    | zero => cases e; exact ⟨_, rfl, h⟩
    | succ i => exact ih i b e

theorem set {R : α → α → Prop} : ∀ (l : List α) (i : Nat) {x y : α}, (∀ a ∈ l, R a a) → l[i]? = some x → R x y →
    Forall2 R l (l.set i y)
  | [], _, _, _, _, h, _ => nomatch h
  | _ :: l, 0, _, _, hI, h, k => by
    cases h
    exact .cons k (same fun a ha => hI a (List.mem_cons_of_mem _ ha))
  | _ :: l, i + 1, _, _, hI, h, k =>
    .cons (hI _ List.mem_cons_self) (set l i (fun a ha => hI a (List.mem_cons_of_mem _ ha)) h k)

theorem getD {da : α} {db : β} (h : Forall2 R as bs) (hd : R da db) (i : Nat) : R (as.getD i da) (bs.getD i db) := by
  induction h generalizing i with
  | nil => exact hd
  | cons hxy _ ih =>
    cases i with
    | zero => exact hxy
    | succ i => exact ih i

theorem sublist {s : List β} (h : Forall2 R as bs) (hs : s.Sublist bs) : ∃ s', s'.Sublist as ∧ Forall2 R s' s := by
  induction hs generalizing as with
  | slnil => exact ⟨[], List.nil_sublist _, .nil⟩
  | cons _ _ ih =>
    cases h with
    | cons _ h' =>
      obtain ⟨s', h1, h2⟩ := ih h'
      exact ⟨s', h1.cons _, h2⟩
  | cons_cons _ _ ih =>
    cases h with
    | cons hxy h' =>
      obtain ⟨s', h1, h2⟩ := ih h'
      exact ⟨_ :: s', h1.cons_cons _, .cons hxy h2⟩

theorem iff_of_rec {P : List α → List β → Prop} (nil : P [] [])
    (cons : ∀ {a b as bs}, P (a :: as) (b :: bs) ↔ R a b ∧ P as bs) (left : ∀ {b bs}, ¬ P [] (b :: bs))
    (right : ∀ {a as}, ¬ P (a :: as) []) : ∀ {as : List α} {bs : List β}, P as bs ↔ Forall2 R as bs
  | [], [] => ⟨fun _ => .nil, fun _ => nil⟩
  | _ :: _, _ :: _ =>
    cons.trans ⟨fun h => .cons h.1 ((iff_of_rec nil cons left right).1 h.2),
      fun | .cons h h' => ⟨h, (iff_of_rec nil cons left right).2 h'⟩⟩
  | [], _ :: _ => ⟨fun h => (left h).elim, nofun⟩
  | _ :: _, [] => ⟨fun h => (right h).elim, nofun⟩

end Builder.Forall2

namespace Builder
theorem forall2_length {α β : Type _} {R : α → β → Prop} {l : List α} {rs : List β} (h : Forall2 R l rs) :
    l.length = rs.length :=
  h.length_eq
end Builder

theorem eq_all₂_of_rec {α β : Type} {r : α → β → Bool} {P : List α → List β → Bool} (nil : P [] [] = true)
    (cons : ∀ a b as bs, P (a :: as) (b :: bs) = (r a b && P as bs)) (left : ∀ b bs, P [] (b :: bs) = false)
    (right : ∀ a as, P (a :: as) [] = false) : ∀ (as : List α) (bs : List β), P as bs = all₂ r as bs
  | [], [] => nil
  | [], _ :: _ => left _ _
  | _ :: _, [] => right _ _
  | a :: as, b :: bs => by rw [cons, all₂, eq_all₂_of_rec nil cons left right as bs]

theorem all₂_comm_of {α : Type} {r : α → α → Bool} {as bs : List α} (h : ∀ a ∈ as, ∀ b ∈ bs, r a b = r b a) :
    all₂ r as bs = all₂ r bs as := by
  rw [Bool.eq_iff_iff, all₂_iff, all₂_iff]
  exact ⟨fun p => p.flip.imp fun b hb a ha e => by rwa [← h a ha b hb], fun p => p.flip.imp fun a ha b hb e => by rwa [h a ha b hb]⟩

theorem sum_map_le {α : Type} (l : List α) (f h : α → Nat) (hle : ∀ x ∈ l, f x ≤ h x) :
    (l.map f).sum ≤ (l.map h).sum := by
  induction l with
  | nil => simp
  | cons x xs ih =>
    have := hle x List.mem_cons_self
    have := ih (fun y hy => hle y (List.mem_cons_of_mem _ hy))
    simp; omega

/-- a duplicate-free list of numbers below `n` followed by the numbers it misses is a permutation of `0..n-1` -/
theorem perm_compl (L : List Nat) (n : Nat) (p : Nat → Bool) (hnd : L.Nodup) (hlt : ∀ x ∈ L, x < n)
    (hp : ∀ j, j < n → (p j = true ↔ j ∉ L)) : (L ++ (List.range n).filter p).Perm (List.range n) := by
  rw [List.perm_ext_iff_of_nodup _ List.nodup_range]
  · intro a
    simp only [List.mem_append, List.mem_filter, List.mem_range]
    constructor
    · rintro (h | h)
      · exact hlt a h
      · exact h.1
    · intro h
      by_cases ha : a ∈ L
      · exact Or.inl ha
      · exact Or.inr ⟨h, (hp a h).2 ha⟩
  · rw [List.nodup_append]
    refine ⟨hnd, List.Nodup.sublist List.filter_sublist List.nodup_range, ?_⟩
    intro a ha b hb hab
    subst hab
    simp only [List.mem_filter, List.mem_range] at hb
    exact (hp a hb.1).1 hb.2 ha

theorem perm_of_ite {α : Type} {c : Prop} [Decidable c] {l r l' r' : List α}
    (h : if c then l = r ∧ l' = r' else l.Perm r ∧ l'.Perm r') : l.Perm r ∧ l'.Perm r' := by
  split at h
  · rw [h.1, h.2]; exact ⟨.refl _, .refl _⟩
  · exact h

theorem getD_map {α β : Type} (l : List α) (f : α → β) (d : α) (d' : β) (i : Nat) (h : i < l.length) :
    (l.map f).getD i d' = f (l.getD i d) := by
  simp [h]

theorem map_eq_of_cons {α β : Type} {f : α → β} {fL : List α → List β} (h0 : fL [] = [])
    (hc : ∀ x xs, fL (x :: xs) = f x :: fL xs) : ∀ xs, xs.map f = fL xs
  | [] => h0.symm
  | x :: xs => by rw [List.map, map_eq_of_cons h0 hc xs, hc]

theorem getD'_of_lt {l : List Nat} {i : Nat} (h : i < l.length) : l[i]?.getD 0 = l[i] := by
  simp [List.getElem?_eq_getElem h]

theorem take_sum_lt : ∀ (l : List Nat) (c : Nat), c < l.length → (∀ x ∈ l, 0 < x) → (l.take c).sum < l.sum
  | [], c, h, _ => by simp at h
  | x :: xs, 0, _, hp => by have := hp x (by simp); simp only [List.take_zero, List.sum_nil, List.sum_cons]; omega
  | x :: xs, c + 1, h, hp => by
      have := take_sum_lt xs c (by simpa using h) (fun y hy => hp y (by simp [hy]))
      simp only [List.take_succ_cons, List.sum_cons]; omega

theorem sum_map_add (l : List Nat) (pen : Nat) : (l.map (· + pen)).sum = l.sum + pen * l.length := by
  induction l with
  | nil => simp
  | cons x xs ih => simp [ih, Nat.mul_add]; omega

theorem sum_map_add2 {α : Type} (l : List α) (g h : α → Nat) :
    (l.map fun x => g x + h x).sum = (l.map g).sum + (l.map h).sum := by
  induction l with
  | nil => simp
  | cons x xs ih => simp [ih]; omega

theorem take_sum_le_sum (l : List Nat) (k : Nat) : (l.take k).sum ≤ l.sum := by
  induction l generalizing k with
  | nil => simp
  | cons x xs ih => cases k with
    | zero => simp
    | succ k => simp only [List.take_succ_cons, List.sum_cons]; have := ih k; omega

theorem take_add_drop_sum (l : List Nat) (k : Nat) : (l.take k).sum + (l.drop k).sum = l.sum := by
  rw [← List.sum_append, List.take_append_drop]

theorem sum_map_pos {l : List Nat} {pen : Nat} (hl : 0 < l.length) (hp : ∀ x ∈ l, 0 < x + pen) :
    0 < (l.map (· + pen)).sum := by
  cases l with
  | nil => cases hl
  | cons x xs =>
    have := hp x List.mem_cons_self
    rw [List.map_cons, List.sum_cons]
    omega

theorem sum_set_eq {α : Type} {f : α → Nat} {S : List α → Nat} (hc : ∀ x xs, S (x :: xs) = f x + S xs) :
    ∀ (l : List α) (i : Nat) (x y : α), l[i]? = some x → S (l.set i y) + f x = S l + f y
  | [], _, _, _, h => by simp at h
  | m :: ms, 0, x, y, h => by
      simp only [List.getElem?_cons_zero, Option.some.injEq] at h
      subst h
      simp only [List.set_cons_zero, hc]; omega
  | m :: ms, i + 1, x, y, h => by
      simp only [List.getElem?_cons_succ] at h
      have := sum_set_eq hc ms i x y h
      simp only [List.set_cons_succ, hc]; omega

theorem le_sum_of_get {α : Type} {f : α → Nat} {S : List α → Nat} (hc : ∀ x xs, S (x :: xs) = f x + S xs) :
    ∀ (l : List α) (i : Nat) (x : α), l[i]? = some x → f x ≤ S l
  | [], _, _, h => by simp at h
  | m :: ms, 0, x, h => by
      simp only [List.getElem?_cons_zero, Option.some.injEq] at h; subst h; rw [hc]; omega
  | m :: ms, i + 1, x, h => by
      simp only [List.getElem?_cons_succ] at h; have := le_sum_of_get hc ms i x h; rw [hc]; omega

end GtModel
