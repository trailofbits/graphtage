/-
  `Except ε`, the monad of the models written in `do` notation (`R = Except Err` of the L3 machines, `Except BErr` /
  `Except Err` of the builder), for any error type: what `>>=`, `pure` and `throw` do on `.ok` / `.error`, as simp
  lemmas, the inversion of a `>>=` that returned or raised, `List.mapM`, and the rules by which the lemmas about the
  methods are composed.  Nothing is imported.

  The lemmas about a method all say "it returns, and what it returns satisfies …": `∃ a b, op = .ok (a, b) ∧ P a b`.
  `Ret x P` is that shape for one result, and the bind rules take a premise of the shape as it stands, so a proof walks
  through the method's body in program order:
      unfold op;  refine Ret.bind₂ (h.tighten c hI) fun c1 r st => ?_;  …;  exact Ret.pure ⟨st.keeps, …⟩
  (`Ret.ex₂` first if the statement has two results).  Where a statement names the returned value as a term of its
  witnesses (`.ok (.kvp l k' v', …)`), the equations of the calls are chained by `bind_of_eq` in the same order instead.
  `match`, `unfold` of a recursion at `k + 1` and `if` on literals are done by the unifier.
  `Part x P` with its rules is the same for "whatever it returns satisfies …", whatever the calls inside do.
  The rules see `>>=` only: a body that spells the propagation out (`match x with | .error e => .error e | .ok a => …`,
  as the heap and the assignment models do) is not an instance.
-/
namespace GtModel

variable {ε α β : Type}

@[simp] theorem ok_bind (a : α) (f : α → Except ε β) : (Except.ok a >>= f) = f a := rfl

@[simp] theorem error_bind (e : ε) (f : α → Except ε β) : (Except.error e >>= f) = .error e := rfl

@[simp] theorem pure_eq_ok (a : α) : (pure a : Except ε α) = .ok a := rfl

@[simp] theorem throw_eq_error (e : ε) : (throw e : Except ε α) = .error e := rfl

theorem bind_ok {x : Except ε α} {f : α → Except ε β} {b : β} : x >>= f = .ok b ↔ ∃ a, x = .ok a ∧ f a = .ok b := by
  cases x <;> simp [bind, Except.bind]

theorem bind_error {x : Except ε α} {f : α → Except ε β} {e : ε} :
    x >>= f = .error e ↔ x = .error e ∨ ∃ a, x = .ok a ∧ f a = .error e := by
  cases x <;> simp [bind, Except.bind]

section
variable {γ δ : Type}

abbrev Ret (x : Except ε α) (P : α → Prop) : Prop := ∃ a, x = .ok a ∧ P a

theorem Ret.pure {a : α} {P : α → Prop} (h : P a) : Ret (Pure.pure a : Except ε α) P := ⟨a, rfl, h⟩

theorem Ret.bind {x : Except ε α} {f : α → Except ε β} {P : α → Prop} {Q : β → Prop} (hx : ∃ a, x = .ok a ∧ P a)
    (hf : ∀ a, P a → Ret (f a) Q) : Ret (x >>= f) Q := by
  obtain ⟨a, rfl, ha⟩ := hx
  exact hf a ha

theorem Ret.bind₂ {x : Except ε (α × β)} {f : α × β → Except ε γ} {P : α → β → Prop} {Q : γ → Prop}
    (hx : ∃ a b, x = .ok (a, b) ∧ P a b) (hf : ∀ a b, P a b → Ret (f (a, b)) Q) : Ret (x >>= f) Q := by
  obtain ⟨a, b, rfl, h⟩ := hx
  exact hf a b h

theorem Ret.bind₃ {x : Except ε (α × β × γ)} {f : α × β × γ → Except ε δ} {P : α → β → γ → Prop} {Q : δ → Prop}
    (hx : ∃ a b c, x = .ok (a, b, c) ∧ P a b c) (hf : ∀ a b c, P a b c → Ret (f (a, b, c)) Q) : Ret (x >>= f) Q := by
  obtain ⟨a, b, c, rfl, h⟩ := hx
  exact hf a b c h

/-- the last component of the result is known beforehand (`bounds()` returns the exposed interval) -/
theorem Ret.bindv {x : Except ε (α × β)} {f : α × β → Except ε γ} {v : β} {P : α → Prop} {Q : γ → Prop}
    (hx : ∃ a, x = .ok (a, v) ∧ P a) (hf : ∀ a, P a → Ret (f (a, v)) Q) : Ret (x >>= f) Q := by
  obtain ⟨a, rfl, h⟩ := hx
  exact hf a h

theorem Ret.bind₂v {x : Except ε (α × β × γ)} {f : α × β × γ → Except ε δ} {v : γ} {P : α → β → Prop} {Q : δ → Prop}
    (hx : ∃ a b, x = .ok (a, b, v) ∧ P a b) (hf : ∀ a b, P a b → Ret (f (a, b, v)) Q) : Ret (x >>= f) Q := by
  obtain ⟨a, b, rfl, h⟩ := hx
  exact hf a b h

theorem Ret.bind_eq {x : Except ε α} {f : α → Except ε β} {a : α} {Q : β → Prop} (e : x = .ok a) (hf : Ret (f a) Q) :
    Ret (x >>= f) Q := by
  subst e
  exact hf

theorem Ret.ite {c : Prop} [Decidable c] {x y : Except ε α} {Q : α → Prop} (hx : c → Ret x Q) (hy : ¬ c → Ret y Q) :
    Ret (if c then x else y) Q := by
  split
  · exact hx ‹_›
  · exact hy ‹_›

/-- a `let (…) ← if c then x else y` whose continuation the `do` notation has copied into both branches -/
theorem ite_bind {c : Prop} [Decidable c] (x y : Except ε α) (f : α → Except ε β) :
    (if c then x >>= f else y >>= f) = (if c then x else y) >>= f := by
  split <;> rfl

theorem bind_of_eq {x : Except ε α} {a : α} {f : α → Except ε β} {y : Except ε β} (e : x = .ok a) (h : f a = y) : x >>= f = y := by
  subst e
  exact h

theorem Ret.mono {x : Except ε α} {P Q : α → Prop} (hx : Ret x P) (h : ∀ a, P a → Q a) : Ret x Q :=
  hx.imp fun a ⟨e, p⟩ => ⟨e, h a p⟩

theorem Ret.ex₂ {x : Except ε (α × β)} {P : α → β → Prop} (h : Ret x fun r => P r.1 r.2) : ∃ a b, x = .ok (a, b) ∧ P a b :=
  let ⟨(a, b), e, p⟩ := h; ⟨a, b, e, p⟩

theorem Ret.of₂ {x : Except ε (α × β)} {P : α → β → Prop} (h : ∃ a b, x = .ok (a, b) ∧ P a b) : Ret x fun r => P r.1 r.2 :=
  let ⟨a, b, e, p⟩ := h; ⟨(a, b), e, p⟩

theorem Ret.ex₃ {x : Except ε (α × β × γ)} {P : α → β → γ → Prop} (h : Ret x fun r => P r.1 r.2.1 r.2.2) :
    ∃ a b c, x = .ok (a, b, c) ∧ P a b c :=
  let ⟨(a, b, c), e, p⟩ := h; ⟨a, b, c, e, p⟩

theorem Ret.of₃ {x : Except ε (α × β × γ)} {P : α → β → γ → Prop} (h : ∃ a b c, x = .ok (a, b, c) ∧ P a b c) :
    Ret x fun r => P r.1 r.2.1 r.2.2 :=
  let ⟨a, b, c, e, p⟩ := h; ⟨(a, b, c), e, p⟩

theorem Ret.exv {x : Except ε (α × β)} {v : β} {P : α → Prop} (h : Ret x fun r => r.2 = v ∧ P r.1) :
    ∃ a, x = .ok (a, v) ∧ P a :=
  let ⟨(a, _), e, rfl, p⟩ := h; ⟨a, e, p⟩

theorem Ret.ex₂v {x : Except ε (α × β × γ)} {v : γ} {P : α → β → Prop} (h : Ret x fun r => r.2.2 = v ∧ P r.1 r.2.1) :
    ∃ a b, x = .ok (a, b, v) ∧ P a b :=
  let ⟨(a, b, _), e, rfl, p⟩ := h; ⟨a, b, e, p⟩

end

abbrev Part (x : Except ε α) (P : α → Prop) : Prop := ∀ a, x = .ok a → P a

theorem Part.pure {a : α} {P : α → Prop} (h : P a) : Part (Pure.pure a : Except ε α) P := fun _ e => Except.ok.inj e ▸ h

theorem Part.throw {e : ε} {P : α → Prop} : Part (throw e : Except ε α) P := fun _ h => nomatch h

theorem Part.bind {x : Except ε α} {f : α → Except ε β} {Q : β → Prop} (hf : ∀ a, x = .ok a → Part (f a) Q) : Part (x >>= f) Q := by
  intro b hb
  obtain ⟨a, ha, hf'⟩ := bind_ok.1 hb
  exact hf a ha b hf'

theorem Part.ite {c : Prop} [Decidable c] {x y : Except ε α} {Q : α → Prop} (hx : c → Part x Q) (hy : ¬ c → Part y Q) :
    Part (if c then x else y) Q := by
  split
  · exact hx ‹_›
  · exact hy ‹_›

section
variable {f g : α → Except ε β} {xs : List α}

theorem mapM_error {e : ε} (h : xs.mapM f = .error e) : ∃ x ∈ xs, f x = .error e := by
  induction xs with
  | nil => cases h
  | cons x xs ih =>
    rw [List.mapM_cons] at h
    rcases bind_error.1 h with h | ⟨y, _, h⟩
    · exact ⟨x, List.mem_cons_self, h⟩
    · rcases bind_error.1 h with h | ⟨_, _, h⟩
      · obtain ⟨x', hx', h'⟩ := ih h
        exact ⟨x', List.mem_cons_of_mem _ hx', h'⟩
      · cases h

theorem mapM_congr (h : ∀ x ∈ xs, f x = g x) : xs.mapM f = xs.mapM g := by
  induction xs with
  | nil => rfl
  | cons x xs ih =>
    rw [List.mapM_cons, List.mapM_cons, h x List.mem_cons_self, ih fun y hy => h y (List.mem_cons_of_mem _ hy)]

theorem mapM_ok_of_forall (g : α → β) : ∀ {xs : List α}, (∀ x ∈ xs, f x = .ok (g x)) → xs.mapM f = .ok (xs.map g)
  | [], _ => rfl
  | x :: xs, hf => by
      obtain ⟨hx, hxs⟩ := List.forall_mem_cons.mp hf
      simp only [List.mapM_cons, hx, mapM_ok_of_forall g hxs, ok_bind, pure_eq_ok, List.map]

end

end GtModel
