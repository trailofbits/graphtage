/-
  C01 for XML: `XAccounts` = at every nesting level the sub-edits of a compound XML edit account for every child of
  both nodes exactly once, in order; the embedded L2 scripts (tag, attributes, text) satisfy L2's `Accounts`.
-/
import GtModel.Proofs.EditsAccounts
import GtModel.Proofs.EditsBuild
import GtModel.Proofs.XmlCost
import GtModel.Proofs.XmlIdx
namespace GtModel.Xml
open GtModel

/-- the things an XML edit can relate: elements, child tuples (`XMLElementChildren`), and L2 nodes (the tag and
    text strings, the attribute mapping and everything below them) -/
inductive XNd where
  | elem (x : XTree)
  | kids (cs : List XTree)
  | l2 (n : Nd)

/-- `XMLElement.children()` = (tag, attrib, [text], _children) -/
def elemChildren : XTree → List XNd
  | .mk tag a text cs =>
      [.l2 (.tree (.leaf (.str tag))), .l2 (.tree a)]
        ++ (match text with | some s => [XNd.l2 (.tree (.leaf (.str s)))] | none => [])
        ++ [.kids cs]

def XNd.children : XNd → List XNd
  | .elem x => elemChildren x
  | .kids cs => cs.map .elem
  | .l2 n => n.children.map .l2

def xkindFits : XKind → XNd → XNd → Prop
  | .elem, .elem _, .elem _ => True
  | .fixed, .kids _, .kids _ => True
  | .ed, .kids _, .kids _ => True
  | _, _, _ => False

def XLocalAcc (a b : XNd) (k : XKind) (subs : List XScript) : Prop :=
  k.hasSubs = true → xkindFits k a b ∧
    xfromIdx subs = ixRange a.children.length ∧ xtoIdx subs = ixRange b.children.length

def XScript.linked : XScript → Bool
  | .emb s => s.kind.hasSubs
  | .mk k _ _ _ _ => k.hasSubs

mutual
def XAccounts : XNd → XNd → XScript → Prop
  | a, b, .emb s => ∃ a' b', a = .l2 a' ∧ b = .l2 b' ∧ Accounts a' b' s
  | a, b, .mk k _ _ _ subs => XLocalAcc a b k subs ∧ XAccountsL a b subs
def XAccountsL : XNd → XNd → List XScript → Prop
  | _, _, [] => True
  | a, b, s :: rest =>
      (s.linked = true → ∃ i j x y, s.fi = .at i ∧ xtoIxOf s = .at j ∧
          a.children[i]? = some x ∧ b.children[j]? = some y ∧ XAccounts x y s)
        ∧ XAccountsL a b rest
end

theorem xaccountsL_iff (a b : XNd) (l : List XScript) : XAccountsL a b l ↔ ∀ s ∈ l, s.linked = true →
    ∃ i j x y, s.fi = .at i ∧ xtoIxOf s = .at j ∧
      a.children[i]? = some x ∧ b.children[j]? = some y ∧ XAccounts x y s := by
  induction l with
  | nil => exact ⟨fun _ _ h => (nomatch h), fun _ => trivial⟩
  | cons s l ih => rw [List.forall_mem_cons, ← ih]; exact Iff.rfl

theorem xaccounts_mk (a b : XNd) (k : XKind) (f t : Ix) (c : Nat) (subs : List XScript) :
    XAccounts a b (.mk k f t c subs) ↔ XLocalAcc a b k subs ∧ XAccountsL a b subs := by
  simp [XAccounts]

theorem xaccounts_emb (a b : Nd) (s : Script) : XAccounts (.l2 a) (.l2 b) (.emb s) ↔ Accounts a b s := by
  simp [XAccounts]

theorem xaccounts_relabel (a b : XNd) (s : XScript) (f t : Ix) : XAccounts a b (s.relabel f t) ↔ XAccounts a b s := by
  cases s with
  | emb s =>
    simp only [XScript.relabel_emb, XAccounts, Accounts, walk_relabel]
  | mk k f0 t0 c subs => simp [XAccounts]

theorem xaccounts_xMatch (a b : XNd) (c : Nat) : XAccounts a b (xMatch c) := by
  simp [xMatch, XAccounts, XLocalAcc, XKind.hasSubs, XAccountsL]

mutual
def XTree.keysDistinct : XTree → Bool
  | .mk _ a _ cs => a.keysDistinct && xkdL cs
def xkdL : List XTree → Bool
  | [] => true
  | c :: cs => c.keysDistinct && xkdL cs
end

/-- true of every parsed element: a Python dict cannot hold a key twice -/
abbrev XTree.KeysDistinct (t : XTree) : Prop := t.keysDistinct = true

theorem xkdL_iff (cs : List XTree) : xkdL cs = true ↔ ∀ c ∈ cs, c.KeysDistinct := by
  induction cs with
  | nil => simp [xkdL]
  | cons c cs ih => simp [xkdL, ih]

theorem xkd_mk (tag : Str) (a : Tree) (x : Option Str) (cs : List XTree) :
    (XTree.mk tag a x cs).KeysDistinct ↔ a.KeysDistinct ∧ ∀ c ∈ cs, c.KeysDistinct := by
  simp [XTree.KeysDistinct, XTree.keysDistinct, xkdL_iff]

theorem elemChildren_length (tag : Str) (a : Tree) (x : Option Str) (cs : List XTree) :
    (elemChildren (.mk tag a x cs)).length = kidsIx x + 1 := by
  cases x <;> simp [elemChildren, kidsIx]

theorem XNd.children_kidsIx (tag : Str) (a : Tree) (x : Option Str) (cs : List XTree) :
    (XNd.elem (.mk tag a x cs)).children[kidsIx x]? = some (.kids cs) := by
  cases x <;> rfl

theorem textEdit_linked {ft tt : Option Str} {e : Script} (h : textEdit ft tt = some e) (hl : e.kind.hasSubs = true) :
    ∃ a b, ft = some a ∧ tt = some b ∧ e = (strEdits a b).relabel (.at 2) (.at 2) := by
  cases ft <;> cases tt <;> simp only [textEdit, Option.some.injEq, reduceCtorEq] at h <;> subst h
  · cases hl
  · cases hl
  · exact ⟨_, _, rfl, rfl, rfl⟩

theorem accounts_strEdits (a b : Str) : Accounts (.tree (.leaf (.str a))) (.tree (.leaf (.str b))) (strEdits a b) := by
  have := accounts_edits {} [] [] [] (.leaf (.str a)) (.leaf (.str b)) rfl rfl
  rw [edits_leaf] at this
  simpa [leafEdits] using this

theorem elemScript_idx (ftag ttag : Str) (fattr tattr : Tree) (ftext ttext : Option Str) (fcs tcs : List XTree)
    (attrE : Script) (kidsE : XScript) (ha : attrE.kind.isTop = true) (hk : kidsE.isTop = true) :
    xfromIdx (elemScript (strEdits ftag ttag) attrE (textEdit ftext ttext) (kidsIx ftext) (kidsIx ttext) kidsE).subs
      = ixRange (elemChildren (.mk ftag fattr ftext fcs)).length ∧
    xtoIdx (elemScript (strEdits ftag ttag) attrE (textEdit ftext ttext) (kidsIx ftext) (kidsIx ttext) kidsE).subs
      = ixRange (elemChildren (.mk ttag tattr ttext tcs)).length := by
  have hs : ∀ a b : Str, ((strEdits a b).kind == Kind.insert) = false ∧ ((strEdits a b).kind == Kind.remove) = false :=
    fun a b => by have := Kind.isTop_ne (strEdits_kind_top a b); simpa using ⟨this.1, this.2.1⟩
  have h2 := Kind.isTop_ne ha
  have h3 := XScript.isTop_iff.1 hk
  have e3 : (attrE.kind == Kind.insert) = false := by simpa using h2.1
  have e4 : (attrE.kind == Kind.remove) = false := by simpa using h2.2.1
  rw [elemChildren_length, elemChildren_length]
  cases ftext <;> cases ttext <;>
    simp [elemScript, textEdit, kidsIx, xfromIdx, xtoIdx, xtoIxOf, List.filter_cons, hs, e3, e4, h3.1, h3.2,
      ixRange, List.range_succ, mkInsert, mkRemove]

theorem XNd.children_kids (cs : List XTree) : (XNd.kids cs).children.length = cs.length :=
  List.length_map ..

theorem XScript.Flat.linked : ∀ {s : XScript}, s.Flat → s.linked = false
  | .mk _ _ _ _ _, h => h.1

theorem XSubForm.link {o : Opts} {orc : Oracle} {fp tp : List Nat} {kf kt : Nat} {fcs tcs : List XTree} {s : XScript}
    (h : XSubForm fcs.length tcs.length (kidsTbl o orc fp tp kf kt fcs tcs) s) :
    s.Flat ∨ ∃ (i j : Nat) (hi : i < fcs.length) (hj : j < tcs.length), s.fi = .at i ∧ xtoIxOf s = .at j ∧
      (XNd.kids fcs).children[i]? = some (.elem fcs[i]) ∧ (XNd.kids tcs).children[j]? = some (.elem tcs[j]) ∧
      s = (xmlEdits o orc (fp ++ [kf, i]) (tp ++ [kt, j]) fcs[i] tcs[j]).relabel (.at i) (.at j) := by
  cases h with
  | flat h => exact .inl h
  | @cell i j hi hj =>
    exact .inr ⟨i, j, hi, hj, by simp,
      xtoIxOf_relabel_at _ _ _ (XScript.isTop_iff.1 (kidsTbl_top o orc fp tp kf kt fcs tcs i j)).1,
      by simp [XNd.children, hi], by simp [XNd.children, hj], by rw [kidsTbl_getD _ _ _ _ _ _ _ _ _ _ _ hi hj]⟩

theorem xaccounts_kidsScript (o : Opts) (orc : Oracle) (fp tp : List Nat) (kf kt : Nat) (fcs tcs : List XTree)
    (ih : ∀ i j (hi : i < fcs.length) (hj : j < tcs.length),
      XAccounts (.elem fcs[i]) (.elem tcs[j]) (xmlEdits o orc (fp ++ [kf, i]) (tp ++ [kt, j]) fcs[i] tcs[j])) :
    XAccounts (.kids fcs) (.kids tcs) (kidsScript o fcs tcs (kidsTbl o orc fp tp kf kt fcs tcs)) := by
  have hT := kidsTbl_top o orc fp tp kf kt fcs tcs
  have hL : ∀ l : List XScript, (∀ s ∈ l, XSubForm fcs.length tcs.length (kidsTbl o orc fp tp kf kt fcs tcs) s) →
      XAccountsL (.kids fcs) (.kids tcs) l := by
    intro l hl
    rw [xaccountsL_iff]
    intro s hs hsub
    rcases (hl s hs).link with hflat | ⟨i, j, hi, hj, h1, h2, h3, h4, rfl⟩
    · rw [hflat.linked] at hsub; cases hsub
    · exact ⟨i, j, _, _, h1, h2, h3, h4, (xaccounts_relabel ..).2 (ih i j hi hj)⟩
  unfold kidsScript
  split
  · exact xaccounts_xMatch _ _ _
  · split
    · exact (xaccounts_mk ..).2 ⟨fun _ => ⟨trivial, by rw [XNd.children_kids, XNd.children_kids]; exact kidsFixed_idx fcs tcs _ hT⟩,
        hL _ fun _ => xsubForm_kidsFixed⟩
    · exact (xaccounts_mk ..).2 ⟨fun _ => ⟨trivial, by rw [XNd.children_kids, XNd.children_kids]; exact kidsEd_idx fcs tcs 1 _ hT⟩,
        hL _ fun _ => xsubForm_kidsEd⟩

theorem xaccounts_xmlEdits (o : Opts) (orc : Oracle) (f : XTree) : ∀ (fp tp : List Nat) (t : XTree),
    f.KeysDistinct → t.KeysDistinct → XAccounts (.elem f) (.elem t) (xmlEdits o orc fp tp f t) := by
  induction f using XTree.ind with
  | mk ftag fattr ftext fcs ih =>
    intro fp tp t hf ht
    obtain ⟨ttag, tattr, ttext, tcs⟩ := t
    rw [xkd_mk] at hf ht
    rw [xmlEdits_eq]
    split
    · exact xaccounts_xMatch _ _ _
    · have hkids := xaccounts_kidsScript o orc fp tp (kidsIx ftext) (kidsIx ttext) fcs tcs
        (fun i j hi hj => ih _ (List.getElem_mem hi) _ _ _ (hf.2 _ (List.getElem_mem hi)) (ht.2 _ (List.getElem_mem hj)))
      have hidx := elemScript_idx ftag ttag fattr tattr ftext ttext fcs tcs
        (edits o orc (fp ++ [1]) (tp ++ [1]) fattr tattr)
        (kidsScript o fcs tcs (kidsTbl o orc fp tp (kidsIx ftext) (kidsIx ttext) fcs tcs))
        (edits_kind_top ..) (kidsScript_top ..)
      have hktop := kidsScript_top o fcs tcs (kidsTbl o orc fp tp (kidsIx ftext) (kidsIx ttext) fcs tcs)
      generalize kidsScript o fcs tcs (kidsTbl o orc fp tp (kidsIx ftext) (kidsIx ttext) fcs tcs) = kidsE at hkids hidx hktop
      have hattr := accounts_edits o orc (fp ++ [1]) (tp ++ [1]) fattr tattr hf.1 ht.1
      have hatop := edits_kind_top o orc (fp ++ [1]) (tp ++ [1]) fattr tattr
      generalize edits o orc (fp ++ [1]) (tp ++ [1]) fattr tattr = attrE at hattr hidx hatop
      refine (xaccounts_mk ..).2 ⟨fun _ => ⟨trivial, hidx⟩, (xaccountsL_iff ..).2 fun s hs hlinked => ?_⟩
      rcases mem_elemScript hs with rfl | rfl | ⟨e, he, rfl⟩ | rfl
      · refine ⟨0, 0, _, _, rfl, ?_, rfl, rfl, (xaccounts_emb ..).2 ((walk_relabel ..).2 (accounts_strEdits ftag ttag))⟩
        simp [xtoIxOf, (Kind.isTop_ne (strEdits_kind_top ftag ttag)).1]
      · refine ⟨1, 1, _, _, rfl, ?_, rfl, rfl, (xaccounts_emb ..).2 ((walk_relabel ..).2 hattr)⟩
        simp [xtoIxOf, (Kind.isTop_ne hatop).1]
      · obtain ⟨a, b, rfl, rfl, rfl⟩ := textEdit_linked he hlinked
        refine ⟨2, 2, _, _, rfl, ?_, rfl, rfl, (xaccounts_emb ..).2 ((walk_relabel ..).2 (accounts_strEdits a b))⟩
        simp [xtoIxOf, (Kind.isTop_ne (strEdits_kind_top a b)).1]
      · exact ⟨kidsIx ftext, kidsIx ttext, _, _, by simp, xtoIxOf_relabel_at _ _ _ (XScript.isTop_iff.1 hktop).1,
          XNd.children_kidsIx .., XNd.children_kidsIx .., (xaccounts_relabel ..).2 hkids⟩

/-- distinct attribute names in the documents (what every XML parser delivers: a duplicated attribute is a
    well-formedness error) -/
def XDoc.keysDistinct : XDoc → Bool
  | .mk _ a _ _ cs => decide ((a.map Prod.fst).Nodup) && kdL cs
where
  kdL : List XDoc → Bool
    | [] => true
    | c :: cs => XDoc.keysDistinct c && kdL cs

theorem attrDoc_keysDistinct (a : List (Str × Str)) (h : (a.map Prod.fst).Nodup) : (attrDoc a).KeysDistinct := by
  simp only [attrDoc, Doc.KeysDistinct, Doc.keysDistinct, List.map_map, Bool.and_eq_true, decide_eq_true_eq]
  refine ⟨by simpa [Function.comp_def] using h, ?_⟩
  clear h
  induction a with
  | nil => rfl
  | cons p a ih => simp [dkdKV, Doc.keysDistinct, ih]

mutual
theorem xbuild_keysDistinct (o : Opts) : ∀ (d : XDoc), XDoc.keysDistinct d = true → (xbuild o d).KeysDistinct
  | .mk tag a x tl cs, h => by
    simp only [XDoc.keysDistinct, Bool.and_eq_true, decide_eq_true_eq] at h
    rw [xbuild, xkd_mk]
    exact ⟨build_kd o _ (attrDoc_keysDistinct a h.1), (xkdL_iff _).1 (xbuildL_kd o cs h.2)⟩
theorem xbuildL_kd (o : Opts) : ∀ (cs : List XDoc), XDoc.keysDistinct.kdL cs = true → xkdL (xbuild.xbuildL o cs) = true
  | [], _ => rfl
  | c :: cs, h => by
    simp only [XDoc.keysDistinct.kdL, Bool.and_eq_true] at h
    simp only [xbuild.xbuildL, xkdL, Bool.and_eq_true]
    exact ⟨xbuild_keysDistinct o c h.1, xbuildL_kd o cs h.2⟩
end

end GtModel.Xml
