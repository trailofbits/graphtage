/-
  C10: what the matching options do to the script, node by node.  Also `Tree.noDict` (no DictNode anywhere: what `build`
  makes with `allow_key_edits = False`), the domain of `none_no_multiset` and of the C04 / C05 / C08 statements without
  MultiSetEdit.
-/
import GtModel.Proofs.EditsWalk
namespace GtModel

attribute [-simp] List.getD_eq_getElem?_getD

inductive Role where
  | pair | rem | ins
deriving DecidableEq, Repr

def Script.role (s : Script) : Role :=
  if s.kind = .insert then .ins else if s.kind = .remove then .rem else .pair

/-- what C10 looks at in a sub-edit: pair / remove / insert and the two indices -/
def Script.shape (s : Script) : Role × Ix × Ix := (s.role, s.fi, s.ti)

/-- the only script shape allowed when list edits are off: (0,0) … (k-1,k-1) with k = min n m, then the surplus tail
    of the longer list removed (from-indices k..n-1) or inserted (to-indices k..m-1) -/
def positionalShape (n m : Nat) : List (Role × Ix × Ix) :=
  (List.range (Nat.min n m)).map (fun i => (Role.pair, Ix.at i, Ix.at i))
  ++ (List.range (n - Nat.min n m)).map (fun k => (Role.rem, Ix.at (Nat.min n m + k), Ix.none))
  ++ (List.range (m - Nat.min n m)).map (fun k => (Role.ins, Ix.at (Nat.min n m + k), Ix.none))

theorem fixedScript_shape (fcs tcs : List Tree) (tbl : List (List Script)) (hT : TblTop tbl) :
    (fixedScript fcs tcs tbl).subs.map Script.shape = positionalShape fcs.length tcs.length := by
  simp only [fixedScript, mkCompound_subs, positionalShape, List.map_append, List.map_map]
  congr 1
  · congr 1
    apply List.map_congr_left
    intro i _
    have := Kind.isTop_ne (hT i i)
    simp [Script.shape, Script.role, this.1, this.2.1]

/-- list-vs-list edits that are not plain matches are positional whenever `cond` holds of the two lengths -/
def LocalPos (cond : Nat → Nat → Prop) (a b : Nd) (k : Kind) (subs : List Script) : Prop :=
  ∀ fcs tcs, a = .tree (.list fcs) → b = .tree (.list tcs) → k ≠ .match_ → cond fcs.length tcs.length →
    k = .fixed ∧ subs.map Script.shape = positionalShape fcs.length tcs.length

theorem localPos_edits (o : Opts) (cond : Nat → Nat → Prop)
    (hc : ∀ n m, cond n m → (!o.ale || (n == m && (!o.alesl || n == 1))) = true)
    (orc : Oracle) (fp tp : List Nat) (f t : Tree) :
    LocalPos cond (.tree f) (.tree t) (edits o orc fp tp f t).kind (edits o orc fp tp f t).subs := by
  intro fcs tcs ha hb hk hcond
  simp only [Nd.tree.injEq] at ha hb
  subst ha hb
  rw [edits_list_list] at hk ⊢
  split
  · rename_i h; simp [h] at hk
  · rw [if_pos (hc _ _ hcond)]
    exact ⟨rfl, fixedScript_shape _ _ _ (listTbl_top o orc fp tp fcs tcs)⟩

/-- a FixedKeyDictNodeEdit pairs equal keys only -/
def LocalFK (a b : Nd) (k : Kind) (subs : List Script) : Prop :=
  ∀ fkv tkv, a = .tree (.fdict fkv) → b = .tree (.fdict tkv) → k = .fk →
    ∀ s ∈ subs, s.kind ≠ .insert → s.kind ≠ .remove →
      ∃ i j, ∃ (hi : i < fkv.length) (hj : j < tkv.length), s.fi = .at i ∧ s.ti = .at j ∧ fkv[i].1 = tkv[j].1

theorem localFK_edits (o : Opts) (orc : Oracle) (fp tp : List Nat) (f t : Tree) :
    LocalFK (.tree f) (.tree t) (edits o orc fp tp f t).kind (edits o orc fp tp f t).subs := by
  intro fkv tkv ha hb hk s hs hni hnr
  simp only [Nd.tree.injEq] at ha hb
  subst ha hb
  rw [edits_fdict_fdict] at hk hs
  split at hk
  · simp at hk
  · rename_i h
    simp only [h, Bool.false_eq_true, if_false] at hs
    cases subForm_fkScript hs with
    | eq h => obtain ⟨hi, hj, e⟩ := h.1.key_eq; exact ⟨_, _, hi, hj, rfl, rfl, e⟩
    | cell h => obtain ⟨hi, hj, e⟩ := h.key_eq; exact ⟨_, _, hi, hj, rfl, rfl, e⟩
    | same h => nomatch h
    | remove => simp at hnr
    | insert => simp at hni

mutual
def Tree.noDict : Tree → Bool
  | .leaf _ => true
  | .list cs => noDictL cs
  | .dict _ => false
  | .fdict kvs => noDictKV kvs
def noDictL : List Tree → Bool
  | [] => true
  | c :: cs => c.noDict && noDictL cs
def noDictKV : List (Str × Tree) → Bool
  | [] => true
  | (_, v) :: rest => v.noDict && noDictKV rest
end

theorem noDictL_iff (cs : List Tree) : noDictL cs = true ↔ ∀ c ∈ cs, c.noDict = true := by
  induction cs with
  | nil => simp [noDictL]
  | cons c cs ih => simp [noDictL, ih]

theorem noDictKV_iff (kvs : List (Str × Tree)) : noDictKV kvs = true ↔ ∀ kv ∈ kvs, kv.2.noDict = true := by
  induction kvs with
  | nil => simp [noDictKV]
  | cons kv kvs ih => obtain ⟨k, v⟩ := kv; simp [noDictKV, ih]

theorem treeInv_noDict : TreeInv (fun t => t.noDict = true) :=
  ⟨fun _ => rfl, fun cs h => (noDictL_iff cs).1 (by simpa [Tree.noDict] using h),
   fun kvs h => by simp [Tree.noDict] at h, fun kvs h => (noDictKV_iff kvs).1 (by simpa [Tree.noDict] using h)⟩

mutual
theorem build_noDict (o : Opts) (h : o.ake = false) : ∀ d : Doc, (build o d).noDict = true
  | .scalar _ => rfl
  | .list cs => by simp only [build, Tree.noDict]; exact buildL_noDict o h cs
  | .obj kvs => by simp only [build, h, Bool.false_eq_true, if_false, Tree.noDict]; exact buildKV_noDict o h kvs
theorem buildL_noDict (o : Opts) (h : o.ake = false) : ∀ cs : List Doc, noDictL (build.buildL o cs) = true
  | [] => rfl
  | c :: cs => by simp only [build.buildL, noDictL, Bool.and_eq_true]; exact ⟨build_noDict o h c, buildL_noDict o h cs⟩
theorem buildKV_noDict (o : Opts) (h : o.ake = false) : ∀ kvs : List (Str × Doc), noDictKV (build.buildKV o kvs) = true
  | [] => rfl
  | (k, v) :: rest => by
    simp only [build.buildKV, noDictKV, Bool.and_eq_true]; exact ⟨build_noDict o h v, buildKV_noDict o h rest⟩
end

/-- without key edits there is no MultiSetEdit at all -/
def LocalNoMs (_a _b : Nd) (k : Kind) (_subs : List Script) : Prop := k ≠ .ms

theorem strEdits_kind_ne_ms (a b : Str) : (strEdits a b).kind ≠ .ms := by
  rcases strEdits_kind a b with h | h <;> simp [h]

theorem leafEdits_kind_ne_ms (a : Scalar) (t : Tree) : (leafEdits a t).kind ≠ .ms := by
  unfold leafEdits
  split <;> first | exact strEdits_kind_ne_ms _ _ | simp [leafLeaf]

theorem localNoMs_edits (o : Opts) (orc : Oracle) (fp tp : List Nat) (f t : Tree) (hf : f.noDict = true) :
    LocalNoMs (.tree f) (.tree t) (edits o orc fp tp f t).kind (edits o orc fp tp f t).subs :=
  edits_ind treeInv_true (P := fun f _ s => f.noDict = true → s.kind ≠ .ms) o orc
    (fun a t _ => leafEdits_kind_ne_ms a t) (fun _ _ _ _ _ _ => nofun) (fun _ _ _ _ _ => nofun)
    (fun _ _ _ _ _ _ _ _ _ _ => nofun) (fun _ _ _ _ _ _ _ _ _ => nofun) (fun _ _ _ _ _ _ _ _ h => nomatch h)
    (fun _ _ _ _ _ _ _ _ _ => nofun) f fp tp t trivial trivial hf

/-- automatic key matching pairs every shared key with itself -/
def LocalAuto (a b : Nd) (k : Kind) (subs : List Script) : Prop :=
  ∀ fkv tkv, a = .tree (.dict fkv) → b = .tree (.dict tkv) → k = .ms →
    ∀ key, key ∈ keys fkv → key ∈ keys tkv →
      ∃ s ∈ subs, ∃ i j, ∃ (hi : i < fkv.length) (hj : j < tkv.length),
        s.kind = .kvp ∧ s.fi = .at i ∧ s.ti = .at j ∧ fkv[i].1 = key ∧ tkv[j].1 = key

theorem localAuto_edits (o : Opts) (hamk : o.amk = true) (orc : Oracle) (fp tp : List Nat) (f t : Tree) :
    LocalAuto (.tree f) (.tree t) (edits o orc fp tp f t).kind (edits o orc fp tp f t).subs := by
  intro fkv tkv ha hb hk key hkf hkt
  simp only [Nd.tree.injEq] at ha hb
  subst ha hb
  rw [edits_dict_dict] at hk ⊢
  split at hk
  · simp at hk
  · rename_i h
    simp only [h, Bool.false_eq_true, if_false]
    obtain ⟨i, hi, hki⟩ := mem_keys_iff.1 hkf
    have hne : findKey key tkv 0 ≠ none := fun e => (findKey_none.1 e) hkt
    obtain ⟨j, hj⟩ := Option.ne_none_iff_exists'.1 hne
    have hjl := findKey_lt hj
    have hkj := findKey_key hj
    rw [getD_key hjl] at hkj
    refine ⟨msKvE fkv tkv (kvTbl o orc fp tp fkv tkv) i j, ?_, i, j, hi, hjl,
      msKvE_kind .., msKvE_fi .., rfl, hki, hkj⟩
    rw [msScript_subs]
    simp only [List.mem_append, List.mem_map]
    refine Or.inl (Or.inl (Or.inl (Or.inr ⟨(i, j), ?_, rfl⟩)))
    simp only [msAuto, hamk, if_true, List.mem_filterMap, List.mem_range, Option.map_eq_some_iff]
    exact ⟨i, hi, j, by rw [getD_key hi, hki]; exact hj, rfl⟩

end GtModel
