/-
  `TreeNode.copy()`: on the trees the builders produce, the copy is the original with exactly three flags reset
  (`ListNode.allow_list_edits`, `ListNode.allow_list_edits_when_same_length`, `StringNode.quoted`) and every
  `CyclicReference` wrapped once more.  `==` and `to_obj()` do not see those flags.
-/
import GtModel.Proofs.BuilderMachine
import GtModel.Proofs.BuilderValue

namespace GtModel.Builder

mutual
/-- what `copy()` returns on a built tree: flags dropped by `copy_from`, placeholders re-wrapped -/
def reset : Tree → Tree
  | .leaf c s _ => .leaf c s true
  | .cyc r w => .cyc r (w + 1)
  | .node (.list _ _) cs => .node (.list true true) (resetList cs)
  | .node t cs => .node t (resetList cs)
def resetList : List Tree → List Tree
  | [] => []
  | t :: ts => reset t :: resetList ts
end

theorem resetList_eq_map : ∀ (cs : List Tree), resetList cs = cs.map reset := by
  intro cs
  induction cs with
  | nil => rfl
  | cons t ts ih => simp [resetList, ih]

/-- the tag of a copied container: `ListNode.copy_from` drops both list flags -/
def resetTag : Tag → Tag
  | .list .. => .list true true
  | t => t

theorem reset_node (t : Tag) (cs : List Tree) : reset (.node t cs) = .node (resetTag t) (cs.map reset) := by
  cases t <;> simp only [reset, resetTag, resetList_eq_map]

theorem resetTag_ckind (t : Tag) : (resetTag t).ckind = t.ckind := by
  cases t <;> rfl

theorem reset_leaf (c : LeafCls) (s : Scalar) (q : Bool) : reset (.leaf c s q) = .leaf c s true := rfl

theorem reset_cyc (r : Ref) (w : Nat) : reset (.cyc r w) = .cyc r (w + 1) := rfl

theorem pyEq_reset_right (a b : Tree) : Tree.pyEq a (reset b) = Tree.pyEq a b := by
  induction a using Tree.induct generalizing b with
  | leaf c s q => cases b <;> simp [reset_leaf, reset_cyc, reset_node, pyEq_leaf, Tree.pyEq]
  | cyc r w => cases b <;> simp [reset_leaf, reset_cyc, reset_node, Tree.pyEq]
  | node ta as ih =>
    cases b with
    | leaf c s q => simp [reset_leaf, Tree.pyEq]
    | cyc r w => simp [reset_cyc, Tree.pyEq]
    | node tb bs =>
      rw [reset_node, pyEq_node, pyEq_node, resetTag_ckind]
      simpa only [List.map_id] using seqEq_map (f := id) (fun _ _ _ => rfl) (fun _ _ _ => rfl) ih _ _ bs

theorem pyEq_reset_left (a b : Tree) : Tree.pyEq (reset a) b = Tree.pyEq a b := by
  induction a using Tree.induct generalizing b with
  | leaf c s q => cases b <;> simp [reset_leaf, pyEq_leaf, Tree.pyEq]
  | cyc r w => cases b <;> simp [reset_cyc, Tree.pyEq]
  | node ta as ih =>
    cases b with
    | leaf c s q => simp [reset_node, Tree.pyEq]
    | cyc r w => simp [reset_node, Tree.pyEq]
    | node tb bs =>
      rw [reset_node, pyEq_node, pyEq_node, resetTag_ckind]
      simpa only [List.map_id] using
        seqEq_map (g := id) ih (fun x _ => pyEq_reset_right x) (fun _ _ _ => rfl) _ _ bs

theorem pyEq_reset_left_mem : ∀ (as : List Tree), ∀ x ∈ as, ∀ b, Tree.pyEq (reset x) b = Tree.pyEq x b :=
  fun _ x _ => pyEq_reset_left x

/-- one key/value pair child: `KeyValuePairNode(key leaf, built value)` -/
def kvpParts : Tree → Option (Tree × Tree)
  | .node (.kvp ..) [k, v] => some (k, v)
  | _ => none

mutual
/-- the shape of trees produced by the builders on C18's domain (see `buildVal_built`); `ac` / `ap` = placeholders (`CyclicReference`) / `pydiff.PyObj` nodes allowed -/
inductive Built (ac ap : Bool) : Tree → Prop where
  | leaf (c : LeafCls) (s : Scalar) (q : Bool) : (c = .null → s = Scalar.none) → Built ac ap (.leaf c s q)
  | cyc (r : Ref) (w : Nat) : ac = true → Built ac ap (.cyc r w)
  | list (a b : Bool) (cs : List Tree) : BuiltList ac ap cs → Built ac ap (.node (.list a b) cs)
  | mset (amk : Bool) (cs : List Tree) : (∀ c ∈ cs, IsKeyLeaf c) → (cs.map leafEqc).Pairwise (· ≠ ·) →
      Built ac ap (.node (.mset amk) cs)
  | dict (py amk : Bool) (cs : List Tree) : BuiltKvps ac ap cs → (cs.map (fun c => leafEqc (kvpKey c))).Pairwise (· ≠ ·) →
      Built ac ap (.node (.dict py amk) cs)
  | fdict (py : Bool) (cs : List Tree) : BuiltKvps ac ap cs → (cs.map (fun c => leafEqc (kvpKey c))).Pairwise (· ≠ ·) →
      Built ac ap (.node (.fdict py) cs)
  | pyobj (n a : Tree) : ap = true → Built ac ap n → Built ac ap a → Built ac ap (.node .pyobj [n, a])
  | kvp (kw ake : Bool) (k v : Tree) : IsKeyLeaf k → Built ac ap v → Built ac ap (.node (.kvp kw ake) [k, v])
inductive BuiltList (ac ap : Bool) : List Tree → Prop where
  | nil : BuiltList ac ap []
  | cons {t ts} : Built ac ap t → BuiltList ac ap ts → BuiltList ac ap (t :: ts)
inductive BuiltKvps (ac ap : Bool) : List Tree → Prop where
  | nil : BuiltKvps ac ap []
  | cons {kw ake k v ts} : IsKeyLeaf k → Built ac ap v → BuiltKvps ac ap ts → BuiltKvps ac ap (.node (.kvp kw ake) [k, v] :: ts)
end

section Built
variable {ac ap : Bool} {cs : List Tree}

theorem IsKeyLeaf.built {t : Tree} (h : IsKeyLeaf t) : Built ac ap t := by
  obtain ⟨c, s, q, rfl, hc⟩ := h
  exact .leaf c s q hc

theorem builtList_iff : BuiltList ac ap cs ↔ ∀ c ∈ cs, Built ac ap c := by
  induction cs with
  | nil => exact ⟨fun _ => nofun, fun _ => .nil⟩
  | cons t ts ih =>
    rw [List.forall_mem_cons, ← ih]
    exact ⟨fun h => by cases h with | cons h1 h2 => exact ⟨h1, h2⟩, fun h => .cons h.1 h.2⟩

theorem builtKvps_iff : BuiltKvps ac ap cs ↔
    ∀ c ∈ cs, ∃ kw ake k v, c = .node (.kvp kw ake) [k, v] ∧ IsKeyLeaf k ∧ Built ac ap v := by
  induction cs with
  | nil => exact ⟨fun _ => nofun, fun _ => .nil⟩
  | cons t ts ih =>
    rw [List.forall_mem_cons, ← ih]
    constructor
    · intro h
      cases h with
      | cons hk hv hrest => exact ⟨⟨_, _, _, _, rfl, hk, hv⟩, hrest⟩
    · rintro ⟨⟨kw, ake, k, v, rfl, hk, hv⟩, hrest⟩
      exact .cons hk hv hrest

theorem builtList_of_kvps (h : BuiltKvps ac ap cs) : BuiltList ac ap cs :=
  builtList_iff.2 fun c hc => by
    obtain ⟨kw, ake, k, v, rfl, hk, hv⟩ := builtKvps_iff.1 h c hc
    exact .kvp _ _ _ _ hk hv

theorem Built.children {tag : Tag} (h : Built ac ap (.node tag cs)) : ∀ c ∈ cs, Built ac ap c := by
  cases h with
  | list _ _ _ hl => exact builtList_iff.1 hl
  | mset _ _ hk _ => exact fun c hc => (hk c hc).built
  | dict _ _ _ hk _ => exact builtList_iff.1 (builtList_of_kvps hk)
  | fdict _ _ hk _ => exact builtList_iff.1 (builtList_of_kvps hk)
  | pyobj n a _ hn ha => exact List.forall_mem_cons.2 ⟨hn, List.forall_mem_cons.2 ⟨ha, fun _ h => nomatch h⟩⟩
  | kvp _ _ k v hk hv => exact List.forall_mem_cons.2 ⟨hk.built, List.forall_mem_cons.2 ⟨hv, fun _ h => nomatch h⟩⟩

theorem builtKvps_ne (hk : BuiltKvps ac ap cs) (hd : (cs.map fun c => leafEqc (kvpKey c)).Pairwise (· ≠ ·)) :
    cs.Pairwise fun a b => Tree.pyEq (kvpKey a) (kvpKey b) = false ∧ Tree.pyEq a b = false := by
  have hkey : ∀ c ∈ cs, IsKeyLeaf (kvpKey c) := fun c hc => by
    obtain ⟨kw, ake, k, v, rfl, hk, _⟩ := builtKvps_iff.1 hk c hc
    exact hk
  refine (pairwise_pyEq_of_eqc hkey hd).imp_of_mem fun {a b} ha hb ⟨hne, _⟩ => ⟨hne, ?_⟩
  obtain ⟨kw, ake, k, v, rfl, _⟩ := builtKvps_iff.1 hk a ha
  obtain ⟨kw', ake', k', v', rfl, _⟩ := builtKvps_iff.1 hk b hb
  rw [pyEq_kvp, show Tree.pyEq k k' = false from hne, Bool.false_and]

theorem mappingFrom_built (py : Bool) (o : Opts) (items : List (Tree × Tree)) (hg : GoodItems items)
    (hv : ∀ it ∈ items, Built ac ap it.2) (t : Tree) (hb : mappingFrom py o items = .ok t) : Built ac ap t := by
  obtain ⟨kvps, hk, hperm⟩ := mappingFrom_good py o hg
  cases hk.symm.trans hb
  have hkv : BuiltKvps ac ap kvps := builtKvps_iff.2 fun c hc => by
    obtain ⟨it, hit, rfl⟩ := List.mem_map.1 (hperm.subset hc)
    exact ⟨py, o.ake, it.1, it.2, rfl, hg.keys it hit, hv it hit⟩
  have hd : (kvps.map fun c => leafEqc (kvpKey c)).Pairwise (· ≠ ·) :=
    ((hperm.map _).pairwise_iff fun h => Ne.symm h).2 (by rw [List.map_map]; exact hg.dist)
  cases o.ake
  · exact .fdict _ _ hkv hd
  · exact .dict _ _ _ hkv hd

end Built

theorem scalarLeaf_built {ac ap : Bool} (s : Scalar) : Built ac ap (scalarLeaf s) := by
  unfold scalarLeaf
  cases s.kind
  case none => exact .leaf _ _ _ fun _ => rfl
  all_goals exact .leaf _ _ _ nofun

theorem buildValList_built_of {o : Opts} {xs : List PyVal} {ts : List Tree}
    (h : ∀ x ∈ xs, ∀ t, buildVal o x = .ok t → Built false false t) (hts : buildValList o xs = .ok ts) :
    BuiltList false false ts :=
  builtList_iff.2 fun t ht => by
    rw [buildValList_eq_mapM] at hts
    obtain ⟨x, hx, hxt⟩ := (mapM_ok_iff.1 hts).mem_right ht
    exact h x hx t hxt

theorem buildVal_built (o : Opts) (v : PyVal) (h : Plain v) (t : Tree) (hb : buildVal o v = .ok t) :
    Built false false t := by
  induction v using PyVal.induct generalizing t with
  | scalar m s => cases hb; exact scalarLeaf_built s
  | list m xs ih =>
    rw [buildVal] at hb
    obtain ⟨ts, hts, hb⟩ := bind_ok.1 hb
    cases hb
    exact .list _ _ _ (buildValList_built_of (fun x hx => ih x hx (plainList_iff.1 h x hx)) hts)
  | tuple m xs hl => exact hl h t hb
  | set m xs _ =>
    obtain ⟨ts, h1, h2, h3, _⟩ := buildValList_scalars o xs h.1
    have hd : (ts.map leafEqc).Pairwise (· ≠ ·) := h3 ▸ h.2
    rw [buildVal, h1] at hb
    cases hb
    have hpw : ts.Pairwise fun a b => Tree.pyEq a b = false := (pairwise_pyEq_of_eqc (key := id) h2 hd).imp And.left
    rw [mkCounter_id _ _ hpw]
    exact .mset _ _ h2 hd
  | dict m kvs ih =>
    have hp := plainPairs_iff.1 h.1
    obtain ⟨ks, _, hdict⟩ := buildVal_dict o m (fun p hp' => (hp p hp').1) h.2
    obtain ⟨vs, hvs⟩ : ∃ vs, buildValVals o kvs = .ok vs := by
      rw [buildVal] at hb
      obtain ⟨_, _, hb⟩ := bind_ok.1 hb
      obtain ⟨vs, hvs, _⟩ := bind_ok.1 hb
      exact ⟨vs, hvs⟩
    obtain ⟨hg, heq⟩ := hdict vs hvs
    rw [heq] at hb
    have hvq := mapM_ok_iff.1 (buildValVals_eq_mapM o kvs ▸ hvs)
    refine mappingFrom_built false o _ hg (fun it hit => ?_) t hb
    obtain ⟨p, hp', hpt⟩ := hvq.mem_right (List.of_mem_zip hit).2
    exact (ih p hp').2 (hp p hp').2 _ hpt
  | custom m cls attrs _ => exact h.elim

theorem buildValList_built (o : Opts) : ∀ (xs : List PyVal), PlainList xs → ∀ ts, buildValList o xs = .ok ts →
    BuiltList false false ts := fun _ h _ hb =>
  buildValList_built_of (fun x hx => buildVal_built o x (plainList_iff.1 h x hx)) hb

theorem buildValVals_built (o : Opts) : ∀ (kvs : List (PyVal × PyVal)), PlainPairs kvs → ∀ vs, buildValVals o kvs = .ok vs →
    BuiltList false false vs := fun kvs h vs hb =>
  builtList_iff.2 fun t ht => by
    rw [buildValVals_eq_mapM] at hb
    obtain ⟨p, hp, hpt⟩ := (mapM_ok_iff.1 hb).mem_right ht
    exact buildVal_built o p.2 (plainPairs_iff.1 h p hp).2 t hpt

theorem copyFrom_leaf (c : LeafCls) (s : Scalar) (q : Bool) (h : c = .null → s = Scalar.none) (cs : List Tree) :
    copyFrom (.leaf c s q) cs = .ok (.leaf c s true) := by
  simp only [copyFrom, pure, Except.pure]
  by_cases hc : c = .null
  · simp [hc, h hc]
  · simp [hc]

theorem kvpKey_reset (t : Tree) : kvpKey (reset t) = reset (kvpKey t) := by
  cases t with
  | node tag cs => cases tag <;> cases cs <;> rfl
  | _ => rfl

theorem pairwise_reset {cs : List Tree} (h : cs.Pairwise fun a b => Tree.pyEq a b = false) :
    (cs.map reset).Pairwise fun a b => Tree.pyEq a b = false :=
  List.pairwise_map.2 (h.imp fun h => by rwa [pyEq_reset_left, pyEq_reset_right])

/-- **copy_eq, structural form.**  On a built tree the recursive reading of `copy()` returns `reset t`. -/
theorem copyRec_built {ac ap : Bool} (t : Tree) (h : Built ac ap t) : copyRec t = .ok (reset t) := by
  induction t using Tree.induct with
  | leaf c s q => cases h with | leaf _ _ _ hc => exact copyFrom_leaf c s q hc []
  | cyc r w => rfl
  | node tag cs ih =>
    rw [copyRec, copyRecList_eq_mapM, mapM_ok_of_forall reset fun c hc => ih c hc (h.children c hc), reset_node]
    show copyFrom (.node tag cs) (cs.map reset) = _
    cases h with
    | list a b _ hl => rfl
    | mset amk _ hk hd =>
      simp only [copyFrom, resetTag, mkCounter_id _ _ (pairwise_reset ((pairwise_pyEq_of_eqc hk hd).imp And.left)), pure, Except.pure]
    | dict py amk _ hk hd =>
      simp only [copyFrom, resetTag, mkCounter_id _ _ (pairwise_reset ((builtKvps_ne hk hd).imp And.right)), pure,
        Except.pure]
    | fdict py _ hk hd =>
      have hpw : (cs.map fun c => (kvpKey (reset c), reset c)).Pairwise fun a b => Tree.pyEq a.1 b.1 = false :=
        List.pairwise_map.2 ((builtKvps_ne hk hd).imp fun h => by
          rw [kvpKey_reset, kvpKey_reset, pyEq_reset_left, pyEq_reset_right, h.1])
      simp only [copyFrom, resetTag, List.map_map, Function.comp_def, dictOf_id _ _ hpw, pure, Except.pure]
    | pyobj n a _ hn ha => rfl
    | kvp kw ake k v hk hv => rfl

theorem copyRecList_built {ac ap : Bool} : ∀ (cs : List Tree), BuiltList ac ap cs → copyRecList cs = .ok (resetList cs) := by
  intro cs h
  rw [copyRecList_eq_mapM, resetList_eq_map]
  exact mapM_ok_of_forall reset fun c hc => copyRec_built c (builtList_iff.1 h c hc)

theorem toObj_toItem_reset {ap : Bool} (t : Tree) (h : Built false ap t) :
    toObj (reset t) = toObj t ∧ toItem (reset t) = toItem t := by
  induction t using Tree.induct with
  | leaf c s q => exact ⟨rfl, rfl⟩
  | cyc r w => cases h with | cyc _ _ h => cases h
  | node tag cs ih =>
    have ih := fun c hc => ih c hc (h.children c hc)
    have hl : toObjList (cs.map reset) = toObjList cs := by
      rw [toObjList_eq_mapM, toObjList_eq_mapM, List.mapM_map]
      exact mapM_congr fun c hc => (ih c hc).1
    have hi : toObjItems (cs.map reset) = toObjItems cs := by
      rw [toObjItems_eq_mapM, toObjItems_eq_mapM, List.mapM_map]
      exact mapM_congr fun c hc => (ih c hc).2
    rw [reset_node]
    cases h with
    | list a b _ _ => exact ⟨by simp only [resetTag, toObj, hl], rfl⟩
    | mset amk _ _ _ => exact ⟨by simp only [resetTag, toObj, hl], rfl⟩
    | dict py amk _ _ _ => exact ⟨by simp only [resetTag, toObj, hi], rfl⟩
    | fdict py _ _ _ => exact ⟨by simp only [resetTag, toObj, hi], rfl⟩
    | pyobj n a _ _ _ =>
      refine ⟨?_, rfl⟩
      cases n with
      | leaf c s q => simp only [resetTag, List.map, reset_leaf, toObj, (ih a (by simp)).1]
      | cyc r w => rfl
      | node t' cs' => rw [List.map, reset_node]; rfl
    | kvp kw ake k v _ _ =>
      exact ⟨rfl, by simp only [resetTag, List.map, toItem, (ih k (by simp)).1, (ih v (by simp)).1]⟩

theorem toObj_reset {ap : Bool} (t : Tree) (h : Built false ap t) : toObj (reset t) = toObj t :=
  (toObj_toItem_reset t h).1

theorem toObjList_reset {ap : Bool} : ∀ (cs : List Tree), BuiltList false ap cs → toObjList (resetList cs) = toObjList cs := by
  intro cs h
  rw [resetList_eq_map, toObjList_eq_mapM, toObjList_eq_mapM, List.mapM_map]
  exact mapM_congr fun c hc => toObj_reset c (builtList_iff.1 h c hc)

theorem toObjItems_reset {ap : Bool} : ∀ (cs : List Tree), BuiltKvps false ap cs → toObjItems (resetList cs) = toObjItems cs := by
  intro cs h
  rw [resetList_eq_map, toObjItems_eq_mapM, toObjItems_eq_mapM, List.mapM_map]
  exact mapM_congr fun c hc => (toObj_toItem_reset c (builtList_iff.1 (builtList_of_kvps h) c hc)).2

end GtModel.Builder
