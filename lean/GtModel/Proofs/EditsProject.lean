/-
  C01, second sentence: "discarding everything marked inserted reproduces the first document and discarding
  everything marked removed reproduces the second" — for WHOLE documents.

  `projectFrom a b s` / `projectTo a b s` rebuild a document from the edit script `s`:
    * the container TYPE of every level comes from the kind of the compound edit (`ed`/`fixed` → list, `ms` → DictNode,
      `fk` → FixedKeyDictNode, `kvp` → key/value pair, `str` → string), see `assemble`;
    * the children of every level are the sub-edits in SCRIPT order, without the insertions (resp. removals);
    * a sub-edit that has sub-edits itself is projected recursively;
    * a sub-edit without sub-edits (Match, Replace, Remove, Insert) stands for ONE whole node, which the script names
      only by its index (the model's scripts carry indices and costs, no values): the node is looked up by that
      index among the children of the node the parent edit relates (`a` for `fi`, `b` for the to-index).
  The two documents are therefore used ONLY to look sub-values up by recorded index; nothing is compared with them and a
  script with a wrong / repeated / missing index, a wrong kind or a wrong order projects to a different document or to
  `none` (examples in Props/C01.lean).

  `Tree.Sim f' f`: `f'` is `f` up to the ORDER of the pairs of its mappings, at every depth (mappings are unordered:
  MultiSetEdit / FixedKeyDictNodeEdit list matched pairs first, then removals, then insertions).  Lists, strings, keys
  and leaves are related only to themselves.
-/
import GtModel.Proofs.EditsAccounts
namespace GtModel

-- `C01.pick` is named in C01's statements (`keepFrom`, `keepTo`) and proved about here, where the projections use it
namespace C01

/-- the children named by a list of indices -/
def pick {α : Type} (l : List α) (ixs : List Ix) : List α :=
  ixs.filterMap fun ix => match ix with | .at i => l[i]? | _ => none

theorem pick_ixRange {α : Type} (l : List α) : pick l (ixRange l.length) = l := by
  simp only [pick, ixRange, List.filterMap_map]
  exact filterMap_getElem?_range l

end C01
open C01 (pick pick_ixRange)

mutual
/-- `f'.Sim f`: same tree, except that the pairs of every mapping may come in another order -/
def Tree.Sim : Tree → Tree → Prop
  | .leaf a, t => t = .leaf a
  | .list as, t => ∃ bs, t = .list bs ∧ SimL as bs
  | .dict as, t => ∃ cs bs, t = .dict bs ∧ SimKV as cs ∧ cs.Perm bs
  | .fdict as, t => ∃ cs bs, t = .fdict bs ∧ SimKV as cs ∧ cs.Perm bs
def SimL : List Tree → List Tree → Prop
  | [], bs => bs = []
  | a :: as, bs => ∃ b bs', bs = b :: bs' ∧ a.Sim b ∧ SimL as bs'
def SimKV : List (Str × Tree) → List (Str × Tree) → Prop
  | [], bs => bs = []
  | (k, v) :: as, bs => ∃ w bs', bs = (k, w) :: bs' ∧ v.Sim w ∧ SimKV as bs'
end

mutual
theorem Tree.Sim.refl : ∀ t : Tree, t.Sim t
  | .leaf _ => by simp [Tree.Sim]
  | .list as => by simp only [Tree.Sim]; exact ⟨as, rfl, SimL.refl as⟩
  | .dict as => by simp only [Tree.Sim]; exact ⟨as, as, rfl, SimKV.refl as, List.Perm.refl _⟩
  | .fdict as => by simp only [Tree.Sim]; exact ⟨as, as, rfl, SimKV.refl as, List.Perm.refl _⟩
theorem SimL.refl : ∀ as : List Tree, SimL as as
  | [] => by simp [SimL]
  | a :: as => by simp only [SimL]; exact ⟨a, as, rfl, Tree.Sim.refl a, SimL.refl as⟩
theorem SimKV.refl : ∀ as : List (Str × Tree), SimKV as as
  | [] => by simp [SimKV]
  | (k, v) :: as => by simp only [SimKV]; exact ⟨v, as, rfl, Tree.Sim.refl v, SimKV.refl as⟩
end

/-- nodes of a walk: trees up to mapping order, pairs with the same key, the same character -/
def Nd.Sim : Nd → Nd → Prop
  | .tree a, .tree b => a.Sim b
  | .kv k v, .kv k' w => k = k' ∧ v.Sim w
  | .chr c, .chr d => c = d
  | _, _ => False

def Nd.SimL : List Nd → List Nd → Prop
  | [], [] => True
  | x :: xs, y :: ys => x.Sim y ∧ Nd.SimL xs ys
  | _, _ => False

theorem Nd.Sim.refl : ∀ a : Nd, a.Sim a
  | .tree t => Tree.Sim.refl t
  | .kv _ v => ⟨rfl, Tree.Sim.refl v⟩
  | .chr _ => rfl

def Nd.asTree : Nd → Option Tree | .tree t => some t | _ => none
def Nd.asKv : Nd → Option (Str × Tree) | .kv k v => some (k, v) | _ => none
def Nd.asChr : Nd → Option Nat | .chr c => some c | _ => none

def allSome {α β : Type} (f : α → Option β) : List α → Option (List β)
  | [] => some []
  | x :: xs => match f x, allSome f xs with
    | some y, some ys => some (y :: ys)
    | _, _ => none

/-- the node a compound edit of kind `k` stands for, given the children that survive the projection:
    the container type is read off the edit's kind, never off a document -/
def assemble : Kind → List Nd → Option Nd
  | .ed, cs => (allSome Nd.asTree cs).map fun l => .tree (.list l)
  | .fixed, cs => (allSome Nd.asTree cs).map fun l => .tree (.list l)
  | .ms, cs => (allSome Nd.asKv cs).map fun l => .tree (.dict l)
  | .fk, cs => (allSome Nd.asKv cs).map fun l => .tree (.fdict l)
  | .str, cs => (allSome Nd.asChr cs).map fun l => .tree (.leaf (.str l))
  | .kvp, [.tree (.leaf (.str k)), .tree v] => some (.kv k v)
  | _, _ => none

mutual
/-- discard everything marked inserted: what the script `s` (an edit of node `a` into node `b`) leaves of the FIRST
    document.  An edit without sub-edits stands for its from-node as a whole. -/
def projectFrom : Nd → Nd → Script → Option Nd
  | a, b, .mk k _ _ _ subs =>
      if k.hasSubs then (projectFromL a b subs).bind (assemble k) else some a
/-- the surviving from-children of the sub-edits of an edit of `a` into `b`, in script order -/
def projectFromL : Nd → Nd → List Script → Option (List Nd)
  | _, _, [] => some []
  | a, b, s :: rest =>
      if s.kind = .insert then projectFromL a b rest          -- marked inserted: discarded
      else
        match s.fi with
        | .at i =>
          match a.children[i]? with
          | some x =>
            let px : Option Nd :=
              if s.kind.hasSubs then
                match toIxOf (resolveSame a b) s with
                | .at j => match b.children[j]? with
                  | some y => projectFrom x y s
                  | none => none
                | _ => none
              else some x
            match px, projectFromL a b rest with
            | some x', some xs => some (x' :: xs)
            | _, _ => none
          | none => none
        | _ => none
end

mutual
/-- discard everything marked removed: what the script leaves of the SECOND document.  An edit without sub-edits
    stands for its to-node as a whole. -/
def projectTo : Nd → Nd → Script → Option Nd
  | a, b, .mk k _ _ _ subs =>
      if k.hasSubs then (projectToL a b subs).bind (assemble k) else some b
/-- the surviving to-children of the sub-edits of an edit of `a` into `b`, in script order -/
def projectToL : Nd → Nd → List Script → Option (List Nd)
  | _, _, [] => some []
  | a, b, s :: rest =>
      if s.kind = .remove then projectToL a b rest            -- marked removed: discarded
      else
        match toIxOf (resolveSame a b) s with
        | .at j =>
          match b.children[j]? with
          | some y =>
            let py : Option Nd :=
              if s.kind.hasSubs then
                match s.fi with
                | .at i => match a.children[i]? with
                  | some x => projectTo x y s
                  | none => none
                | _ => none
              else some y
            match py, projectToL a b rest with
            | some y', some ys => some (y' :: ys)
            | _, _ => none
          | none => none
        | _ => none
end

theorem fromIdx_cons (s : Script) (rest : List Script) :
    fromIdx (s :: rest) = if s.kind = .insert then fromIdx rest else s.fi :: fromIdx rest := by
  by_cases h : s.kind = .insert <;> simp [fromIdx, h]

theorem toIdx_cons (r : Ix → Ix) (s : Script) (rest : List Script) :
    toIdx r (s :: rest) = if s.kind = .remove then toIdx r rest else toIxOf r s :: toIdx r rest := by
  by_cases h : s.kind = .remove <;> simp [toIdx, h]

theorem pick_cons_some {α : Type} (l : List α) (i : Nat) (x : α) (ixs : List Ix) (h : l[i]? = some x) :
    pick l (.at i :: ixs) = x :: pick l ixs := by
  simp [pick, h]

theorem pick_map {α β : Type} (f : α → β) (l : List α) (ixs : List Ix) :
    pick (l.map f) ixs = (pick l ixs).map f := by
  simp only [pick, List.map_filterMap]
  congr 1; funext ix; cases ix <;> simp

theorem pick_perm {α : Type} (l : List α) {ixs : List Ix} (h : ixs.Perm (ixRange l.length)) : (pick l ixs).Perm l := by
  have := h.filterMap (fun ix => match ix with | .at i => l[i]? | _ => none)
  rw [show List.filterMap _ (ixRange l.length) = pick l (ixRange l.length) from rfl, pick_ixRange] at this
  exact this

theorem mem_ixRange' {i n : Nat} : Ix.at i ∈ ixRange n ↔ i < n := by
  simp [ixRange]

theorem fi_mem_fromIdx {s : Script} {subs : List Script} (hs : s ∈ subs) (hk : s.kind ≠ .insert) :
    s.fi ∈ fromIdx subs := by
  simp only [fromIdx, List.mem_map, List.mem_filter]
  exact ⟨s, ⟨hs, by simpa using hk⟩, rfl⟩

theorem toIx_mem_toIdx (r : Ix → Ix) {s : Script} {subs : List Script} (hs : s ∈ subs) (hk : s.kind ≠ .remove) :
    toIxOf r s ∈ toIdx r subs := by
  simp only [toIdx, List.mem_map, List.mem_filter]
  exact ⟨s, ⟨hs, by simpa using hk⟩, rfl⟩

theorem mem_ixRange_of {ix : Ix} {n : Nat} (h : ix ∈ ixRange n) : ∃ i, ix = .at i ∧ i < n := by
  simp only [ixRange, List.mem_map, List.mem_range] at h
  obtain ⟨i, hi, rfl⟩ := h
  exact ⟨i, rfl, hi⟩

theorem simL_trees : ∀ (cs : List Nd) (as : List Tree), Nd.SimL cs (as.map .tree) →
    ∃ ts, allSome Nd.asTree cs = some ts ∧ SimL ts as
  | [], [], _ => ⟨[], rfl, by simp [SimL]⟩
  | [], _ :: _, h => by simp [Nd.SimL] at h
  | _ :: _, [], h => by simp [Nd.SimL] at h
  | c :: cs, a :: as, h => by
    simp only [List.map_cons, Nd.SimL] at h
    obtain ⟨ts, h1, h2⟩ := simL_trees cs as h.2
    cases c with
    | tree t =>
      refine ⟨t :: ts, by simp [allSome, Nd.asTree, h1], ?_⟩
      simp only [SimL]; exact ⟨a, as, rfl, h.1, h2⟩
    | kv k v => exact absurd h.1 (by simp [Nd.Sim])
    | chr c => exact absurd h.1 (by simp [Nd.Sim])

theorem simL_kvs : ∀ (cs : List Nd) (as : List (Str × Tree)), Nd.SimL cs (as.map fun kv => .kv kv.1 kv.2) →
    ∃ ts, allSome Nd.asKv cs = some ts ∧ SimKV ts as
  | [], [], _ => ⟨[], rfl, by simp [SimKV]⟩
  | [], _ :: _, h => by simp [Nd.SimL] at h
  | _ :: _, [], h => by simp [Nd.SimL] at h
  | c :: cs, (k, v) :: as, h => by
    simp only [List.map_cons, Nd.SimL] at h
    obtain ⟨ts, h1, h2⟩ := simL_kvs cs as h.2
    cases c with
    | kv k' w =>
      obtain ⟨rfl, hw⟩ := h.1
      refine ⟨(k', w) :: ts, by simp [allSome, Nd.asKv, h1], ?_⟩
      simp only [SimKV]; exact ⟨v, as, rfl, hw, h2⟩
    | tree t => exact absurd h.1 (by simp [Nd.Sim])
    | chr c => exact absurd h.1 (by simp [Nd.Sim])

theorem simL_chrs : ∀ (cs : List Nd) (as : List Nat), Nd.SimL cs (as.map .chr) → allSome Nd.asChr cs = some as
  | [], [], _ => rfl
  | [], _ :: _, h => by simp [Nd.SimL] at h
  | _ :: _, [], h => by simp [Nd.SimL] at h
  | c :: cs, a :: as, h => by
    simp only [List.map_cons, Nd.SimL] at h
    have h1 := simL_chrs cs as h.2
    cases c with
    | chr c => obtain rfl : c = a := h.1; simp [allSome, Nd.asChr, h1]
    | tree t => exact absurd h.1 (by simp [Nd.Sim])
    | kv k v => exact absurd h.1 (by simp [Nd.Sim])

theorem Tree.Sim.of_leaf {t : Tree} {a : Scalar} (h : t.Sim (.leaf a)) : t = .leaf a := by
  cases t with
  | leaf b => simp only [Tree.Sim] at h; exact h.symm
  | list as => simp [Tree.Sim] at h
  | dict as => simp [Tree.Sim] at h
  | fdict as => simp [Tree.Sim] at h

theorem kindFits_inv {k : Kind} {a b : Nd} (h : kindFits k a b) :
    (k = .kvp ∧ ∃ k1 v1 k2 v2, a = .kv k1 v1 ∧ b = .kv k2 v2) ∨
    ((k = .fixed ∨ k = .ed) ∧ ∃ as bs, a = .tree (.list as) ∧ b = .tree (.list bs)) ∨
    (k = .ms ∧ ∃ as bs, a = .tree (.dict as) ∧ b = .tree (.dict bs)) ∨
    (k = .fk ∧ ∃ as bs, a = .tree (.fdict as) ∧ b = .tree (.fdict bs)) ∨
    (k = .str ∧ ∃ s s', a = .tree (.leaf (.str s)) ∧ b = .tree (.leaf (.str s'))) := by
  unfold kindFits at h
  split at h
  · exact .inl ⟨rfl, _, _, _, _, rfl, rfl⟩
  · exact .inr (.inl ⟨.inl rfl, _, _, rfl, rfl⟩)
  · exact .inr (.inl ⟨.inr rfl, _, _, rfl, rfl⟩)
  · exact .inr (.inr (.inl ⟨rfl, _, _, rfl, rfl⟩))
  · exact .inr (.inr (.inr (.inl ⟨rfl, _, _, rfl, rfl⟩)))
  · exact .inr (.inr (.inr (.inr ⟨rfl, _, _, rfl, rfl⟩)))
  · exact h.elim

theorem kindFits_swap {k : Kind} {a b : Nd} (h : kindFits k a b) : kindFits k b a := by
  rcases kindFits_inv h with ⟨rfl, k1, v1, k2, v2, rfl, rfl⟩ | ⟨hk', as, bs, rfl, rfl⟩ | ⟨rfl, as, bs, rfl, rfl⟩ |
    ⟨rfl, as, bs, rfl, rfl⟩ | ⟨rfl, s, s', rfl, rfl⟩
  · trivial
  · rcases hk' with rfl | rfl <;> trivial
  · trivial
  · trivial
  · trivial

/-- assembling survivors that are related to the children a compound edit accounts for (all of them, in order / up to a
    permutation for mappings) gives a node related to the node the edit is about -/
theorem assemble_sim (k : Kind) (a b : Nd) (cs : List Nd) (ixs : List Ix) (hk : kindFits k a b)
    (hc : Nd.SimL cs (pick a.children ixs))
    (hix : if k.ordered then ixs = ixRange a.children.length else ixs.Perm (ixRange a.children.length)) :
    ∃ a', assemble k cs = some a' ∧ a'.Sim a := by
  rcases kindFits_inv hk with ⟨rfl, k1, v1, k2, v2, rfl, rfl⟩ | ⟨hk', as, bs, rfl, rfl⟩ | ⟨rfl, as, bs, rfl, rfl⟩ |
    ⟨rfl, as, bs, rfl, rfl⟩ | ⟨rfl, s, s', rfl, rfl⟩
  · simp only [Kind.ordered, if_true] at hix
    subst hix
    rw [pick_ixRange] at hc
    simp only [Nd.children] at hc
    match cs, hc with
    | [x, y], hc =>
      simp only [Nd.SimL] at hc
      obtain ⟨hx, hy, -⟩ := hc
      cases x with
      | tree tx =>
        cases y with
        | tree ty =>
          have := Tree.Sim.of_leaf hx
          subst this
          exact ⟨_, rfl, rfl, hy⟩
        | kv _ _ => exact absurd hy (by simp [Nd.Sim])
        | chr _ => exact absurd hy (by simp [Nd.Sim])
      | kv _ _ => exact absurd hx (by simp [Nd.Sim])
      | chr _ => exact absurd hx (by simp [Nd.Sim])
  · have ho : k.ordered = true := by rcases hk' with rfl | rfl <;> rfl
    simp only [ho, if_true] at hix
    subst hix
    rw [pick_ixRange] at hc
    simp only [Nd.children] at hc
    obtain ⟨ts, h1, h2⟩ := simL_trees cs as hc
    refine ⟨.tree (.list ts), ?_, ?_⟩
    · rcases hk' with rfl | rfl <;> simp [assemble, h1]
    · simp only [Nd.Sim, Tree.Sim]; exact ⟨as, rfl, h2⟩
  · simp only [Kind.ordered, Bool.false_eq_true, if_false, Nd.children_dict] at hix
    simp only [Nd.children, pick_map] at hc
    obtain ⟨ts, h1, h2⟩ := simL_kvs cs _ hc
    refine ⟨.tree (.dict ts), by simp [assemble, h1], ?_⟩
    simp only [Nd.Sim, Tree.Sim]
    exact ⟨_, as, rfl, h2, pick_perm as hix⟩
  · simp only [Kind.ordered, Bool.false_eq_true, if_false, Nd.children_fdict] at hix
    simp only [Nd.children, pick_map] at hc
    obtain ⟨ts, h1, h2⟩ := simL_kvs cs _ hc
    refine ⟨.tree (.fdict ts), by simp [assemble, h1], ?_⟩
    simp only [Nd.Sim, Tree.Sim]
    exact ⟨_, as, rfl, h2, pick_perm as hix⟩
  · simp only [Kind.ordered, if_true] at hix
    subst hix
    rw [pick_ixRange] at hc
    simp only [Nd.children] at hc
    have h1 := simL_chrs cs s hc
    exact ⟨.tree (.leaf (.str s)), by simp [assemble, h1], by simp [Nd.Sim, Tree.Sim]⟩

def FromIn (a : Nd) (subs : List Script) : Prop :=
  ∀ s ∈ subs, s.kind ≠ .insert → ∃ i, s.fi = .at i ∧ i < a.children.length

def ToIn (a b : Nd) (subs : List Script) : Prop :=
  ∀ s ∈ subs, s.kind ≠ .remove → ∃ j, toIxOf (resolveSame a b) s = .at j ∧ j < b.children.length

theorem localAcc_fromIn {a b : Nd} {k : Kind} {subs : List Script} (h : LocalAcc a b k subs) (hk : k.hasSubs = true) :
    FromIn a subs :=
  fun _ hs hne => mem_ixRange_of ((perm_of_ite (h hk).2).1.mem_iff.1 (fi_mem_fromIdx hs hne))

theorem localAcc_toIn {a b : Nd} {k : Kind} {subs : List Script} (h : LocalAcc a b k subs) (hk : k.hasSubs = true) :
    ToIn a b subs :=
  fun _ hs hne => mem_ixRange_of ((perm_of_ite (h hk).2).2.mem_iff.1 (toIx_mem_toIdx _ hs hne))

mutual
theorem projectFrom_ok : ∀ (a b : Nd) (s : Script), Walk LocalAcc a b s → ∃ a', projectFrom a b s = some a' ∧ a'.Sim a
  | a, b, .mk k fi ti c subs, h => by
    simp only [Walk] at h
    obtain ⟨hl, hw⟩ := h
    simp only [projectFrom]
    by_cases hk : k.hasSubs = true
    · simp only [hk, if_true]
      obtain ⟨cs, h1, h2⟩ := projectFromL_ok a b subs hw (localAcc_fromIn hl hk)
      obtain ⟨hfit, hix⟩ := hl hk
      obtain ⟨a', h3, h4⟩ := assemble_sim k a b cs (fromIdx subs) hfit h2
        (by split at hix <;> simp only [*, if_true, if_false, Bool.false_eq_true] <;> exact hix.1)
      exact ⟨a', by simp [h1, h3], h4⟩
    · simp only [hk]; exact ⟨a, rfl, Nd.Sim.refl a⟩
theorem projectFromL_ok : ∀ (a b : Nd) (subs : List Script), WalkL LocalAcc a b subs → FromIn a subs →
    ∃ cs, projectFromL a b subs = some cs ∧ Nd.SimL cs (pick a.children (fromIdx subs))
  | a, b, [], _, _ => ⟨[], rfl, by simp [fromIdx, pick, Nd.SimL]⟩
  | a, b, s :: rest, h, hin => by
    simp only [WalkL] at h
    obtain ⟨hs, hrest⟩ := h
    obtain ⟨cs, h1, h2⟩ := projectFromL_ok a b rest hrest (fun s' hs' => hin s' (by simp [hs']))
    rw [fromIdx_cons]
    by_cases hk : s.kind = .insert
    · simp only [projectFromL, hk, if_true]; exact ⟨cs, h1, h2⟩
    · obtain ⟨i, hi, hlt⟩ := hin s (by simp) hk
      have hx : a.children[i]? = some a.children[i] := by simp [hlt]
      simp only [projectFromL, hk, if_false, hi, hx]
      rw [pick_cons_some _ _ _ _ hx]
      by_cases hsub : s.kind.hasSubs = true
      · obtain ⟨i', j, x, y, e1, e2, e3, e4, hwalk⟩ := hs hsub
        have hii : i' = i := by rw [hi] at e1; injection e1 with e; exact e.symm
        subst hii
        rw [hx] at e3
        injection e3 with e3
        subst e3
        obtain ⟨x', p1, p2⟩ := projectFrom_ok _ y s hwalk
        simp only [hsub, if_true, e2, e4, p1, h1]
        exact ⟨x' :: cs, rfl, by simp only [Nd.SimL]; exact ⟨p2, h2⟩⟩
      · simp only [hsub, h1]
        exact ⟨a.children[i] :: cs, rfl, by simp only [Nd.SimL]; exact ⟨Nd.Sim.refl _, h2⟩⟩
end

-- mirror of `projectFrom_ok`; the one asymmetry is `kindFits_swap`
mutual
theorem projectTo_ok : ∀ (a b : Nd) (s : Script), Walk LocalAcc a b s → ∃ b', projectTo a b s = some b' ∧ b'.Sim b
  | a, b, .mk k fi ti c subs, h => by
    simp only [Walk] at h
    obtain ⟨hl, hw⟩ := h
    simp only [projectTo]
    by_cases hk : k.hasSubs = true
    · simp only [hk, if_true]
      obtain ⟨cs, h1, h2⟩ := projectToL_ok a b subs hw (localAcc_toIn hl hk)
      obtain ⟨hfit, hix⟩ := hl hk
      obtain ⟨b', h3, h4⟩ := assemble_sim k b a cs (toIdx (resolveSame a b) subs) (kindFits_swap hfit) h2
        (by split at hix <;> simp only [*, if_true, if_false, Bool.false_eq_true] <;> exact hix.2)
      exact ⟨b', by simp [h1, h3], h4⟩
    · simp only [hk]; exact ⟨b, rfl, Nd.Sim.refl b⟩
theorem projectToL_ok : ∀ (a b : Nd) (subs : List Script), WalkL LocalAcc a b subs → ToIn a b subs →
    ∃ cs, projectToL a b subs = some cs ∧ Nd.SimL cs (pick b.children (toIdx (resolveSame a b) subs))
  | a, b, [], _, _ => ⟨[], rfl, by simp [toIdx, pick, Nd.SimL]⟩
  | a, b, s :: rest, h, hin => by
    simp only [WalkL] at h
    obtain ⟨hs, hrest⟩ := h
    obtain ⟨cs, h1, h2⟩ := projectToL_ok a b rest hrest (fun s' hs' => hin s' (by simp [hs']))
    rw [toIdx_cons]
    by_cases hk : s.kind = .remove
    · simp only [projectToL, hk, if_true]; exact ⟨cs, h1, h2⟩
    · obtain ⟨j, hj, hlt⟩ := hin s (by simp) hk
      have hy : b.children[j]? = some b.children[j] := by simp [hlt]
      simp only [projectToL, hk, if_false, hj, hy]
      rw [pick_cons_some _ _ _ _ hy]
      by_cases hsub : s.kind.hasSubs = true
      · obtain ⟨i, j', x, y, e1, e2, e3, e4, hwalk⟩ := hs hsub
        have hjj : j' = j := by rw [hj] at e2; injection e2 with e; exact e.symm
        subst hjj
        rw [hy] at e4
        injection e4 with e4
        subst e4
        obtain ⟨y', p1, p2⟩ := projectTo_ok x _ s hwalk
        simp only [hsub, if_true, e1, e3, p1, h1]
        exact ⟨y' :: cs, rfl, by simp only [Nd.SimL]; exact ⟨p2, h2⟩⟩
      · simp only [hsub, h1]
        exact ⟨b.children[j] :: cs, rfl, by simp only [Nd.SimL]; exact ⟨Nd.Sim.refl _, h2⟩⟩
end

end GtModel
