/-
  The table model `lev` (Model/Edits.lean) of `levenshtein_distance(s, t)` computes the edit distance `led`:
  `lev s t = led s.reverse t.reverse`.  Hence `lev s t = 0 ↔ s = t` and `lev s t ≤ max (len s) (len t)`.

  `led` recurses on the FRONT of both lists; the table consumes `s` and `t` from the front and so knows the distances
  of their prefixes, which differ at the END.  Cell (i, j) of the table is therefore `led` of the two consumed prefixes
  kept REVERSED: consuming one more character is a `cons`, and every step of the walk through the table holds by
  unfolding definitions.
-/
import GtModel.Model.Edits

namespace GtModel

/-- the distances from `x :: a` to every `b`, given the distances `f` from `a` and `n = a.length`
    (`led` in two structural steps, so that `led_cons` and the walk below hold by `rfl`) -/
def ledStep (x n : Nat) (f : Str → Nat) : Str → Nat
  | [] => n + 1
  | y :: b => Nat.min (Nat.min (f (y :: b) + 1) (ledStep x n f b + 1)) (f b + if x == y then 0 else 1)

/-- edit distance with substitutions: `led [] b = b.length`, `led (x :: a) [] = a.length + 1`, and `led_cons` -/
def led : Str → Str → Nat
  | [] => List.length
  | x :: a => ledStep x a.length (led a)

theorem led_cons (x y : Nat) (a b : Str) : led (x :: a) (y :: b) =
    min (min (led a (y :: b) + 1) (led (x :: a) b + 1)) (led a b + if x == y then 0 else 1) := rfl

/-- the cells of the row of `a` to the right of column `b`, one for each remaining character of `t` -/
def specRow (a : Str) : Str → Str → List Nat
  | _, [] => []
  | b, y :: ys => led a (y :: b) :: specRow a (y :: b) ys

abbrev ledRow (a t : Str) : List Nat := led a [] :: specRow a [] t

theorem levRow_go_eq (x : Nat) (a : Str) : ∀ ys b,
    levRow.go x (led (x :: a) b) (led a b) (specRow a b ys) ys = specRow (x :: a) b ys
  | [], _ => rfl
  | y :: ys, b => congrArg (led (x :: a) (y :: b) :: ·) (levRow_go_eq x a ys (y :: b))

theorem levRow_eq (x : Nat) (a t : Str) : levRow (ledRow a t) x t (a.length + 1) = ledRow (x :: a) t :=
  congrArg (_ :: ·) (levRow_go_eq x a t [])

theorem levRows_eq (t : Str) : ∀ xs a, levRows t (ledRow a t) a.length xs = ledRow (xs.reverseAux a) t
  | [], _ => rfl
  | x :: xs, a => by rw [levRows, levRow_eq]; exact levRows_eq t xs (x :: a)

theorem specRow_nil : ∀ ys b, specRow [] b ys = List.range' (b.length + 1) ys.length
  | [], _ => rfl
  | y :: ys, b => congrArg (_ :: ·) (specRow_nil ys (y :: b))

theorem getLast_specRow (a : Str) : ∀ ys b, (led a b :: specRow a b ys).getLast? = some (led a (ys.reverseAux b))
  | [], _ => rfl
  | y :: ys, b => getLast_specRow a ys (y :: b)

theorem lev_eq_led (s t : Str) : lev s t = led s.reverse t.reverse := by
  rw [lev, List.range_eq_range', List.range'_succ]
  -- `erw`: the model's first row starts with the literal `0`, the row of `[]` with `led [] []`, and `0` is `[].length`
  erw [← specRow_nil t [], levRows_eq t s [], getLast_specRow]; rfl

theorem led_eq_zero_iff (a b : Str) : led a b = 0 ↔ a = b := by
  induction a generalizing b with
  | nil => simp [led, eq_comm]
  | cons x a iha =>
    cases b with
    | nil => simp [led, ledStep]
    | cons y b => simp [led_cons, Nat.min_eq_zero_iff, iha, and_comm]

theorem led_le_max (a b : Str) : led a b ≤ max a.length b.length := by
  induction a generalizing b with
  | nil => exact Nat.le_max_right _ _
  | cons x a iha =>
    cases b with
    | nil => exact Nat.le_max_left _ _
    | cons y b =>
      rw [led_cons, List.length_cons, List.length_cons, Nat.add_max_add_right]
      refine Nat.le_trans (Nat.min_le_right _ _) (Nat.add_le_add (iha b) ?_)
      split <;> decide

theorem lev_eq_zero_iff (s t : Str) : lev s t = 0 ↔ s = t := by
  rw [lev_eq_led, led_eq_zero_iff, List.reverse_inj]

theorem lev_self (s : Str) : lev s s = 0 := (lev_eq_zero_iff s s).2 rfl

theorem lev_zero {s t : Str} (h : lev s t = 0) : s = t := (lev_eq_zero_iff s t).1 h

example : lev [1, 2, 3] [1, 2, 3] = 0 ∧ lev [1, 2, 3] [1, 3] = 1 := by decide

theorem lev_le_max (s t : Str) : lev s t ≤ max s.length t.length := by
  rw [lev_eq_led, ← s.length_reverse, ← t.length_reverse]; exact led_le_max _ _

end GtModel
