/-
  Per-character scripts (`CharOp`): what `fromProj`, `toProj`, `kept`, `removed`, `inserted` do on `[]`, `::`, `++` and
  on an all-kept script; what every script for `a → b` satisfies (`script_facts`); `IsScript`, and the replayed matrix
  script of `string_edit_distance` as one (`editDistanceScript_isScript`).
-/
import GtModel.Proofs.EditMatrixLcs

namespace GtModel.EditMatrix

variable {α : Type}

section
variable [DecidableEq α]
set_option linter.unusedSectionVars false

@[simp] theorem fromProj_nil : fromProj ([] : List (CharOp α)) = [] := rfl
@[simp] theorem toProj_nil : toProj ([] : List (CharOp α)) = [] := rfl
@[simp] theorem kept_nil : kept ([] : List (CharOp α)) = [] := rfl
@[simp] theorem removed_nil : removed ([] : List (CharOp α)) = 0 := rfl
@[simp] theorem inserted_nil : inserted ([] : List (CharOp α)) = 0 := rfl
end

@[simp] theorem fromProj_cons (op : CharOp α) (s : List (CharOp α)) :
    fromProj (op :: s) = op.fromPart ++ fromProj s := by simp [fromProj]
@[simp] theorem toProj_cons (op : CharOp α) (s : List (CharOp α)) :
    toProj (op :: s) = op.toPart ++ toProj s := by simp [toProj]
@[simp] theorem kept_cons (op : CharOp α) (s : List (CharOp α)) :
    kept (op :: s) = op.keptPart ++ kept s := by simp [kept]
@[simp] theorem removed_cons (op : CharOp α) (s : List (CharOp α)) :
    removed (op :: s) = op.nRemoved + removed s := by simp [removed]
@[simp] theorem inserted_cons (op : CharOp α) (s : List (CharOp α)) :
    inserted (op :: s) = op.nInserted + inserted s := by simp [inserted]
@[simp] theorem fromProj_append (s t : List (CharOp α)) : fromProj (s ++ t) = fromProj s ++ fromProj t := by
  simp [fromProj]
@[simp] theorem toProj_append (s t : List (CharOp α)) : toProj (s ++ t) = toProj s ++ toProj t := by
  simp [toProj]
@[simp] theorem kept_append (s t : List (CharOp α)) : kept (s ++ t) = kept s ++ kept t := by
  simp [kept]
@[simp] theorem removed_append (s t : List (CharOp α)) : removed (s ++ t) = removed s + removed t := by
  simp [removed]
@[simp] theorem inserted_append (s t : List (CharOp α)) : inserted (s ++ t) = inserted s + inserted t := by
  simp [inserted]

@[simp] theorem fromProj_map_kept (p : List α) : fromProj (p.map CharOp.kept) = p := by
  induction p <;> simp_all [CharOp.fromPart]
@[simp] theorem toProj_map_kept (p : List α) : toProj (p.map CharOp.kept) = p := by
  induction p <;> simp_all [CharOp.toPart]
@[simp] theorem kept_map_kept (p : List α) : kept (p.map CharOp.kept) = p := by
  induction p <;> simp_all [CharOp.keptPart]
@[simp] theorem removed_map_kept (p : List α) : removed (p.map CharOp.kept) = 0 := by
  induction p <;> simp_all [CharOp.nRemoved]
@[simp] theorem inserted_map_kept (p : List α) : inserted (p.map CharOp.kept) = 0 := by
  induction p <;> simp_all [CharOp.nInserted]

attribute [local simp] CharOp.fromPart CharOp.toPart CharOp.keptPart CharOp.nRemoved CharOp.nInserted

theorem kept_sublist (s : List (CharOp α)) : (kept s).Sublist (fromProj s) ∧ (kept s).Sublist (toProj s) := by
  induction s with
  | nil => simp
  | cons op s ih => cases op <;> simp [ih, ih.1.cons, ih.2.cons]

theorem length_proj (s : List (CharOp α)) :
    (fromProj s).length = (kept s).length + removed s ∧ (toProj s).length = (kept s).length + inserted s := by
  induction s with
  | nil => simp
  | cons op s ih => cases op <;> simp [ih] <;> omega

/-- What every script for `a → b` (dropping inserted characters spells `a`, dropping removed ones spells `b`)
    satisfies: its unchanged characters are a common subsequence, and every character of `a` and of `b` is either
    one of them or marked. -/
theorem script_facts {a b : List α} (s : List (CharOp α)) (hfrom : fromProj s = a) (hto : toProj s = b) :
    IsCommonSubseq (kept s) a b ∧ removed s + inserted s + 2 * (kept s).length = a.length + b.length := by
  subst hfrom hto
  refine ⟨kept_sublist s, ?_⟩
  rw [(length_proj s).1, (length_proj s).2]; omega

def CharOp.NoSubst : CharOp α → Prop
  | .subst _ _ => False
  | _ => True

theorem middle_eq (p m s : List α) : middle (p ++ m ++ s) (p.length, s.length) = m := by
  simp [middle, List.append_assoc]

/-- `s` is a script for `a → b` without substitutions that marks `n` characters. -/
structure IsScript (s : List (CharOp α)) (a b : List α) (n : Nat) : Prop where
  fromProj : fromProj s = a
  toProj : toProj s = b
  marks : removed s + inserted s = n
  noSubst : ∀ op ∈ s, op.NoSubst

namespace IsScript
variable {s t : List (CharOp α)} {a b a' b' : List α} {n m : Nat}

theorem kept (p : List α) : IsScript (p.map CharOp.kept) p p 0 :=
  ⟨by simp, by simp, by simp, fun op hop => by obtain ⟨c, _, rfl⟩ := List.mem_map.1 hop; trivial⟩

theorem removed (x : α) : IsScript [CharOp.removed x] [x] [] 1 :=
  ⟨rfl, rfl, rfl, fun op hop => by rw [List.mem_singleton.1 hop]; trivial⟩

theorem inserted (y : α) : IsScript [CharOp.inserted y] [] [y] 1 :=
  ⟨rfl, rfl, rfl, fun op hop => by rw [List.mem_singleton.1 hop]; trivial⟩

theorem append (h : IsScript s a b n) (h' : IsScript t a' b' m) : IsScript (s ++ t) (a ++ a') (b ++ b') (n + m) :=
  ⟨by simp [h.fromProj, h'.fromProj], by simp [h.toProj, h'.toProj], by simp [← h.marks, ← h'.marks]; omega,
    fun op hop => (List.mem_append.1 hop).elim (h.noSubst op) (h'.noSubst op)⟩

end IsScript

variable [DecidableEq α]

/-- `EditDistance.__init__`: `a = p ++ ma ++ s`, `b = p ++ mb ++ s` where `p`, `s` are the trimmed ends. -/
theorem trim_decomp (a b : List α) :
    ∃ p ma mb s, a = p ++ ma ++ s ∧ b = p ++ mb ++ s ∧ trimLens a b = (p.length, s.length) := by
  obtain ⟨pa, pb, sa, sb, ha, hb, hp, hs⟩ := trim_split a b
  cases (hp.imp fun x _ y _ h => by simpa using h).eq
  cases (hs.imp fun x _ y _ h => by simpa using h).eq
  exact ⟨pa, _, _, sa, by rw [List.append_assoc]; exact ha.eq, by rw [List.append_assoc]; exact hb.eq,
    by rw [ha.pre, ha.suf]⟩

theorem replay_diag (x : α) (a b : List α) (ms : List Move) :
    replay (x :: a) (x :: b) (.diag :: ms) = .kept x :: replay a b ms := by
  simp [replay]

theorem replay_up (a : List α) (y : α) (b : List α) (ms : List Move) :
    replay a (y :: b) (.up :: ms) = .inserted y :: replay a b ms := by
  cases a <;> rfl

theorem replay_left (x : α) (a b : List α) (ms : List Move) :
    replay (x :: a) b (.left :: ms) = .removed x :: replay a b ms := by
  cases b <;> rfl

/-- Replaying from position (r, c) a script that ends in the lower-right corner and in which every DIAG is admissible
    (strictly cheaper than the insert, i.e. of cost 0, i.e. between equal characters) marks as many characters as the
    moves cost. -/
theorem replay_isScript (A B : List α) (ms : List Move) : ∀ (r c : Nat),
    ForallMoves (DiagLt (ones A) (ones B) (charCells A B)) r c ms → endPos r c ms = (B.length, A.length) →
    IsScript (replay (A.drop c) (B.drop r) ms) (A.drop c) (B.drop r)
      (moveCostsFrom (ones A) (ones B) (charCells A B) r c ms).sum := by
  induction ms with
  | nil =>
    intro r c _ h
    obtain ⟨rfl, rfl⟩ := Prod.mk.inj h
    simpa [replay, moveCostsFrom] using IsScript.kept ([] : List α)
  | cons mv ms ih =>
    intro r c ⟨hP, hF⟩ hE
    have hE' := hE
    rw [endPos, endPos_counts, Prod.mk.injEq] at hE'
    rw [moveCostsFrom, List.sum_cons, moveCost.eq_def]
    cases mv with
    | diag =>
      have hr : r < B.length := by simp only [Move.next] at hE'; omega
      have hc : c < A.length := by simp only [Move.next] at hE'; omega
      have hlt := (hP rfl).1
      rw [cellAt_charCells A B r c hr hc, ones_getD B r hr] at hlt
      have hxy : A[c] = B[r] := Decidable.by_contra fun h => by simp [h] at hlt
      rw [List.drop_eq_getElem_cons hc, List.drop_eq_getElem_cons hr, cellAt_charCells A B r c hr hc, hxy, if_pos rfl,
        replay_diag]
      exact (IsScript.kept [B[r]]).append (ih (r + 1) (c + 1) hF hE)
    | up =>
      have hr : r < B.length := by simp only [Move.next] at hE'; omega
      rw [List.drop_eq_getElem_cons hr, ones_getD B r hr, replay_up]
      exact (IsScript.inserted B[r]).append (ih (r + 1) c hF hE)
    | left =>
      have hc : c < A.length := by simp only [Move.next] at hE'; omega
      rw [List.drop_eq_getElem_cons hc, ones_getD A c hc, replay_left]
      exact (IsScript.removed A[c]).append (ih r (c + 1) hF hE)

/-- the character script of the unit-cost matrix over the WHOLE strings (no trimming): the replay of `solve`'s path -/
def matrixScript (a b : List α) : List (CharOp α) :=
  replay a b (solve (ones a) (ones b) (charCells a b)).2

theorem matrixScript_isScript (a b : List α) : IsScript (matrixScript a b) a b (indel a b) := by
  have h := replay_isScript a b _ 0 0 (solve_diag_lt (ones a) (ones b) (charCells a b))
    (by rw [solve_endPos, ones_length, ones_length])
  rwa [← moveCosts, ← solve_total_eq_sum, solve_unit_cost] at h

theorem editDistanceScript_eq (p ma mb s : List α) :
    trimLens (p ++ ma ++ s) (p ++ mb ++ s) = (p.length, s.length) →
    editDistanceScript (p ++ ma ++ s) (p ++ mb ++ s)
      = p.map CharOp.kept ++ matrixScript ma mb ++ s.map CharOp.kept := by
  intro h
  have e : (p ++ ma ++ s).length - s.length = (p ++ ma).length := by simp; omega
  unfold editDistanceScript
  simp only [h, middle_eq, matrixScript, e, List.drop_left]
  rw [List.append_assoc p, List.take_left]

/-- `string_edit_distance(a, b).edits()` is a script without substitutions that marks all but a longest common
    subsequence, for arbitrary `a`, `b`. -/
theorem editDistanceScript_isScript (a b : List α) :
    ∃ n, IsScript (editDistanceScript a b) a b n ∧ n + 2 * lcs a b = a.length + b.length := by
  obtain ⟨p, ma, mb, s, rfl, rfl, ht⟩ := trim_decomp a b
  rw [editDistanceScript_eq p ma mb s ht]
  refine ⟨_, ((IsScript.kept p).append (matrixScript_isScript ma mb)).append (.kept s), ?_⟩
  have := indel_add_lcs ma mb
  rw [lcs_trim]; simp; omega

end GtModel.EditMatrix
