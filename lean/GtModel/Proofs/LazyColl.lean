/-
  EditCollection (explode_edits = False, i.e. FixedKeyDictNodeEdit): lazily expanded sub-edits, incremental bounds,
  `_cost` memo.  Generic in the ghost `g` of the sub-edits, like the lemmas for `fixed` in LazyBase.
-/
import GtModel.Proofs.LazyBase

namespace GtModel.Lazy

variable {rec : Ops} {g : Ghost}

theorem HiLe.dec : ∀ {l : List M} {is : List Nat}, HiLe g l is → decOf g l is + sumHi g l = is.sum
  | [], [], _ => rfl
  | m :: ms, i :: is, h => by
      have := HiLe.dec h.2
      have := h.1
      simp only [decOf, sumHi, List.headD_cons, List.tail_cons, List.sum_cons]; omega
  | [], _ :: _, h => h.elim
  | _ :: _, [], h => h.elim

theorem HiLe.keeps {a b : List M} {is : List Nat} (h : HiLe g a is) (k : KeepsL g a b) : HiLe g b is :=
  HiLe.iff.2 ((KeepsL.pw.1 k).flip.trans (HiLe.iff.1 h) fun k h => Nat.le_trans k.sub.2 h)

theorem HiLe.appendL {a : List M} {is : List Nat} {b : List M} {js : List Nat} (h : HiLe g a is) (hb : HiLe g b js) :
    HiLe g (a ++ b) (is ++ js) :=
  HiLe.iff.2 ((HiLe.iff.1 h).append (HiLe.iff.1 hb))

theorem partialGo_keeps (h : Protocol rec g) : ∀ (ms : List M) (is : List Nat), (∀ m ∈ ms, g.I m) →
    ∃ ms', collPartialGo rec ms is = .ok (ms', sumLo g ms, decOf g ms is) ∧ KeepsL g ms ms' ∧
      sumLo g ms' = sumLo g ms ∧ sumHi g ms' = sumHi g ms ∧ (∀ m ∈ ms', g.Q m)
  | [], _, _ => ⟨[], rfl, trivial, rfl, rfl, by simp⟩
  | m :: ms, is, hI => by
    obtain ⟨m1, e1, p1, _⟩ := h.bounds m (hI m (by simp))
    obtain ⟨m2, e2, p2, q2⟩ := h.bounds m1 p1.inv
    obtain ⟨ms', ems, k, elo, ehi, qs⟩ := partialGo_keeps h ms is.tail (fun x hx => hI x (by simp [hx]))
    have pv := (p1.trans p2).view
    refine ⟨m2 :: ms', ?_, ⟨(p1.trans p2).keeps, k⟩, ?_, ?_, ?_⟩
    · exact bind_of_eq e1 (bind_of_eq e2 (bind_of_eq ems (by rw [p1.view]; rfl)))
    · simp only [sumLo, pv, elo]
    · simp only [sumHi, pv, ehi]
    · intro x hx
      rcases List.mem_cons.mp hx with rfl | hx
      · exact q2
      · exact qs x hx

/-- the interval the collection exposes -/
def collView (g : Ghost) (s : CollSt) (q : List M) : Iv :=
  match s.cost with
  | some c => c
  | none =>
    if s.iterDone then ⟨sumLo g q, Nat.min s.ub0 (sumHi g q)⟩
    else ⟨sumLo g q, Nat.min s.ub0 (s.ub0 - decOf g q s.inits)⟩

structure CollInv (g : Ghost) (s : CollSt) (p q : List M) : Prop where
  iq : ∀ m ∈ q, g.I m
  ip : ∀ m ∈ p, g.I m
  hq : HiLe g q s.inits
  hp : HiLe g p s.pinits
  ub : s.inits.sum + s.pinits.sum ≤ s.ub0
  done : s.iterDone = true → p = [] ∧ q ≠ []
  memo : ∀ c, s.cost = some c → s.iterDone = true ∧ c = ⟨sumLo g q, Nat.min s.ub0 (sumHi g q)⟩ ∧ c.lo = c.hi
  ne : p ≠ [] ∨ q ≠ []

/-- the arithmetic facts behind "never invalidated" and "the Range constructor never fails" -/
theorem CollInv.arith (h : Protocol rec g) {s : CollSt} {p q : List M} (inv : CollInv g s p q) :
    sumLo g q ≤ sumFin g q ∧ sumFin g q ≤ sumHi g q ∧ sumHi g q ≤ s.inits.sum ∧
    sumFin g p ≤ s.pinits.sum ∧ decOf g q s.inits + sumHi g q = s.inits.sum := by
  have w1 := sum_wf h q inv.iq
  have w2 := sum_wf h p inv.ip
  have d1 := HiLe.dec inv.hq
  have d2 := HiLe.dec inv.hp
  omega

/-- under the invariant the exposed interval has a closed form: a memoised cost is the value of the formula for
    "all expanded", and the `min` with the upper bound never bites -/
theorem CollInv.view {s : CollSt} {p q : List M} (inv : CollInv g s p q) :
    collView g s q = ⟨sumLo g q, if s.iterDone then sumHi g q else s.ub0 - (s.inits.sum - sumHi g q)⟩ := by
  have d := HiLe.dec inv.hq
  have hub := inv.ub
  cases hc : s.cost with
  | some c =>
    obtain ⟨m1, m2, _⟩ := inv.memo c hc
    simp only [collView, hc, m1, if_true, m2, nmin, Iv.mk.injEq, true_and]; omega
  | none =>
    by_cases hd : s.iterDone = true
    · simp only [collView, hc, hd, if_true, nmin, Iv.mk.injEq, true_and]; omega
    · simp only [collView, hc, hd, nmin, Bool.false_eq_true, if_false, Iv.mk.injEq, true_and]; omega


/-- the structural part of the collection's measure: steps still possible in the sub-edits, edits still to expand -/
def collMu0 (g : Ghost) (s : CollSt) (p q : List M) : Nat :=
  sumMu g q + sumMu g p + p.length + (if s.iterDone then 0 else 1)

structure CollKeeps (g : Ghost) (s : CollSt) (p q : List M) (s' : CollSt) (p' q' : List M) : Prop where
  inv : CollInv g s' p' q'
  ub0 : s'.ub0 = s.ub0
  fin : sumFin g q' + sumFin g p' = sumFin g q + sumFin g p
  sub : (collView g s q).lo ≤ (collView g s' q').lo ∧ (collView g s' q').hi ≤ (collView g s q).hi
  mu : collMu0 g s' p' q' ≤ collMu0 g s p q
  scr : (q' ++ p').map g.script = (q ++ p).map g.script

theorem CollKeeps.refl {s : CollSt} {p q : List M} (inv : CollInv g s p q) : CollKeeps g s p q s p q :=
  ⟨inv, rfl, rfl, iv_sub_refl _, Nat.le_refl _, rfl⟩

theorem CollKeeps.trans {s1 s2 s3 : CollSt} {p1 p2 p3 q1 q2 q3 : List M}
    (h1 : CollKeeps g s1 p1 q1 s2 p2 q2) (h2 : CollKeeps g s2 p2 q2 s3 p3 q3) : CollKeeps g s1 p1 q1 s3 p3 q3 :=
  ⟨h2.inv, h2.ub0.trans h1.ub0, h2.fin.trans h1.fin,
    iv_sub_trans h1.sub h2.sub, Nat.le_trans h2.mu h1.mu, h2.scr.trans h1.scr⟩

theorem CollInv.children {s : CollSt} {p q q' : List M} (inv : CollInv g s p q) (k : KeepsL g q q')
    (cost' : Option Iv)
    (hm : ∀ c, cost' = some c → s.iterDone = true ∧ c = ⟨sumLo g q', Nat.min s.ub0 (sumHi g q')⟩ ∧ c.lo = c.hi) :
    CollKeeps g s p q { s with cost := cost' } p q' := by
  obtain ⟨klo, khi, kf, km, ks⟩ := k.sums
  have hq' := HiLe.keeps inv.hq k
  have d := HiLe.dec inv.hq
  have d' := HiLe.dec hq'
  have hub := inv.ub
  have inv' : CollInv g { s with cost := cost' } p q' :=
    ⟨k.inv, inv.ip, hq', inv.hp, inv.ub, fun hd => ⟨(inv.done hd).1, k.ne_nil (inv.done hd).2⟩, hm,
      inv.ne.imp_right k.ne_nil⟩
  refine ⟨inv', rfl, by rw [kf], ?_, by simp only [collMu0]; omega, by simp only [List.map_append, ks]⟩
  rw [inv.view, inv'.view]
  cases s.iterDone
  · simp only [Bool.false_eq_true, if_false]; omega
  · simp only [if_true]; omega

/-- the memo is kept or cleared: a memoised cost stays right, since the sums of a single-valued collection cannot
    move any more -/
theorem collKeeps_children (h : Protocol rec g) {s : CollSt} {p q q' : List M} (inv : CollInv g s p q)
    (k : KeepsL g q q') (clear : Bool) :
    CollKeeps g s p q (if clear then { s with cost := none } else s) p q' := by
  cases clear with
  | true => exact inv.children k none (fun c hc => by cases hc)
  | false =>
    refine inv.children k s.cost fun c hc => ?_
    obtain ⟨klo, khi, _⟩ := k.sums
    have w' := sum_wf h q' k.inv
    have d := HiLe.dec inv.hq
    have hub := inv.ub
    obtain ⟨m1, m2, m3⟩ := inv.memo c hc
    rw [m2] at m3
    simp only [nmin] at m3
    have hsame : sumLo g q' = sumLo g q ∧ sumHi g q' = sumHi g q := by omega
    exact ⟨m1, by rw [m2, hsame.1, hsame.2], by rw [m2]; simp only [nmin]; omega⟩

/-- `bounds()` of the collection: never invalid, never a bad Range, returns `collView` -/
theorem collBounds_keeps (h : Protocol rec g) (l : Lbl) (s : CollSt) (p q : List M) (inv : CollInv g s p q) :
    ∃ s' q', collBounds rec l s p q = .ok (.coll l s' p q', collView g s q) ∧ CollKeeps g s p q s' p q' ∧
      collView g s' q' = collView g s q ∧ (s.cost = none → ∀ m ∈ q', g.Q m) ∧ s'.iterDone = s.iterDone ∧
      q'.length = q.length := by
  obtain ⟨a1, a2, a3, a4, a5⟩ := inv.arith h
  have hub := inv.ub
  cases hc : s.cost with
  | some c =>
    exact ⟨s, q, by simp [collBounds, hc, collView, pure, Except.pure], CollKeeps.refl inv, rfl,
      (fun hn => nomatch hn), rfl, rfl⟩
  | none =>
    by_cases hd : s.iterDone = true
    · -- all sub-edits are expanded
      obtain ⟨hp0, hq0⟩ := inv.done hd
      obtain ⟨q', e, k, elo, ehi, qs⟩ := boundsGo_keeps h q inv.iq
      have hne : q.isEmpty = false := by cases q with | nil => exact absurd rfl hq0 | cons _ _ => rfl
      have c1 : ¬ (sumLo g q > s.ub0) := by omega
      have c2 : ¬ (Nat.min s.ub0 (sumHi g q) < sumLo g q) := by
        have : sumLo g q ≤ Nat.min s.ub0 (sumHi g q) := Nat.le_min.mpr ⟨by omega, by omega⟩
        omega
      by_cases hdef : sumLo g q = Nat.min s.ub0 (sumHi g q)
      · -- a single value: memoised
        refine ⟨_, q', ?_, inv.children k (some ⟨sumLo g q, Nat.min s.ub0 (sumHi g q)⟩) fun c hcc => ?_, ?_,
          fun _ => qs, rfl, k.length⟩
        · simp [collBounds, hc, hd, hne, e, bind, Except.bind, pure, Except.pure, collView, Iv.definitive, hdef, Nat.min_le_left]
        · cases hcc; exact ⟨hd, by rw [elo, ehi], hdef⟩
        · simp [collView, hc, hd]
      · refine ⟨s, q', ?_, inv.children k s.cost (fun c hcc => by rw [hc] at hcc; cases hcc), ?_, fun _ => qs, rfl, k.length⟩
        · simp [collBounds, hc, hd, hne, e, bind, Except.bind, pure, Except.pure, c1, c2, collView, Iv.definitive, hdef]
        · simp [collView, hc, hd, elo, ehi]
    · -- some sub-edits are still pending: incremental bounds
      obtain ⟨q', e, k, elo, ehi, qs⟩ := partialGo_keeps h q s.inits inv.iq
      have d' := HiLe.dec (HiLe.keeps inv.hq k)
      have c0 : ¬ (decOf g q s.inits > s.ub0) := by omega
      have c1 : ¬ (sumLo g q > s.ub0) := by omega
      have c3 : sumLo g q ≤ s.ub0 - decOf g q s.inits := by omega
      refine ⟨s, q', ?_, inv.children k s.cost (fun c hcc => by rw [hc] at hcc; cases hcc), ?_, fun _ => qs, rfl, k.length⟩
      · simp [collBounds, hc, hd, e, bind, Except.bind, pure, Except.pure, c0, c1, c3, collView]
      · have : decOf g q' s.inits = decOf g q s.inits := by omega
        simp [collView, hc, hd, elo, this]

theorem HiLe.nil_left : ∀ {is : List Nat}, HiLe g [] is → is = []
  | [], _ => rfl
  | _ :: _, h => h.elim

theorem HiLe.cons_left : ∀ {x : M} {xs : List M} {is : List Nat}, HiLe g (x :: xs) is →
    ∃ i is', is = i :: is' ∧ (g.view x).hi ≤ i ∧ HiLe g xs is'
  | _, _, i :: is', h => ⟨i, is', rfl, h.1, h.2⟩
  | _, _, [], h => h.elim

theorem collExpand_ok (h : Protocol rec g) (s : CollSt) (p q : List M) (inv : CollInv g s p q) :
    CollKeeps g s p q (collExpand s p q).1 (collExpand s p q).2.1 (collExpand s p q).2.2.1 ∧
    (s.iterDone = true → collExpand s p q = (s, p, q, false)) ∧
    (s.iterDone = false → collMu0 g (collExpand s p q).1 (collExpand s p q).2.1 (collExpand s p q).2.2.1
        < collMu0 g s p q) := by
  have hub := inv.ub
  have d := HiLe.dec inv.hq
  cases hdf : s.iterDone with
  | true =>
    rw [show collExpand s p q = (s, p, q, false) by simp [collExpand, hdf]]
    exact ⟨CollKeeps.refl inv, fun _ => rfl, fun hf => nomatch hf⟩
  | false =>
    have hcn : ∀ c, s.cost = some c → False := fun c hc => by have := (inv.memo c hc).1; rw [hdf] at this; cases this
    cases p with
    | nil =>
      rw [show collExpand s [] q = ({ s with iterDone := true }, [], q, false) by simp [collExpand, hdf]]
      have inv' : CollInv g { s with iterDone := true } [] q :=
        ⟨inv.iq, inv.ip, inv.hq, inv.hp, inv.ub, fun _ => ⟨rfl, inv.ne.resolve_left fun hh => hh rfl⟩,
          fun c hc => (hcn c hc).elim, inv.ne⟩
      have hmu : collMu0 g { s with iterDone := true } [] q < collMu0 g s [] q := by simp [collMu0, hdf]
      refine ⟨⟨inv', rfl, rfl, ?_, Nat.le_of_lt hmu, rfl⟩, (fun hf => nomatch hf), fun _ => hmu⟩
      rw [HiLe.nil_left inv.hp, List.sum_nil] at hub
      rw [inv.view, inv'.view]
      simp only [hdf, Bool.false_eq_true, if_false, if_true]
      omega
    | cons x rest =>
      obtain ⟨i, is', hpi, hxi, hrest⟩ := HiLe.cons_left inv.hp
      rw [show collExpand s (x :: rest) q =
          ({ s with cost := none, inits := s.inits ++ [i], pinits := is' }, rest, q ++ [x], true) by
        simp [collExpand, hdf, hpi]]
      have hIx := inv.ip x (by simp)
      have wx := h.wf x hIx
      rw [hpi, List.sum_cons] at hub
      have inv' : CollInv g { s with cost := none, inits := s.inits ++ [i], pinits := is' } rest (q ++ [x]) :=
        ⟨fun m hm => (List.mem_append.mp hm).elim (inv.iq m) fun hm => by rw [List.mem_singleton.mp hm]; exact hIx,
          fun m hm => inv.ip m (by simp [hm]), HiLe.appendL inv.hq ⟨hxi, trivial⟩, hrest,
          by simp only [List.sum_append, List.sum_cons, List.sum_nil]; omega,
          (fun hf => by rw [hdf] at hf; cases hf), (fun c hc => nomatch hc), Or.inr (by simp)⟩
      have hmu : collMu0 g { s with cost := none, inits := s.inits ++ [i], pinits := is' } rest (q ++ [x])
          < collMu0 g s (x :: rest) q := by
        simp only [collMu0, hdf, sumMu_append, sumMu, List.length_cons]; simp; omega
      refine ⟨⟨inv', rfl, by simp only [sumFin_append, sumFin]; omega, ?_, Nat.le_of_lt hmu,
        by simp only [List.append_assoc, List.singleton_append]⟩, (fun hf => nomatch hf), fun _ => hmu⟩
      rw [inv.view, inv'.view]
      simp only [hdf, Bool.false_eq_true, if_false, sumLo_append, sumHi_append, sumLo, sumHi, List.sum_append,
        List.sum_cons, List.sum_nil]
      omega

theorem collIsTightened_ok (h : Protocol rec g) (l : Lbl) (s : CollSt) (p q : List M) (inv : CollInv g s p q)
    (start : Iv) :
    ∃ s' q', collIsTightened rec (.coll l s p q) start = .ok (.coll l s' p q',
        decide ((collView g s q).lo > start.lo) || decide ((collView g s q).hi < start.hi)) ∧
      CollKeeps g s p q s' p q' ∧ collView g s' q' = collView g s q ∧ s'.iterDone = s.iterDone := by
  obtain ⟨s1, q1, e1, k1, v1, _, d1, _⟩ := collBounds_keeps h l s p q inv
  by_cases hlo : (collView g s q).lo > start.lo
  · exact ⟨s1, q1, bind_of_eq rfl (bind_of_eq e1 ((if_pos hlo).trans (by simp [hlo]))), k1, v1, d1⟩
  · obtain ⟨s2, q2, e2, k2, v2, _, d2, _⟩ := collBounds_keeps h l s1 p q1 k1.inv
    refine ⟨s2, q2, ?_, k1.trans k2, v2.trans v1, d2.trans d1⟩
    exact bind_of_eq rfl (bind_of_eq e1 ((if_neg hlo).trans (bind_of_eq rfl (bind_of_eq e2 (by simp [hlo, v1])))))


def DefPrefix (g : Ghost) (q : List M) (i : Nat) : Prop :=
  ∀ j x, j < i → q[j]? = some x → Single g x

theorem DefPrefix.keeps (h : Protocol rec g) {q q' : List M} {i : Nat} (d : DefPrefix g q i) (k : KeepsL g q q') :
    DefPrefix g q' i := by
  intro j y hj hy
  obtain ⟨x, hx, kx⟩ := KeepsL.get j y k hy
  exact kx.single h (d j x hj hx)

/-- the `for child` loop of `tighten_bounds` from index `i` with `k` children to go.  `t`: some child answered True
    before; `ret`: the loop returned True.  Loop invariant: while `t = false` every child before `i` holds a single
    value (`DefPrefix`: a child that answers False does, and keeps it).  Conjuncts: the frame; `iterDone` is kept;
    `ret` ⇒ the interval is strictly inside `start`; `t` or `ret` ⇒ `t'`; `t'` newly ⇒ `collMu0` has dropped;
    neither `ret` nor `t'` ⇒ every child holds a single value -/
theorem collChildren_ok (h : Protocol rec g) (l : Lbl) (start : Iv) :
    ∀ (k i : Nat) (s : CollSt) (p q : List M) (t : Bool), CollInv g s p q → i + k = q.length →
      (t = false → DefPrefix g q i) →
      ∃ s' q' ret t', collChildren rec l start k i s p q t = .ok (.coll l s' p q', ret, t') ∧
        CollKeeps g s p q s' p q' ∧ s'.iterDone = s.iterDone ∧
        (ret = true → start.lo < (collView g s' q').lo ∨ (collView g s' q').hi < start.hi) ∧
        (t = true → t' = true) ∧ (ret = true → t' = true) ∧
        (t' = true → t = false → collMu0 g s' p q' < collMu0 g s p q) ∧
        (ret = false → t' = false → ∀ x ∈ q', (g.view x).lo = (g.view x).hi)
  | 0, i, s, p, q, t, inv, hik, hdef => by
    refine ⟨s, q, false, t, rfl, CollKeeps.refl inv, rfl, by simp, id, by simp, ?_, ?_⟩
    · intro h1 h2; rw [h1] at h2; cases h2
    · intro _ ht x hx
      obtain ⟨j, hj, hjx⟩ := List.getElem_of_mem hx
      exact hdef ht j x (by omega) (by rw [List.getElem?_eq_getElem hj, hjx])
  | k + 1, i, s, p, q, t, inv, hik, hdef => by
    have hi : i < q.length := by omega
    have hqi : q[i]? = some q[i] := List.getElem?_eq_getElem hi
    obtain ⟨c1, r, e1, st⟩ := h.tighten q[i] (inv.iq _ (List.getElem_mem hi))
    have K1 : KeepsL g q (q.set i c1) := KeepsL.set q i q[i] c1 inv.iq hqi st.keeps
    have hlen1 : (q.set i c1).length = q.length := List.length_set
    cases r with
    | true =>
      have ck1 := collKeeps_children h inv K1 true
      simp only [if_true] at ck1
      obtain ⟨s2, q2, e2, ck2, v2, _, d2, l2⟩ := collBounds_keeps h l { s with cost := none } p (q.set i c1) ck1.inv
      have hmu1 : collMu0 g { s with cost := none } p (q.set i c1) < collMu0 g s p q := by
        have := sumMu_set_lt (g := g) q i q[i] c1 hqi (st.dec rfl)
        show sumMu g (q.set i c1) + sumMu g p + p.length + (if s.iterDone then 0 else 1) < _
        simp only [collMu0]; omega
      by_cases hret : (collView g { s with cost := none } (q.set i c1)).lo > start.lo ∨
          (collView g { s with cost := none } (q.set i c1)).hi < start.hi
      · refine ⟨s2, q2, true, true, ?_, ck1.trans ck2, d2, ?_, fun _ => rfl, fun _ => rfl, ?_, by simp⟩
        · simp only [collChildren, hqi]
          exact bind_of_eq e1 (bind_of_eq e2 (if_pos (by simpa using hret)))
        · intro _; rw [v2]; rcases hret with hh | hh; exact Or.inl hh; exact Or.inr hh
        · intro _ _; have := ck2.mu; omega
      · have hlen2 : q2.length = q.length := by rw [l2, hlen1]
        obtain ⟨s3, q3, ret, t', e3, ck3, d3, r1, r2, r3, r4, r5⟩ :=
          collChildren_ok h l start k (i + 1) s2 p q2 true ck2.inv (by omega) (by intro hf; cases hf)
        have ht' : t' = true := r2 rfl
        refine ⟨s3, q3, ret, t', ?_, (ck1.trans ck2).trans ck3, d3.trans d2, r1, fun _ => ht', r3, ?_, ?_⟩
        · simp only [collChildren, hqi]
          exact bind_of_eq e1 (bind_of_eq e2 ((if_neg (by simpa using hret)).trans (bind_of_eq rfl e3)))
        · intro _ _; have := ck2.mu; have := ck3.mu; omega
        · intro _ hf; rw [ht'] at hf; cases hf
    | false =>
      obtain ⟨c2, e2, p2, _⟩ := h.bounds c1 st.inv
      have hdefc1 := st.stop rfl
      have hset : ((q.set i c1).set i c2) = q.set i c2 := List.set_set ..
      have K2 : KeepsL g q (q.set i c2) :=
        KeepsL.set q i q[i] c2 inv.iq hqi (st.keeps.trans p2.keeps)
      have ck := collKeeps_children h inv K2 false
      simp only [Bool.false_eq_true, if_false] at ck
      have hlen2 : (q.set i c2).length = q.length := List.length_set
      obtain ⟨s3, q3, ret, t', e3, ck3, d3, r1, r2, r3, r4, r5⟩ :=
        collChildren_ok h l start k (i + 1) s p (q.set i c2) t ck.inv (by omega) (by
          intro ht j x hj hx
          by_cases hji : j = i
          · subst hji
            rw [List.getElem?_set_self hi] at hx
            simp only [Option.some.injEq] at hx; subst hx
            exact p2.keeps.single h hdefc1
          · exact DefPrefix.keeps h (hdef ht) K2 j x (by omega) hx)
      refine ⟨s3, q3, ret, t', ?_, ck.trans ck3, d3, r1, r2, r3, ?_, r5⟩
      · have hbd : (g.view c1).definitive = true := by simp [Iv.definitive, hdefc1]
        simp only [collChildren, hqi]
        refine bind_of_eq e1 (bind_of_eq e2 ((if_neg (by simp [hbd])).trans ?_))
        rw [hset]; exact e3
      · intro h1 h2; have := r4 h1 h2; have := ck.mu; omega

theorem collView_def {s : CollSt} {p q : List M} (inv : CollInv g s p q)
    (hd : s.iterDone = true) (hall : ∀ x ∈ q, (g.view x).lo = (g.view x).hi) :
    (collView g s q).lo = (collView g s q).hi := by
  rw [inv.view]
  simp only [hd, if_true]
  exact sum_eq_of_def q hall

/-- the `while True` loop of `EditCollection.tighten_bounds` terminates (fuel > `collMu0`): a round that does not
    return has expanded an edit (`collExpand_ok`, third part) or taken a step in a child (`collChildren_ok`: `t'` ⇒
    `collMu0` drops); a round with neither has `iterDone ∧ ¬ tightened` and leaves through `_is_tightened` with every
    child holding a single value (`collView_def`) -/
theorem collLoop_ok (h : Protocol rec g) (l : Lbl) (start : Iv) :
    ∀ (k : Nat) (s : CollSt) (p q : List M), CollInv g s p q → collMu0 g s p q < k →
      ∃ s' p' q' r, collLoop rec start k (.coll l s p q) = .ok (.coll l s' p' q', r) ∧
        CollKeeps g s p q s' p' q' ∧
        (r = true → start.lo < (collView g s' q').lo ∨ (collView g s' q').hi < start.hi) ∧
        (r = false → (collView g s' q').lo = (collView g s' q').hi)
  | 0, _, _, _, _, hk => absurd hk (Nat.not_lt_zero _)
  | k + 1, s, p, q, inv, hk => by
    obtain ⟨ckE, hEdone, hEmu⟩ := collExpand_ok h s p q inv
    rw [collLoop]
    simp only [ite_bind]
    simp only [asColl, pure_bind]
    rcases hE : collExpand s p q with ⟨s1, p1, q1, produced⟩
    rw [hE] at ckE hEdone hEmu
    dsimp only at ckE hEmu ⊢
    have hmuE := ckE.mu
    -- `if self._expand_edits() and self._is_tightened(starting_bounds): return True`
    have step1 : ∃ s2 q2 ret, (if produced = true then collIsTightened rec (.coll l s1 p1 q1) start
          else pure (M.coll l s1 p1 q1, false)) = .ok (.coll l s2 p1 q2, ret) ∧
        CollKeeps g s1 p1 q1 s2 p1 q2 ∧ s2.iterDone = s1.iterDone ∧
        (ret = true → start.lo < (collView g s2 q2).lo ∨ (collView g s2 q2).hi < start.hi) := by
      cases produced with
      | true =>
        obtain ⟨s2, q2, e2, ck2, v2, d2⟩ := collIsTightened_ok h l s1 p1 q1 ckE.inv start
        refine ⟨s2, q2, _, e2, ck2, d2, ?_⟩
        intro hr
        rw [v2]
        simp only [Bool.or_eq_true, decide_eq_true_eq] at hr
        exact hr
      | false =>
        exact ⟨s1, q1, false, rfl, CollKeeps.refl ckE.inv, rfl, by simp⟩
    obtain ⟨s2, q2, ret, e2, ck2, d2, hret⟩ := step1
    have ckE2 := ckE.trans ck2
    rw [e2]
    dsimp only [ok_bind]
    have hmu2 := ck2.mu
    cases ret with
    | true => exact ⟨s2, p1, q2, true, rfl, ckE2, fun _ => hret rfl, by simp⟩
    | false =>
      obtain ⟨s3, q3, returned, tightened, e3, ck3, d3, r1, _, r3, r4, r5⟩ :=
        collChildren_ok h l start q2.length 0 s2 p1 q2 false ck2.inv (by omega) (by intro _ j x hj; omega)
      cases returned with
      | true => exact ⟨s3, p1, q3, true, bind_of_eq rfl (bind_of_eq e3 rfl), ckE2.trans ck3, fun _ => r1 rfl, by simp⟩
      | false =>
        by_cases hfin : tightened = false ∧ s3.iterDone = true
        · obtain ⟨s4, q4, e4, ck4, v4, d4⟩ := collIsTightened_ok h l s3 p1 q3 ck3.inv start
          refine ⟨s4, p1, q4, _, bind_of_eq rfl (bind_of_eq e3 (bind_of_eq rfl
            ((if_pos (by simp [hfin.1, hfin.2])).trans e4))), (ckE2.trans ck3).trans ck4, ?_, ?_⟩
          · intro hr
            rw [v4]
            simp only [Bool.or_eq_true, decide_eq_true_eq] at hr
            exact hr
          · intro _
            rw [v4]
            exact collView_def ck3.inv hfin.2 (r5 rfl hfin.1)
        · have hmu3 : collMu0 g s3 p1 q3 < k := by
            have m3 := ck3.mu
            by_cases ht : tightened = true
            · have := r4 ht rfl; omega
            · have htf : tightened = false := by cases tightened with | true => exact absurd rfl ht | false => rfl
              have hnd : ¬ s3.iterDone = true := fun hd => hfin ⟨htf, hd⟩
              -- nothing was expanded in this round only if the iterator had been exhausted before
              have hs : s.iterDone = false := by
                cases hs : s.iterDone with
                | false => rfl
                | true =>
                  have := hEdone hs
                  simp only [Prod.mk.injEq] at this
                  rw [d3, d2, this.1, hs] at hnd; exact absurd rfl hnd
              have := hEmu hs
              omega
          obtain ⟨s5, p5, q5, r, e5, ck5, c1, c2⟩ := collLoop_ok h l start k s3 p1 q3 ck3.inv hmu3
          have hcond : (!tightened && s3.iterDone) = false := by
            cases ht : tightened with
            | true => rfl
            | false =>
              cases hd : s3.iterDone with
              | false => rfl
              | true => exact absurd ⟨ht, hd⟩ hfin
          exact ⟨s5, p5, q5, r, bind_of_eq rfl (bind_of_eq e3 (bind_of_eq rfl ((if_neg (by simp [hcond])).trans e5))),
            (ckE2.trans ck3).trans ck5, c1, c2⟩

theorem collTighten_ok (h : Protocol rec g) (l : Lbl) (n : Nat) (s : CollSt) (p q : List M) (inv : CollInv g s p q)
    (hn : collMu0 g s p q < n) :
    ∃ s' p' q' r, collTighten rec n l s p q = .ok (.coll l s' p' q', r) ∧ CollKeeps g s p q s' p' q' ∧
      (r = true → (collView g s q).lo < (collView g s' q').lo ∨ (collView g s' q').hi < (collView g s q).hi) ∧
      (r = false → (collView g s' q').lo = (collView g s' q').hi) := by
  obtain ⟨s1, q1, e1, ck1, v1, _, _, _⟩ := collBounds_keeps h l s p q inv
  have := ck1.mu
  obtain ⟨s2, p2, q2, r, e2, ck2, c1, c2⟩ := collLoop_ok h l (collView g s q) n s1 p q1 ck1.inv (by omega)
  exact ⟨s2, p2, q2, r, bind_of_eq e1 e2, ck1.trans ck2, c1, c2⟩

/-- the collection's interval contains its final cost (the sum over ALL sub-edits, expanded or not) -/
theorem collView_wf (h : Protocol rec g) {s : CollSt} {p q : List M} (inv : CollInv g s p q) :
    (collView g s q).lo ≤ sumFin g q + sumFin g p ∧ sumFin g q + sumFin g p ≤ (collView g s q).hi := by
  obtain ⟨a1, a2, a3, a4, a5⟩ := inv.arith h
  have hub := inv.ub
  rw [inv.view]
  by_cases hd : s.iterDone = true
  · obtain ⟨rfl, _⟩ := inv.done hd
    simp only [hd, if_true, sumFin]; omega
  · simp only [hd, Bool.false_eq_true, if_false]; omega

theorem collExpandAll_ok (h : Protocol rec g) (s : CollSt) (p q : List M) (inv : CollInv g s p q) :
    CollKeeps g s p q (collExpandAll s p q).1 [] (collExpandAll s p q).2 ∧ (collExpandAll s p q).1.iterDone = true := by
  have hub := inv.ub
  cases hdf : s.iterDone with
  | true =>
    obtain ⟨rfl, _⟩ := inv.done hdf
    rw [show collExpandAll s [] q = (s, q) by simp [collExpandAll, hdf]]
    exact ⟨CollKeeps.refl inv, hdf⟩
  | false =>
    have hcn : s.cost = none := by
      cases hc : s.cost with
      | none => rfl
      | some c => have := (inv.memo c hc).1; rw [hdf] at this; cases this
    rw [show collExpandAll s p q =
        ({ s with cost := none, iterDone := true, inits := s.inits ++ s.pinits, pinits := [] }, q ++ p) by
      simp only [collExpandAll, hdf, hcn]; cases p <;> simp]
    have hne : q ++ p ≠ [] := fun e' =>
      inv.ne.elim (fun hh => hh (List.append_eq_nil_iff.mp e').2) fun hh => hh (List.append_eq_nil_iff.mp e').1
    have inv' : CollInv g { s with cost := none, iterDone := true, inits := s.inits ++ s.pinits, pinits := [] } []
        (q ++ p) :=
      ⟨fun m hm => (List.mem_append.mp hm).elim (inv.iq m) (inv.ip m), by simp, HiLe.appendL inv.hq inv.hp, trivial,
        by simp only [List.sum_append, List.sum_nil]; omega, fun _ => ⟨rfl, hne⟩, (fun c hc => nomatch hc), Or.inr hne⟩
    have d := HiLe.dec inv.hq
    have dp := HiLe.dec inv.hp
    have wp := sum_wf h p inv.ip
    refine ⟨⟨inv', rfl, by simp only [sumFin_append, sumFin]; omega, ?_,
      by simp only [collMu0, hdf, sumMu_append, sumMu, List.length_nil]; simp; omega, by simp⟩, rfl⟩
    rw [inv.view, inv'.view]
    simp only [hdf, Bool.false_eq_true, if_false, if_true, sumLo_append, sumHi_append]
    omega

theorem coll_all_def (h : Protocol rec g) {s : CollSt} {p q : List M} (inv : CollInv g s p q)
    (hd : s.iterDone = true) (hv : (collView g s q).lo = (collView g s q).hi) :
    ∀ m ∈ q, (g.view m).lo = (g.view m).hi := by
  rw [inv.view] at hv
  simp only [hd, if_true] at hv
  exact all_definitive h q inv.iq hv

/-- `on_diff` expands every pending sub-edit and visits them all -/
theorem collOnDiff_ok (h : Protocol rec g) (quiet : Bool) (n : Nat) (l : Lbl) {s : CollSt} {p q : List M}
    (inv : CollInv g s p q) :
    ∃ s' q', onDiffB rec quiet n (.coll l s p q) = .ok (.coll l s' [] q') ∧ CollKeeps g s p q s' [] q' := by
  obtain ⟨ckx, _⟩ := collExpandAll_ok h s p q inv
  obtain ⟨q2, e2, k2⟩ := mapOnDiff_keeps h _ ckx.inv.iq
  exact ⟨(collExpandAll s p q).1, q2, bind_of_eq e2 rfl, ckx.trans (collKeeps_children h ckx.inv k2 false)⟩

/-- the script dump of a collection whose interval is a single value: every sub-edit is expanded and dumped, then
    `bounds()` is read; the printed cost is the final cost -/
theorem collDump_ok (h : Protocol rec g) (quiet : Bool) (n : Nat) (l : Lbl) {s : CollSt} {p q : List M}
    (inv : CollInv g s p q) (hd : (collView g s q).lo = (collView g s q).hi) :
    ∃ s' q', dumpB (fun x => boundsB rec n x) rec quiet n (.coll l s p q)
        = .ok (.coll l s' [] q', .mk l.kind l.fi l.ti (Iv.point (sumFin g q + sumFin g p))
            (q.map g.script ++ p.map g.script)) ∧
      CollKeeps g s p q s' [] q' := by
  obtain ⟨ckx, hdx⟩ := collExpandAll_ok h s p q inv
  have wf1 := collView_wf h ckx.inv
  have hdef1 := iv_def_of_sub ckx.sub (Nat.le_trans wf1.1 wf1.2) hd
  obtain ⟨q2, e2, k2⟩ := dumpList_keeps h _ ckx.inv.iq (coll_all_def h ckx.inv hdx hdef1)
  have ck2 : CollKeeps g _ [] _ (collExpandAll s p q).1 [] q2 := collKeeps_children h ckx.inv k2 false
  obtain ⟨s3, q3, e3, ck3, _⟩ := collBounds_keeps h l _ [] q2 ck2.inv
  have wf2 := collView_wf h ck2.inv
  have hfin2 := (ckx.trans ck2).fin
  have hb : collView g (collExpandAll s p q).1 q2 = Iv.point (sumFin g q + sumFin g p) :=
    iv_point_of (hfin2 ▸ wf2.1) (hfin2 ▸ wf2.2) (iv_def_of_sub ck2.sub (Nat.le_trans wf2.1 wf2.2) hdef1)
  have hscr := ckx.scr
  simp only [List.append_nil, List.map_append] at hscr
  exact ⟨s3, q3, bind_of_eq e2 (bind_of_eq e3 (by rw [hb, hscr]; rfl)), (ckx.trans ck2).trans ck3⟩

end GtModel.Lazy
