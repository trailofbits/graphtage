/-
  JSON5: `JSON5.build_tree` = `build_tree(JSON5._combine_surrogates(json5.load(f)))`

  `_combine_surrogates` sends every string of the loaded value (keys included) through
  `s.encode('utf-16-le', 'surrogatepass').decode('utf-16-le', 'surrogatepass')`: the encoder writes an astral character
  as a surrogate pair of code units (`splitStr`), the decoder reads a high unit directly followed by a low unit as one
  character (`joinStr`) and leaves lone surrogates alone.
  `splitVal v` is what the `json5` library returns for the printed text of `v`; `split_all` says it prints as `v`, stays
  inside the BMP and is turned back into `v` by `_combine_surrogates` (`Props/C12`: `json5_library_splits`,
  `read_print_json5`).
  Everything here is declared in `GtModel.C12`, the names the statements of `Props/C12` use.  `splitStr`, `joinStr`,
  `combineVal`, `loadJson5` are the model of the current JSON5 loader, but no stream runs them: the driver
  (`Model/RoundTripIO`) reads JSON5 text with `readDoc comb`, `comb` probed on the real loader.  On the printed text of
  a valid document `loadJson5` and `readDoc true` return the same (`read_print_json5`, `read_print`); beyond that
  nothing relates them.
-/
import GtModel.Proofs.RoundTripJson

namespace GtModel.C12
open GtModel.RoundTrip

/-- UTF-16 code units of a string (`encode('utf-16-le', 'surrogatepass')`, as 16-bit units) -/
def splitStr : Str → Str
  | [] => []
  | c :: t =>
    if 65536 ≤ c then (55296 + (c - 65536) / 1024) :: (56320 + (c - 65536) % 1024) :: splitStr t
    else c :: splitStr t

/-- `decode('utf-16-le', 'surrogatepass')` of a sequence of 16-bit units -/
def joinStr : Str → Str
  | a :: b :: t =>
    if isHigh a && isLow b then (65536 + (a - 55296) * 1024 + (b - 56320)) :: joinStr t else a :: joinStr (b :: t)
  | l => l

/-- `JSON5._combine_surrogates` on one string -/
def combineStr (s : Str) : Str := joinStr (splitStr s)

mutual
/-- `JSON5._combine_surrogates`: every string and every key of the value -/
def combineVal : JVal → JVal
  | .str s => .str (combineStr s)
  | .arr xs => .arr (combineL xs)
  | .obj kvs => .obj (combineO kvs)
  | v => v
def combineL : JList → JList
  | .nil => .nil
  | .cons v t => .cons (combineVal v) (combineL t)
def combineO : JObj → JObj
  | .nil => .nil
  | .cons k v t => .cons (combineStr k) (combineVal v) (combineO t)
end

/-- the JSON5 loader: `json5.load`, then `_combine_surrogates` -/
def loadJson5 (inp : Str) : Option JVal := (readJson5 inp).map combineVal

mutual
/-- the value with every astral character written as its two surrogates: what the `json5` library returns for the
    printed text of `v` -/
def splitVal : JVal → JVal
  | .str s => .str (splitStr s)
  | .arr xs => .arr (splitL xs)
  | .obj kvs => .obj (splitO kvs)
  | v => v
def splitL : JList → JList
  | .nil => .nil
  | .cons v t => .cons (splitVal v) (splitL t)
def splitO : JObj → JObj
  | .nil => .nil
  | .cons k v t => .cons (splitStr k) (splitVal v) (splitO t)
end

/-- an astral character and its two surrogates are printed as the same text (`json.dumps`, ensure_ascii) -/
theorem printStrBody_split (s : Str) (h : validStr s = true) : printStrBody (splitStr s) = printStrBody s := by
  induction s with
  | nil => rfl
  | cons c t ih =>
    obtain ⟨hc, ht⟩ := validStr_cons c t h
    by_cases ha : 65536 ≤ c
    · simp only [splitStr, ha, if_true, printStrBody, ih ht]
      rw [escapeChar_bmp _ (by omega) (by omega), escapeChar_bmp _ (by omega) (by omega), escapeChar_astral c ha]
      simp
    · simp only [splitStr, ha, if_false, printStrBody, ih ht]

theorem printStr_split (s : Str) (h : validStr s = true) : printStr (splitStr s) = printStr s := by
  simp [printStr, printStrBody_split s h]

theorem bmpStr_splitStr (s : Str) (h : validStr s = true) : bmpStr (splitStr s) = true := by
  induction s with
  | nil => rfl
  | cons c t ih =>
    obtain ⟨hc, ht⟩ := validStr_cons c t h
    have := ih ht
    simp only [bmpStr] at this ⊢
    by_cases ha : 65536 ≤ c <;> simp [splitStr, ha, this] <;> omega

theorem splitStr_of_bmpStr (s : Str) (h : bmpStr s = true) : splitStr s = s := by
  induction s with
  | nil => rfl
  | cons c t ih =>
    simp only [bmpStr, List.all_cons, Bool.and_eq_true, decide_eq_true_eq] at h
    simp only [splitStr, show ¬ 65536 ≤ c by omega, if_false, ih (by simpa [bmpStr] using h.2)]

/-- a 16-bit unit is not joined with what follows it: after a high surrogate the next unit is not a low one -/
theorem joinStr_cons_split (c : Nat) (t : Str) (h : validStr (c :: t) = true) :
    joinStr (c :: splitStr t) = c :: joinStr (splitStr t) := by
  cases t with
  | nil => rfl
  | cons d t' =>
    simp only [validStr, Bool.and_eq_true, decide_eq_true_eq, Bool.not_eq_true'] at h
    by_cases ha : 65536 ≤ d
    · simp only [splitStr, ha, if_true, joinStr, (astral_units d ha (validStr_cons d t' h.2).1).2.1, Bool.and_false,
        Bool.false_eq_true, if_false]
    · simp only [splitStr, ha, if_false, joinStr, h.1.2, Bool.false_eq_true]

theorem joinStr_splitStr (s : Str) (h : validStr s = true) : joinStr (splitStr s) = s := by
  induction s with
  | nil => rfl
  | cons c t ih =>
    obtain ⟨hc, ht⟩ := validStr_cons c t h
    by_cases ha : 65536 ≤ c
    · obtain ⟨h1, _, h2⟩ := astral_units c ha hc
      simp only [splitStr, ha, if_true, joinStr, h1, h2, Bool.and_self, ih ht, astral_arith c ha hc]
    · rw [splitStr, if_neg ha, joinStr_cons_split c t h, ih ht]

theorem combineStr_split (s : Str) (h : validStr s = true) : combineStr (splitStr s) = s := by
  unfold combineStr
  rw [splitStr_of_bmpStr _ (bmpStr_splitStr s h), joinStr_splitStr s h]

theorem split_all :
    (∀ (d : Nat) (v : JVal), v.validWith validStr = true →
      printVal d (splitVal v) = printVal d v ∧ (splitVal v).validWith bmpStr = true ∧ combineVal (splitVal v) = v) ∧
    (∀ (d : Nat) (t : JObj), t.validWith validStr = true →
      printMembers d (splitO t) = printMembers d t ∧ (splitO t).validWith bmpStr = true ∧ combineO (splitO t) = t) ∧
    (∀ (d : Nat) (t : JList), t.validWith validStr = true →
      printItems d (splitL t) = printItems d t ∧ (splitL t).validWith bmpStr = true ∧ combineL (splitL t) = t) := by
  refine printVal.mutual_induct _ _ _ ?null ?tt ?ff ?int ?float ?str ?arr0 ?arr ?obj0 ?obj ?lnil ?lcons ?onil ?ocons
  case str =>
    exact fun d s h => ⟨by simp only [splitVal, printVal, printStr_split s h], bmpStr_splitStr s h,
      congrArg JVal.str (combineStr_split s h)⟩
  case arr =>
    intro d v t ihv iht h
    obtain ⟨h1, h2⟩ := (JList.validWith_cons _ v t).1 h
    obtain ⟨⟨p1, b1, c1⟩, p2, b2, c2⟩ := And.intro (ihv h1) (iht h2)
    exact ⟨by simp only [splitVal, splitL, printVal, p1, p2], (JList.validWith_cons _ _ _).2 ⟨b1, b2⟩,
      by simp only [splitVal, splitL, combineVal, combineL, c1, c2]⟩
  case obj =>
    intro d k v t ihv iht h
    obtain ⟨⟨hk, h1⟩, h2⟩ := (JObj.validWith_cons _ k v t).1 h
    obtain ⟨⟨p1, b1, c1⟩, p2, b2, c2⟩ := And.intro (ihv h1) (iht h2)
    exact ⟨by simp only [splitVal, splitO, printVal, printStr_split k hk, p1, p2],
      (JObj.validWith_cons _ _ _ _).2 ⟨⟨bmpStr_splitStr k hk, b1⟩, b2⟩,
      by simp only [splitVal, splitO, combineVal, combineO, combineStr_split k hk, c1, c2]⟩
  case lcons =>
    intro d v t ihv iht h
    obtain ⟨h1, h2⟩ := (JList.validWith_cons _ v t).1 h
    obtain ⟨⟨p1, b1, c1⟩, p2, b2, c2⟩ := And.intro (ihv h1) (iht h2)
    exact ⟨by simp only [splitL, printItems, p1, p2], (JList.validWith_cons _ _ _).2 ⟨b1, b2⟩,
      by simp only [splitL, combineL, c1, c2]⟩
  case ocons =>
    intro d k v t ihv iht h
    obtain ⟨⟨hk, h1⟩, h2⟩ := (JObj.validWith_cons _ k v t).1 h
    obtain ⟨⟨p1, b1, c1⟩, p2, b2, c2⟩ := And.intro (ihv h1) (iht h2)
    exact ⟨by simp only [splitO, printMembers, printStr_split k hk, p1, p2],
      (JObj.validWith_cons _ _ _ _).2 ⟨⟨bmpStr_splitStr k hk, b1⟩, b2⟩,
      by simp only [splitO, combineO, combineStr_split k hk, c1, c2]⟩
  -- scalars and empty containers: `splitVal` leaves them as they are
  all_goals intros; exact ⟨rfl, by assumption, rfl⟩

theorem printVal_split : ∀ (d : Nat) (v : JVal), v.validWith validStr = true → printVal d (splitVal v) = printVal d v :=
  fun d v h => (split_all.1 d v h).1
theorem printItems_split : ∀ (d : Nat) (t : JList), t.validWith validStr = true → printItems d (splitL t) = printItems d t :=
  fun d t h => (split_all.2.2 d t h).1
theorem printMembers_split : ∀ (d : Nat) (t : JObj), t.validWith validStr = true →
    printMembers d (splitO t) = printMembers d t :=
  fun d t h => (split_all.2.1 d t h).1

theorem valid5_split : ∀ v : JVal, v.validWith validStr = true → (splitVal v).validWith bmpStr = true :=
  fun v h => (split_all.1 0 v h).2.1
theorem valid5_splitL : ∀ t : JList, t.validWith validStr = true → (splitL t).validWith bmpStr = true :=
  fun t h => (split_all.2.2 0 t h).2.1
theorem valid5_splitO : ∀ t : JObj, t.validWith validStr = true → (splitO t).validWith bmpStr = true :=
  fun t h => (split_all.2.1 0 t h).2.1

theorem combine_split : ∀ v : JVal, v.validWith validStr = true → combineVal (splitVal v) = v :=
  fun v h => (split_all.1 0 v h).2.2
theorem combine_splitL : ∀ t : JList, t.validWith validStr = true → combineL (splitL t) = t :=
  fun t h => (split_all.2.2 0 t h).2.2
theorem combine_splitO : ∀ t : JObj, t.validWith validStr = true → combineO (splitO t) = t :=
  fun t h => (split_all.2.1 0 t h).2.2

end GtModel.C12
