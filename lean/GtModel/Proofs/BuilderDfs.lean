/-
  The path recursion `dfs` (the reference semantics of `Builder.build_tree`) on stores: which errors it can return and
  where they come from, acyclic stores (`Ranked`: the cycle scan never fires, the rank bounds the depth), reachability
  and cycles (`HasCycle`; a successful run without placeholders proves well-foundedness), and the depth bound
  `|store| + 2` when cycle checking is on (the ancestor path is simple).
  Declared in `GtModel.C18`: `Ranked`, `HasCycle` and `noCheck` are the words of the property statements.
-/
import GtModel.Proofs.BuilderMachine

namespace GtModel.C18
open GtModel.Builder

theorem expand_istr (b : BKind) (s : Store) (str : String) : expand b s (.istr str) = [] := by
  unfold expand expand? Store.cell?
  simp only
  split
  · simp [iterPayload]
  · simp
  · simp
  · cases b
    · simp only; split <;> simp
    · simp only; split
      · simp
      · split <;> simp

theorem expand_oob (b : BKind) (s : Store) (i : Nat) (h : s.length ≤ i) : expand b s (.obj i) = [] := by
  unfold expand expand? Store.cell?
  have : s[i]? = none := by simp [h]
  simp [this]

theorem lt_length_of_mem_expand {b : BKind} {s : Store} {x c : Ref} (h : c ∈ expand b s x) :
    ∃ i, i < s.length ∧ x = .obj i := by
  cases x with
  | istr str => rw [expand_istr] at h; cases h
  | obj i =>
    refine ⟨i, Nat.lt_of_not_le fun hle => ?_, rfl⟩
    rw [expand_oob b s i hle] at h
    cases h

theorem liftB_ne {α} (x : Except BErr α) : liftB x ≠ .error .cycle ∧ liftB x ≠ .error .outOfFuel := by
  cases x <;> simp [liftB]

theorem liftB_bind {α β} (x : Except BErr α) (f : α → Except BErr β) :
    liftB (x >>= f) = (liftB x >>= fun a => liftB (f a)) := by
  cases x <;> rfl

theorem mapM_eq_liftB {α α' β γ} {f : α → Except Err γ} (h : α' → α) (g : β → Except BErr γ) {as : List α'}
    {bs : List β} (H : Forall2 (fun a b => f (h a) = liftB (g b)) as bs) :
    (as.map h).mapM f = liftB (bs.mapM g) := by
  induction H with
  | nil => rfl
  | @cons a b as bs h1 _ ih =>
    rw [List.map_cons, List.mapM_cons, List.mapM_cons, h1, ih]
    cases g b <;> cases bs.mapM g <;> rfl

section Inversion
variable {b : BKind} {o : Opts} {s : Store} {d : Nat} {path : List Ref} {x : Ref}

theorem dfs_error {e : Err} (h : dfs b o s (d + 1) path x = .error e) :
    (∃ c ∈ expand b s x, (scans b o s (expand b s c) && (x :: path).contains c) = true ∧ o.ign = false ∧ e = .cycle) ∨
    (∃ c ∈ expand b s x, (scans b o s (expand b s c) && (x :: path).contains c) = false ∧
      dfs b o s d (x :: path) c = .error e) ∨
    ∃ ts, ts.length = (expand b s x).length ∧ liftB (buildNode b o s x ts) = .error e := by
  rw [dfs_succ] at h
  rcases bind_error.1 h with h | ⟨ts, hts, h⟩
  · obtain ⟨c, hc, hv⟩ := mapM_error h
    rcases visit_cases b o s (dfs b o s d (x :: path)) (x :: path) c with ⟨_, hv'⟩ | ⟨hs, hi, hv'⟩ | ⟨hs, hv'⟩
    · rw [hv'] at hv; cases hv
    · rw [hv'] at hv; cases hv; exact .inl ⟨c, hc, hs, hi, rfl⟩
    · exact .inr (.inl ⟨c, hc, hs, hv' ▸ hv⟩)
  · exact .inr (.inr ⟨ts, (forall2_length (mapM_ok_iff.1 hts)).symm, h⟩)

theorem dfs_ok {t : Tree} (h : dfs b o s (d + 1) path x = .ok t) :
    ∃ ts, Forall2 (fun c t' => (o.ign = true ∧ t' = .cyc c 1) ∨ dfs b o s d (x :: path) c = .ok t') (expand b s x) ts ∧
      liftB (buildNode b o s x ts) = .ok t := by
  rw [dfs_succ] at h
  obtain ⟨ts, hts, h⟩ := bind_ok.1 h
  refine ⟨ts, (mapM_ok_iff.1 hts).imp fun c _ t' _ hv => ?_, h⟩
  rcases visit_cases b o s (dfs b o s d (x :: path)) (x :: path) c with ⟨hi, hv'⟩ | ⟨_, _, hv'⟩ | ⟨_, hv'⟩
  · rw [hv'] at hv; cases hv; exact .inl ⟨hi, rfl⟩
  · rw [hv'] at hv; cases hv
  · exact .inr (hv' ▸ hv)

end Inversion

def noCheck (o : Opts) : Opts := { o with chk := false }

/-- **Acyclic stores**: a rank that strictly decreases along every edge the builder can walk
(`expand`); equivalent to well-foundedness of reachability on a finite store. -/
def Ranked (b : BKind) (s : Store) (rk : Ref → Nat) : Prop :=
  ∀ x c, c ∈ expand b s x → rk c < rk x

theorem mappingFrom_noCheck (py : Bool) (o : Opts) (items : List (Tree × Tree)) :
    mappingFrom py (noCheck o) items = mappingFrom py o items := by
  cases o; rfl

theorem buildNode_noCheck (b : BKind) (o : Opts) (s : Store) (r : Ref) (cs : List Tree) :
    buildNode b (noCheck o) s r cs = buildNode b o s r cs := by
  unfold buildNode
  cases s.cell? r with
  | none => rfl
  | some cell =>
    simp only
    cases resolve (builders b) cell.mro with
    | none =>
      cases b
      · rfl
      · simp only [pyobjDefaultBuild, mappingFrom_noCheck]
    | some m =>
      simp only [applyBuilder, buildDict, mappingFrom_noCheck]
      rfl

theorem scans_noCheck (b : BKind) (o : Opts) (s : Store) (gcs : List Ref) : scans b (noCheck o) s gcs = false := by
  simp [scans, noCheck]

theorem visit_noCheck (b : BKind) (o : Opts) (s : Store) (recur : Ref → Except Err Tree) (path : List Ref) (c : Ref) :
    visit b (noCheck o) s recur path c = recur c := by
  rw [visit, scans_noCheck]
  rfl

theorem sharing_not_cycle_dfs {b : BKind} {s : Store} {rk : Ref → Nat} (o : Opts) (hr : Ranked b s rk) :
    ∀ (d : Nat) (x : Ref) (path : List Ref), (∀ p ∈ path, rk x < rk p) →
      dfs b o s d path x = dfs b (noCheck o) s d path x := by
  intro d
  induction d with
  | zero => intro x path _; rfl
  | succ d ih =>
    intro x path hp
    rw [dfs_succ, dfs_succ]
    simp only [buildNode_noCheck]
    congr 1
    refine mapM_congr fun c hc => ?_
    -- a child ranks below its parent, hence below the whole ancestor path: it is not on it
    have hp' : ∀ p ∈ x :: path, rk c < rk p :=
      List.forall_mem_cons.2 ⟨hr x c hc, fun p h => Nat.lt_trans (hr x c hc) (hp p h)⟩
    rw [visit_noCheck, visit_of_not_mem _ _ _ _ fun hm => Nat.lt_irrefl _ (hp' c hm), ih c _ hp']

theorem dfs_cycle_flags {b : BKind} {o : Opts} {s : Store} :
    ∀ {d : Nat} {x : Ref} {path : List Ref}, dfs b o s d path x = .error .cycle → o.chk = true ∧ o.ign = false := by
  intro d
  induction d with
  | zero => intro x path h; cases h
  | succ d ih =>
    intro x path h
    rcases dfs_error h with ⟨c, _, hs, hi, _⟩ | ⟨c, _, _, he⟩ | ⟨_, _, he⟩
    · simp only [scans, Bool.and_eq_true] at hs
      exact ⟨hs.1.1.2, hi⟩
    · exact ih he
    · exact absurd he (liftB_ne _).1

theorem dfs_noCheck_ne_cycle (b : BKind) (o : Opts) (s : Store) (d : Nat) (x : Ref) (path : List Ref) :
    dfs b (noCheck o) s d path x ≠ .error .cycle :=
  fun h => Bool.false_ne_true (dfs_cycle_flags h).1

theorem dfs_ign_ne_cycle (b : BKind) (o : Opts) (s : Store) (hign : o.ign = true) (d : Nat) (x : Ref) (path : List Ref) :
    dfs b o s d path x ≠ .error .cycle :=
  fun h => Bool.false_ne_true ((dfs_cycle_flags h).2.symm.trans hign)

theorem dfs_noCheck_fuel {b : BKind} {s : Store} {rk : Ref → Nat} (o : Opts) (hr : Ranked b s rk) :
    ∀ (d : Nat) (x : Ref) (path : List Ref), rk x < d → dfs b (noCheck o) s d path x ≠ .error .outOfFuel := by
  intro d
  induction d with
  | zero => intro x path h; omega
  | succ d ih =>
    intro x path hd h
    rcases dfs_error h with ⟨_, _, _, _, he⟩ | ⟨c, hc, _, he⟩ | ⟨_, _, he⟩
    · cases he
    · have := hr x c hc
      exact ih c _ (by omega) he
    · exact (liftB_ne _).2 he

theorem dfs_noCheck_succ (b : BKind) (o : Opts) (s : Store) (d : Nat) (path : List Ref) (x : Ref) :
    dfs b (noCheck o) s (d + 1) path x =
      (expand b s x).mapM (dfs b (noCheck o) s d (x :: path)) >>= fun ts => liftB (buildNode b o s x ts) := by
  rw [dfs_succ, mapM_congr fun c _ => visit_noCheck b o s _ _ c]
  simp only [buildNode_noCheck]

def childRel (b : BKind) (s : Store) (c p : Ref) : Prop := c ∈ expand b s p

inductive Reach (b : BKind) (s : Store) : Ref → Ref → Prop where
  | refl (x : Ref) : Reach b s x x
  | step {p c y : Ref} : c ∈ expand b s p → Reach b s c y → Reach b s p y

theorem Reach.tail {b : BKind} {s : Store} {x y z : Ref} (h : Reach b s x y) (hz : z ∈ expand b s y) :
    Reach b s x z := by
  induction h with
  | refl x => exact .step hz (.refl z)
  | step hc _ ih => exact .step hc (ih hz)

def OnCycle (b : BKind) (s : Store) (y : Ref) : Prop := ∃ c, c ∈ expand b s y ∧ Reach b s c y

def HasCycle (b : BKind) (s : Store) (root : Ref) : Prop := ∃ y, Reach b s root y ∧ OnCycle b s y

theorem acc_of_reach {b : BKind} {s : Store} {x y : Ref} (h : Reach b s x y) (ha : Acc (childRel b s) x) :
    Acc (childRel b s) y := by
  induction h with
  | refl x => exact ha
  | step hc _ ih => exact ih (ha.inv hc)

theorem not_onCycle_of_acc {b : BKind} {s : Store} {y : Ref} (ha : Acc (childRel b s) y) : ¬ OnCycle b s y := by
  induction ha with
  | intro y _ ih =>
    rintro ⟨c, hc, hr⟩
    apply ih c hc
    cases hr with
    | refl => exact ⟨_, hc, .refl _⟩
    | step hc' hr' => exact ⟨_, hc', hr'.tail hc⟩

theorem not_acc_of_hasCycle {b : BKind} {s : Store} {root : Ref} (h : HasCycle b s root) :
    ¬ Acc (childRel b s) root := by
  obtain ⟨y, hr, hy⟩ := h
  exact fun ha => not_onCycle_of_acc (acc_of_reach hr ha) hy

theorem dfs_ok_acc (b : BKind) (o : Opts) (s : Store) (hign : o.ign = false) :
    ∀ (d : Nat) (x : Ref) (path : List Ref) (t : Tree), dfs b o s d path x = .ok t → Acc (childRel b s) x := by
  intro d
  induction d with
  | zero => intro x path t h; cases h
  | succ d ih =>
    intro x path t h
    obtain ⟨ts, hts, _⟩ := dfs_ok h
    refine ⟨x, fun c hc => ?_⟩
    obtain ⟨t', _, ht'⟩ := hts.mem_left hc
    rcases ht' with ⟨hi, _⟩ | ht'
    · rw [hign] at hi; cases hi
    · exact ih c _ t' ht'

theorem ranked_of_forall {b : BKind} {s : Store} {rk : Ref → Nat}
    (h : ∀ i < s.length, ∀ c ∈ expand b s (.obj i), rk c < rk (.obj i)) : Ranked b s rk := fun x c hc => by
  obtain ⟨i, hi, rfl⟩ := lt_length_of_mem_expand hc
  exact h i hi c hc

theorem pigeon (n : Nat) (l : List Ref) (hn : l.Nodup) (h : ∀ p ∈ l, ∃ i, i < n ∧ p = .obj i) : l.length ≤ n := by
  have := hn.length_le_of_subset (l₂ := (List.range n).map Ref.obj) fun p hp => by
    obtain ⟨i, hi, rfl⟩ := h p hp
    exact List.mem_map.2 ⟨i, List.mem_range.2 hi, rfl⟩
  rwa [List.length_map, List.length_range] at this

theorem dfs_leafy (b : BKind) (o : Opts) (s : Store) (d : Nat) (path : List Ref) (c : Ref)
    (hc : expand b s c = []) : dfs b o s (d + 1) path c ≠ .error .outOfFuel := by
  rw [dfs_succ, hc]
  exact (liftB_ne _).2

theorem scans_false_leaves (b : BKind) (o : Opts) (s : Store) (hchk : o.chk = true) (gcs : List Ref)
    (h : scans b o s gcs = false) : ∀ g ∈ gcs, expand b s g = [] := by
  intro g hg
  simp only [scans, hchk, Bool.and_true, Bool.and_eq_false_iff, Bool.not_eq_eq_eq_not,
    Bool.not_false] at h
  cases h with
  | inl h => simp [List.isEmpty_iff] at h; subst h; simp at hg
  | inr h =>
    simp only [allLeaves, List.all_eq_true] at h
    simpa [List.isEmpty_iff] using h g hg

/-- With cycle checking on, depth `|store| - |path| + 2` suffices.  The scan skips its test for a child all of whose
children are leaves, so such a node can stand on the path a second time (the disjunct); it and its leaf children then
end the descent within two levels (the `+ 2`).  Every other node joins a path that stays free of duplicates, and such
a path of stored objects is no longer than the store (`pigeon`). -/
theorem dfs_chk_fuel (b : BKind) (o : Opts) (s : Store) (hchk : o.chk = true) :
    ∀ (d : Nat) (x : Ref) (path : List Ref), path.Nodup → (∀ p ∈ path, ∃ i, i < s.length ∧ p = .obj i) →
      (x ∉ path ∨ ∀ g ∈ expand b s x, expand b s g = []) → s.length - path.length + 2 ≤ d →
      dfs b o s d path x ≠ .error .outOfFuel := by
  intro d
  induction d with
  | zero => intro x path _ _ _ h; omega
  | succ d ih =>
    intro x path hnd hval hx hd h
    rcases dfs_error h with ⟨_, _, _, _, he⟩ | ⟨c, hcm, hcond, herr⟩ | ⟨_, _, he⟩
    · cases he
    · by_cases hleaf : ∀ g ∈ expand b s x, expand b s g = []
      · -- the children of x are leaves: one more level suffices
        obtain ⟨d', rfl⟩ : ∃ d', d = d' + 1 := ⟨d - 1, by omega⟩
        exact dfs_leafy b o s d' (x :: path) c (hleaf c hcm) herr
      · have hnd' : (x :: path).Nodup := List.nodup_cons.2 ⟨hx.resolve_right hleaf, hnd⟩
        -- x has children, hence is a valid stored object
        have hval' : ∀ p ∈ x :: path, ∃ i, i < s.length ∧ p = .obj i :=
          List.forall_mem_cons.2 ⟨lt_length_of_mem_expand hcm, hval⟩
        have hlen := pigeon s.length (x :: path) hnd' hval'
        rw [List.length_cons] at hlen
        refine ih c (x :: path) hnd' hval' ?_ (by rw [List.length_cons]; omega) herr
        rcases Bool.and_eq_false_iff.1 hcond with h | h
        · exact .inr (scans_false_leaves b o s hchk _ h)
        · exact .inl fun hm => by rw [List.contains_eq_mem, decide_eq_true hm] at h; cases h
    · exact (liftB_ne _).2 he

end GtModel.C18
