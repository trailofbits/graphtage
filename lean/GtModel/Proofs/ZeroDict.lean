/-
  Mappings: `kvpScript`, `fkScript` (FixedKeyDictNodeEdit) and `msScript` (MultiSetEdit) have cost 0 only when
  the two mappings have the same keys with equal values (given distinct keys within each mapping).
  The table of value scripts is abstract: only "cell cost 0 ⇒ the two values are equal" is assumed.
-/
import GtModel.Proofs.ZeroSeq

namespace GtModel

abbrev keysOf (kvs : List (Str × Tree)) : List Str := kvs.map Prod.fst

/-- the content of `DictNode.__eq__` / `FixedKeyDictNode.__eq__` on lists of pairs -/
def kvRel (X Y : List (Str × Tree)) : Prop :=
  X.length = Y.length ∧ ∀ p ∈ X, ∃ q ∈ Y, p.1 = q.1 ∧ p.2.eq q.2 = true

theorem beq_subKV_iff_kvRel (X Y : List (Str × Tree)) : (X.length == Y.length && subKV X Y) = true ↔ kvRel X Y := by
  rw [Bool.and_eq_true, beq_iff_eq, subKV_iff, kvRel]

theorem dict_eq_iff (X Y : List (Str × Tree)) : (Tree.dict X).eq (Tree.dict Y) = true ↔ kvRel X Y := by
  rw [Tree.eq, beq_subKV_iff_kvRel]

theorem fdict_eq_iff (X Y : List (Str × Tree)) : (Tree.fdict X).eq (Tree.fdict Y) = true ↔ kvRel X Y := by
  rw [Tree.eq, beq_subKV_iff_kvRel]

theorem subset_of_nodup_of_length_le {α : Type} [DecidableEq α] {l₁ l₂ : List α} (hn : l₁.Nodup) (hs : l₁ ⊆ l₂)
    (hl : l₂.length ≤ l₁.length) : l₂ ⊆ l₁ := fun _ hx => Decidable.byContradiction fun hx' =>
  -- otherwise that element in front of `l₁` is duplicate-free inside `l₂` and longer
  Nat.not_succ_le_self _ (Nat.le_trans
    (List.Nodup.length_le_of_subset (List.nodup_cons.2 ⟨hx', hn⟩) (List.cons_subset.2 ⟨hx, hs⟩)) hl)

theorem eq_of_mem_of_key_eq {l : List (Str × Tree)} (hn : (keysOf l).Nodup) {p q : Str × Tree}
    (hp : p ∈ l) (hq : q ∈ l) (e : p.1 = q.1) : p = q := by
  obtain ⟨i, hi, rfl⟩ := List.getElem_of_mem hp
  obtain ⟨j, hj, rfl⟩ := List.getElem_of_mem hq
  cases keys_inj hn hi hj e; rfl

theorem kvRel_of_sub {X Y : List (Str × Tree)} (hx : (keysOf X).Nodup) (hy : (keysOf Y).Nodup)
    (hs : ∀ p ∈ X, ∃ q ∈ Y, p.1 = q.1 ∧ p.2.eq q.2 = true) (hk : ∀ q ∈ Y, q.1 ∈ keysOf X) : kvRel X Y := by
  have h1 := List.Nodup.length_le_of_subset hx (l₂ := keysOf Y) (by
    intro k hk'; obtain ⟨p, hp, rfl⟩ := List.mem_map.1 hk'
    obtain ⟨q, hq, e, -⟩ := hs p hp
    exact List.mem_map.2 ⟨q, hq, e.symm⟩)
  have h2 := List.Nodup.length_le_of_subset hy (l₂ := keysOf X) (by
    intro k hk'; obtain ⟨q, hq, rfl⟩ := List.mem_map.1 hk'; exact hk q hq)
  simp only [keysOf, List.length_map] at h1 h2
  exact ⟨Nat.le_antisymm h1 h2, hs⟩

theorem kvRel_iff_of_nodup {X Y : List (Str × Tree)} (hx : (keysOf X).Nodup) (hy : (keysOf Y).Nodup) :
    kvRel X Y ↔ (∀ p ∈ X, p.1 ∈ keysOf Y) ∧ (∀ q ∈ Y, q.1 ∈ keysOf X) ∧
      ∀ p ∈ X, ∀ q ∈ Y, p.1 = q.1 → p.2.eq q.2 = true := by
  constructor
  · rintro ⟨hl, hs⟩
    have hsub : ∀ p ∈ X, p.1 ∈ keysOf Y := by
      intro p hp
      obtain ⟨q, hq, e, -⟩ := hs p hp
      exact List.mem_map.2 ⟨q, hq, e.symm⟩
    refine ⟨hsub, fun q hq => ?_, fun p hp q hq e => ?_⟩
    · have : keysOf Y ⊆ keysOf X := subset_of_nodup_of_length_le hx (by
        intro k hk; obtain ⟨p, hp, rfl⟩ := List.mem_map.1 hk; exact hsub p hp) (by simp [hl])
      exact this (List.mem_map_of_mem hq)
    · obtain ⟨q', hq', e', he⟩ := hs p hp
      rwa [eq_of_mem_of_key_eq hy hq' hq (e'.symm.trans e)] at he
  · rintro ⟨h1, h2, h3⟩
    refine kvRel_of_sub hx hy (fun p hp => ?_) h2
    obtain ⟨q, hq, e⟩ := List.mem_map.1 (h1 p hp)
    exact ⟨q, hq, e.symm, h3 p hp q hq e.symm⟩

theorem kvRel_comm {X Y : List (Str × Tree)} (hx : (keysOf X).Nodup) (hy : (keysOf Y).Nodup)
    (ih : ∀ p ∈ X, ∀ q ∈ Y, p.2.eq q.2 = q.2.eq p.2) : kvRel X Y ↔ kvRel Y X := by
  rw [kvRel_iff_of_nodup hx hy, kvRel_iff_of_nodup hy hx]
  constructor
  · rintro ⟨h1, h2, h3⟩
    exact ⟨h2, h1, fun q hq p hp e => by rw [← ih p hp q hq]; exact h3 p hp q hq e.symm⟩
  · rintro ⟨h1, h2, h3⟩
    exact ⟨h2, h1, fun p hp q hq e => by rw [ih p hp q hq]; exact h3 q hq p hp e.symm⟩

theorem kvRel_refl {kvs : List (Str × Tree)} (h : ∀ p ∈ kvs, p.2.eq p.2 = true) : kvRel kvs kvs :=
  ⟨rfl, fun p hp => ⟨p, hp, rfl, h p hp⟩⟩

theorem kvRel_of_forall₂ {X Y : List (Str × Tree)} (h : Forall2 (fun p q => p.1 = q.1 ∧ p.2.eq q.2 = true) X Y) :
    kvRel X Y :=
  ⟨h.length_eq, fun _ hp => h.mem_left hp⟩

theorem kvRel.perm_right {X Y Z : List (Str × Tree)} (h : kvRel X Y) (hp : Y.Perm Z) : kvRel X Z :=
  ⟨h.1.trans hp.length_eq, fun p hp' => let ⟨q, hq, e⟩ := h.2 p hp'; ⟨q, hp.subset hq, e⟩⟩

theorem findKey_noneZ : ∀ (l : List (Str × Tree)) (k : Str) (i : Nat), findKey k l i = none → k ∉ keysOf l :=
  fun _ _ _ h => findKey_none.1 h

theorem kvpScript_cost_zero {fk tk : Str} {ve : Bool} {valEdit : Script}
    (h : (kvpScript fk tk ve valEdit).cost = 0) : fk = tk ∧ (ve = true ∨ valEdit.cost = 0) := by
  simp only [kvpScript, mkCompound_cost, sumCosts_cons, Script.relabel_cost, sumCosts_nil, Nat.add_zero,
    Nat.add_eq_zero_iff] at h
  obtain ⟨h1, h2⟩ := h
  constructor
  · by_cases hk : fk = tk
    · exact hk
    · have hb : (fk == tk) = false := by simpa using hk
      simp only [hb, Bool.false_eq_true, if_false] at h1
      exact (strEdits_cost_zero_iff fk tk).1 h1
  · cases ve with
    | true => exact Or.inl rfl
    | false => right; simpa using h2

section
variable {fkv tkv : List (Str × Tree)} {vtbl : List (List Script)} (H : ZeroCells fkv tkv Prod.snd vtbl)
include H

theorem msKvE_cost_zero {i j : Nat} (hi : i < fkv.length) (hj : j < tkv.length)
    (hc : (msKvE fkv tkv vtbl i j).cost = 0) : kvEq (fkv.getD i dKV) (tkv.getD j dKV) = true := by
  obtain ⟨h1, h2⟩ := kvpScript_cost_zero hc
  rw [kvEq, Bool.and_eq_true, beq_iff_eq]
  refine ⟨h1, h2.elim id fun hz => ?_⟩
  rw [getD_eq_getElem _ _ hi, getD_eq_getElem _ _ hj]; exact H i j hi hj hz

theorem fkScript_cost_zero (hdf : (keysOf fkv).Nodup) (hdt : (keysOf tkv).Nodup)
    (h : (fkScript fkv tkv vtbl).cost = 0) : kvRel fkv tkv := by
  simp only [fkScript, mkCompound_cost, sumCosts_append, Nat.add_eq_zero_iff, sumCosts_eq_zero,
    List.mem_filterMap, List.mem_range, forall_exists_index, and_imp] at h
  obtain ⟨⟨hs, hr⟩, hi⟩ := h
  refine kvRel_of_sub hdf hdt (fun p hp => ?_) (fun q hq => ?_)
  · obtain ⟨i, hi', rfl⟩ := exists_getD_of_mem dKV hp
    cases hf : findKey (fkv.getD i dKV).1 tkv 0 with
    | none =>
      have := hr _ i hi' (by simp only [hf]; rfl)
      exact absurd this (Nat.succ_ne_zero _)
    | some j =>
      have hj := findKey_lt hf
      have e : kvEq (fkv.getD i dKV) (tkv.getD j dKV) = true := by
        have := hs _ i hi' (by simp only [hf, Option.map_some]; rfl)
        split at this
        · assumption
        · exact msKvE_cost_zero H hi' hj this
      rw [kvEq, Bool.and_eq_true, beq_iff_eq] at e
      exact ⟨_, getD_mem tkv j dKV hj, e⟩
  · obtain ⟨j, hj, rfl⟩ := exists_getD_of_mem dKV hq
    cases hf : findKey (tkv.getD j dKV).1 fkv 0 with
    | none =>
      have := hi _ j hj (by simp only [hf]; rfl)
      exact absurd this (Nat.succ_ne_zero _)
    | some i => rw [← findKey_key hf]; exact List.mem_map_of_mem (getD_mem fkv i dKV (findKey_lt hf))

theorem msScript_cost_zero (amk : Bool) (orc : Oracle) (fp tp : List Nat)
    (hdf : (keysOf fkv).Nodup) (hdt : (keysOf tkv).Nodup)
    (h : (msScript amk orc fp tp fkv tkv vtbl).cost = 0) : kvRel fkv tkv := by
  have h0 : ∀ s ∈ (msScript amk orc fp tp fkv tkv vtbl).subs, s.cost = 0 := sumCosts_eq_zero.1 h
  rw [msScript_subs] at h0
  simp only [List.forall_mem_append, List.forall_mem_map] at h0
  obtain ⟨⟨⟨⟨-, hA⟩, hP⟩, hR⟩, hI⟩ := h0
  have hpin := msPairs_pinj amk orc fp tp fkv tkv
  -- an oracle pair of cost 0 would have been matched before the oracle was asked
  have hnop : msPairs amk orc fp tp fkv tkv = [] := by
    refine List.eq_nil_iff_forall_not_mem.2 fun p hp => ?_
    have hi := getD_mem _ p.1 0 (hpin.2.2 p hp).1
    have hj := getD_mem _ p.2 0 (hpin.2.2 p hp).2
    rw [msToRemove, List.mem_filter] at hi
    rw [msToInsert, List.mem_filter] at hj
    have e := msKvE_cost_zero H (fLeft_mem hi.1).1 (tLeft_mem hj.1) (hP p hp)
    rw [show hasEqIn _ _ tkv = true from List.any_eq_true.2 ⟨_, hj.1, e⟩] at hi
    exact absurd hi.2 (by decide)
  have hrem : msToRemove amk fkv tkv = [] := by
    cases hr : msToRemove amk fkv tkv with
    | nil => rfl
    | cons x r => exact absurd (hR 0 (List.mem_filter.2 ⟨List.mem_range.2 (hr ▸ Nat.succ_pos _), by rw [hnop]; rfl⟩)) (Nat.succ_ne_zero _)
  have hins : msToInsert amk fkv tkv = [] := by
    cases hr : msToInsert amk fkv tkv with
    | nil => rfl
    | cons x r => exact absurd (hI 0 (List.mem_filter.2 ⟨List.mem_range.2 (hr ▸ Nat.succ_pos _), by rw [hnop]; rfl⟩)) (Nat.succ_ne_zero _)
  -- every pair is either matched automatically by key or has an equal pair on the other side
  refine kvRel_of_sub hdf hdt (fun p hp => ?_) (fun q hq => ?_)
  · obtain ⟨i, hi, rfl⟩ := exists_getD_of_mem dKV hp
    by_cases ha : ∃ p ∈ msAuto amk fkv tkv, p.1 = i
    · obtain ⟨p, hpa, rfl⟩ := ha
      have hj := findKey_lt (msAuto_mem hpa).2.2
      have e := msKvE_cost_zero H hi hj (hA p hpa)
      rw [kvEq, Bool.and_eq_true, beq_iff_eq] at e
      exact ⟨_, getD_mem tkv p.2 dKV hj, e⟩
    · have hiL : i ∈ msFLeft amk fkv tkv :=
        List.mem_filter.2 ⟨List.mem_range.2 hi, (any_fst_iff _ i).2 fun hm =>
          let ⟨p, hp, e⟩ := List.mem_map.1 hm; ha ⟨p, hp, e⟩⟩
      have : i ∉ msToRemove amk fkv tkv := hrem ▸ List.not_mem_nil
      rw [msToRemove, List.mem_filter, not_and, Bool.not_eq_true, Bool.not_eq_false'] at this
      obtain ⟨j, hj, e⟩ := List.any_eq_true.1 (this hiL)
      rw [kvEq, Bool.and_eq_true, beq_iff_eq] at e
      exact ⟨_, getD_mem tkv j dKV (tLeft_mem hj), e⟩
  · obtain ⟨j, hj, rfl⟩ := exists_getD_of_mem dKV hq
    by_cases ha : ∃ p ∈ msAuto amk fkv tkv, p.2 = j
    · obtain ⟨p, hp, rfl⟩ := ha
      rw [findKey_key (msAuto_mem hp).2.2]
      exact List.mem_map_of_mem (getD_mem fkv p.1 dKV (msAuto_mem hp).2.1)
    · have hjL : j ∈ msTLeft amk fkv tkv :=
        List.mem_filter.2 ⟨List.mem_range.2 hj, (any_snd_iff _ j).2 fun hm =>
          let ⟨p, hp, e⟩ := List.mem_map.1 hm; ha ⟨p, hp, e⟩⟩
      have : j ∉ msToInsert amk fkv tkv := hins ▸ List.not_mem_nil
      rw [msToInsert, List.mem_filter, not_and, Bool.not_eq_true, Bool.not_eq_false'] at this
      obtain ⟨i, hi, e⟩ := List.any_eq_true.1 (this hjL)
      rw [kvEq, Bool.and_eq_true, beq_iff_eq] at e
      rw [e.1]
      exact List.mem_map_of_mem (getD_mem fkv i dKV (fLeft_mem hi).1)

end

end GtModel
