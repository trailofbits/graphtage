/-
  The public operations of the L4 heap model preserve the invariant and refine the multiset of live items: one
  statement per operation; then, for the interface as a whole (`step`, an operation given as data): `step_spec`, the
  one case analysis over `Op` that the statements of `Props/C16` about operation sequences rest on, and `pushAll_spec`
  for the loop that fills a heap.
-/
import GtModel.Proofs.HeapExtract
import GtModel.Proofs.HeapCut

namespace GtModel.Heap
open GtModel.C16 (idsM idsM_of_ms card_idsM nodup_ids_iff)
variable {K : Type} {cmp : Cmp K}

/-- How `push` and `decrease_key` update `_min`. -/
theorem minOk_lower (T : Total cmp) {F : List (HNode K)} {m' : HNode K} {t : Nat} {k : K} (hm' : m' ∈ F)
    (hkeys : ∀ y ∈ F, (y.id = t ∧ y.key = k) ∨ cmp.lt y.key m'.key = false)
    (hroot : cmp.lt k m'.key = true → ∃ s ∈ F, s.id = t ∧ s.key = k) :
    MinOk cmp F (some (if cmp.lt k m'.key = true then t else m'.id)) := by
  cases hlt : cmp.lt k m'.key
  · exact ⟨m', hm', rfl, fun y hy => (hkeys y hy).elim (fun h => h.2 ▸ hlt) id⟩
  · obtain ⟨s, hs, hst, hsk⟩ := hroot hlt
    exact ⟨s, hs, hst, fun y hy => hsk ▸ (hkeys y hy).elim (fun h => h.2 ▸ T.irrefl _)
      fun h => T.ntrans _ _ _ h (T.asymm _ _ hlt)⟩

theorem push_spec (T : Total cmp) (h : Heap K) (hI : Inv cmp h) (id : Nat) (k : K) (hid : id ∉ ids h.roots) :
    ∃ h', push cmp h id k = .ok h' ∧ Inv cmp h' ∧ ms h'.roots = {(id, k, false)} + ms h.roots := by
  let node : HNode K := ⟨id, k, false, false, []⟩
  have hms : ms (insert1 node h.roots) = {(id, k, false)} + ms h.roots := by
    rw [ms_insert1, ms_cons, ms_nil, add_zero, add_zero]; rfl
  have hord : Ords cmp (insert1 node h.roots) := fun r hr =>
    (mem_insert1.1 hr).elim (fun e => e ▸ (ord_iff _ _).2 fun _ hc => nomatch hc) (hI.ord r)
  have hnodel : NoDel (insert1 node h.roots) := fun i hi => by
    rcases Multiset.mem_add.1 (hms ▸ mem_ms.2 hi) with h1 | h1
    · rw [Multiset.mem_singleton.1 h1]
    · exact hI.nodel i (mem_ms.1 h1)
  have hnodup := (ids_perm_of_ms_cons hms).symm.nodup (List.nodup_cons.2 ⟨hid, hI.nodup⟩)
  have hsize : h.n + 1 = (flats (insert1 node h.roots)).length := by
    rw [← card_ms, hms, Multiset.card_add, Multiset.card_singleton, card_ms, hI.size, Nat.add_comm]
  by_cases hne : h.roots = []
  · simp only [push, hI.min_eq_none hne]
    refine ⟨_, rfl, ⟨hord, hnodel, hnodup, hsize, _, mem_insert1.2 (Or.inl rfl), rfl, fun r' hr' => ?_⟩, hms⟩
    rw [hne] at hr'
    exact List.mem_singleton.1 hr' ▸ T.irrefl _
  · obtain ⟨r, hr, hmin, hrmin⟩ := hI.exists_min hne
    simp only [push, hmin, hI.findNode_root hr]
    refine ⟨_, rfl, ⟨hord, hnodel, hnodup, hsize, ?_⟩, hms⟩
    simp only [nodeLt, Bool.false_and, Bool.false_or]
    exact minOk_lower T (mem_insert1.2 (Or.inr hr))
      (fun y hy => (mem_insert1.1 hy).imp (fun (e : y = _) => e ▸ ⟨rfl, rfl⟩) (hrmin y))
      fun _ => ⟨_, mem_insert1.2 (Or.inl rfl), rfl, rfl⟩

/-- no node of a heap that satisfies the invariant is deleted: the `while self._min.deleted` loop does nothing -/
theorem dropDeleted_eq_self (h : Heap K) (hI : Inv cmp h) (fuel : Nat) : dropDeleted cmp fuel h = .ok h := by
  unfold dropDeleted
  by_cases hne : h.roots = []
  · rw [hI.min_eq_none hne]
  · obtain ⟨r, hr, hmin, -⟩ := hI.exists_min hne
    simp only [hmin, hI.findNode_root hr, nodel_flats hI.nodel (mem_flats_of_mem hr), Bool.false_eq_true, if_false]

theorem pop_empty (h : Heap K) (hI : Inv cmp h) (he : h.roots = []) : pop cmp h = .error .attributeError := by
  simp only [pop, dropDeleted_eq_self h hI, extractMin, hI.min_eq_none he]

theorem pop_spec (T : Total cmp) (h : Heap K) (hI : Inv cmp h) (hne : h.roots ≠ []) :
    ∃ h' z, pop cmp h = .ok (h', z.id) ∧ Inv cmp h' ∧ ms h.roots = {item z} + ms h'.roots ∧ z.deleted = false ∧
      ∀ i ∈ items h.roots, cmp.lt i.2.1 z.key = false := by
  obtain ⟨r, hr, hmin, hrmin⟩ := hI.exists_min hne
  obtain ⟨h', z, he, hz, hzid, hI', hms⟩ := extractMin_spec T h r.id (extPre_of_inv hI hr hmin)
  obtain rfl : z = r := node_unique hI.nodup (mem_flats_of_mem hz) (mem_flats_of_mem hr) hzid
  exact ⟨h', z, by simp only [pop, dropDeleted_eq_self h hI, he], hI', hms, nodel_flats hI.nodel (mem_flats_of_mem hz),
    hI.min_le_all T hrmin⟩

theorem peek_empty (h : Heap K) (hI : Inv cmp h) (he : h.roots = []) : peek cmp h = .error .attributeError := by
  simp only [peek, dropDeleted_eq_self h hI, hI.min_eq_none he]

theorem peek_spec (T : Total cmp) (h : Heap K) (hI : Inv cmp h) (hne : h.roots ≠ []) :
    ∃ z ∈ h.roots, peek cmp h = .ok (h, z.id) ∧ z.deleted = false ∧ ∀ i ∈ items h.roots, cmp.lt i.2.1 z.key = false := by
  obtain ⟨r, hr, hmin, hrmin⟩ := hI.exists_min hne
  exact ⟨r, hr, by simp only [peek, dropDeleted_eq_self h hI, hmin], nodel_flats hI.nodel (mem_flats_of_mem hr),
    hI.min_le_all T hrmin⟩

theorem nodup_size_of_cut {F F' : List (HNode K)} {x x' : HNode K} {rest : Multiset (Nat × K × Bool)}
    (h1 : ms F = {item x} + rest) (h2 : ms F' = {item x'} + rest) (hid : x'.id = x.id) (hn : (ids F).Nodup) :
    (ids F').Nodup ∧ (flats F').length = (flats F).length := by
  have hidm : idsM F' = idsM F := by
    rw [idsM_of_ms h1, idsM_of_ms h2]
    exact congrArg (· ::ₘ _) hid
  exact ⟨(nodup_ids_iff F').2 (hidm ▸ (nodup_ids_iff F).1 hn), by rw [← card_idsM, hidm, card_idsM]⟩

theorem cutRoots_setDeleted (T : Total cmp) {h : Heap K} (hI : Inv cmp h) (t : Nat) :
    RootsPost cmp t (fun x => { x with deleted := true }) h.roots
      (cutRoots cmp t (fun x => { x with deleted := true }) h.roots) :=
  cutRoots_post T keepsShape_setDeleted h.roots hI.ord fun _ _ _ => T.irrefl _

theorem cutPre_setKey {h : Heap K} (hI : Inv cmp h) {t : Nat} {k : K} {x : HNode K} (hx : x ∈ flats h.roots)
    (hxt : x.id = t) (hle : cmp.lt x.key k = false) : CutPre cmp t (fun y => { y with key := k }) h.roots :=
  fun _ hy hyt => node_unique hI.nodup hy hx (hyt.trans hxt.symm) ▸ hle

theorem remove_notInHeap (T : Total cmp) (h : Heap K) (hI : Inv cmp h) (t : Nat) (hnot : ∀ x ∈ flats h.roots, x.id ≠ t) :
    remove cmp h t = .error .notInHeap := by
  have hspec := cutRoots_setDeleted T hI t
  cases hc : cutRoots cmp t (fun x => { x with deleted := true }) h.roots with
  | none => simp only [remove, hc]
  | some res =>
    rw [hc] at hspec
    obtain ⟨-, x, hx, -⟩ := hspec
    exact absurd hx.id (hnot x hx.mem)

theorem remove_spec (T : Total cmp) (h : Heap K) (hI : Inv cmp h) (t : Nat) (hin : ∃ x ∈ flats h.roots, x.id = t) :
    ∃ h' x, remove cmp h t = .ok h' ∧ Inv cmp h' ∧ x ∈ flats h.roots ∧ x.id = t ∧ ms h.roots = {item x} + ms h'.roots := by
  have hspec := cutRoots_setDeleted T hI t
  cases hc : cutRoots cmp t (fun x => { x with deleted := true }) h.roots with
  | none =>
    obtain ⟨x, hx, hxt⟩ := hin
    exact absurd hxt (cutRoots_none _ hc x hx)
  | some res =>
    obtain ⟨rs', cuts⟩ := res
    rw [hc] at hspec
    obtain ⟨hord', x, hpost, -, hfate⟩ := hspec
    obtain ⟨rest, h1, h2⟩ := hpost.exists_rest
    obtain ⟨hnodup, hlen⟩ := nodup_size_of_cut h1 h2 rfl hI.nodup
    -- the deleted node is a root of the new forest; `_extract_min` is run with `_min` set to it
    have pre : ExtPre cmp ⟨appendAll rs' cuts, some t, h.n⟩ t := by
      refine ⟨rfl, ords_appendAll hord' hpost.ord, hnodup, hI.size.trans hlen.symm, ?_, fun i hi hne => ?_⟩
      · -- no node of the old forest carries `deleted`: the cut was forced
        obtain ⟨c, hc, hci⟩ := (hfate rfl).resolve_right fun ⟨p, hp, hd⟩ =>
          Bool.false_ne_true ((nodel_flats hI.nodel hp).symm.trans hd)
        exact ⟨c, mem_appendAll.2 (List.mem_append.1 hc).symm, (congrArg (·.1) hci).trans hpost.id⟩
      · rcases mem_items_of_ms_cons h1 h2 hi with hh | hh
        · exact absurd ((hh ▸ rfl : i.1 = x.id).trans hpost.id) hne
        · exact hI.nodel i hh
    obtain ⟨h', z, he, hz, hzid, hI', hms'⟩ := extractMin_spec T _ t pre
    have hitem : item z = item ({ x with deleted := true } : HNode K) :=
      item_unique hnodup (mem_items_of_mem hz)
        (mem_ms.1 (h2 ▸ Multiset.mem_add.2 (Or.inl (Multiset.mem_singleton_self _)))) (hzid.trans hpost.id.symm)
    rw [← hitem] at h2
    have hrest : rest = ms h'.roots := add_left_cancel (h2.symm.trans hms')
    exact ⟨h', x, by simp only [remove, hc, he], hI', hpost.mem, hpost.id, hrest ▸ h1⟩

theorem decreaseKey_notInHeap (h : Heap K) (t : Nat) (k : K) (hnot : ∀ x ∈ flats h.roots, x.id ≠ t) :
    decreaseKey cmp h t k = .error .notInHeap := by
  have : findNode t h.roots = none :=
    List.find?_eq_none.2 fun x hx he => hnot x hx (beq_iff_eq.1 he)
  simp only [decreaseKey, this]

theorem decreaseKey_valueError (h : Heap K) (hI : Inv cmp h) (t : Nat) (k : K) (x : HNode K)
    (hx : x ∈ flats h.roots) (hxt : x.id = t) (hlt : cmp.lt x.key k = true) : decreaseKey cmp h t k = .error .valueError := by
  simp only [decreaseKey, findNode_eq hI.nodup hx hxt, hlt, if_true]

theorem decreaseKey_spec (T : Total cmp) (h : Heap K) (hI : Inv cmp h) (t : Nat) (k : K) (x : HNode K)
    (hx : x ∈ flats h.roots) (hxt : x.id = t) (hle : cmp.lt x.key k = false) :
    ∃ h' rest, decreaseKey cmp h t k = .ok h' ∧ Inv cmp h' ∧ ms h.roots = {(t, x.key, false)} + rest ∧
      ms h'.roots = {(t, k, false)} + rest := by
  have hxd : x.deleted = false := nodel_flats hI.nodel hx
  cases hc : cutRoots cmp t (fun x => { x with key := k }) h.roots with
  | none => exact absurd hxt (cutRoots_none _ hc x hx)
  | some res =>
    obtain ⟨rs', cuts⟩ := res
    obtain ⟨x0, rest, hx0, hx0t, h1, h2, hord', hordc, hrel, -, hfate⟩ :=
      cutRoots_spec T t _ (keepsShape_setKey k) h.roots rs' cuts hc hI.ord (cutPre_setKey hI hx hxt hle)
    obtain rfl : x0 = x := node_unique hI.nodup hx0 hx (hx0t.trans hxt.symm)
    replace h2 := (ms_appendAll rs' cuts).trans ((add_comm _ _).trans h2)
    obtain ⟨hnodup, hlen⟩ := nodup_size_of_cut h1 h2 rfl hI.nodup
    simp only [item, hxt, hxd] at h1 h2
    have hord := ords_appendAll hord' hordc
    have hitems : ∀ i ∈ items (appendAll rs' cuts), i = (t, k, false) ∨ i ∈ items h.roots := fun _ =>
      mem_items_of_ms_cons h1 h2
    have hnodel : NoDel (appendAll rs' cuts) := fun i hi => (hitems i hi).elim (· ▸ rfl) (hI.nodel i)
    -- the old minimum `r` is still a root, as `m'`, with a key that is not larger
    obtain ⟨r, hr, hmin, hrmin⟩ := hI.exists_min fun he => by rw [he] at hx; cases hx
    have hrle := hI.min_le_all T hrmin
    obtain ⟨m', hm', hm'id, hm'le, -⟩ := forall₂_left hrel r hr
    have hm'R : m' ∈ appendAll rs' cuts := mem_appendAll.2 (Or.inr hm')
    have hf : findNode r.id (appendAll rs' cuts) = some m' := findNode_eq hnodup (mem_flats_of_mem hm'R) hm'id
    have hkeys : ∀ y ∈ appendAll rs' cuts, (y.id = t ∧ y.key = k) ∨ cmp.lt y.key m'.key = false := fun y hy =>
      (hitems _ (mem_items_of_mem hy)).imp
        (fun hi => ⟨congrArg (·.1) hi, congrArg (·.2.1) hi⟩) fun hi => T.ntrans _ _ _ (hrle _ hi) hm'le
    refine ⟨_, rest, by simp only [decreaseKey, findNode_eq hI.nodup hx hxt, hle, hc, hmin, hf]; rfl, ?_, h1, h2⟩
    refine ⟨hord, hnodel, hnodup, hI.size.trans hlen.symm, ?_⟩
    simp only [nodeLt, hxd, Bool.false_and, Bool.false_or, ← hm'id]
    refine minOk_lower T hm'R hkeys fun hlt => ?_
    -- where the target is: cut out, a root updated in place, or below a root that `k < m'.key` rules out
    rcases hfate with ⟨c, hc, h⟩ | ⟨c, hc, h⟩ | ⟨s, hs, hks, -⟩
    · exact ⟨c, mem_appendAll.2 (Or.inl hc), h⟩
    · exact ⟨c, mem_appendAll.2 (Or.inr hc), h⟩
    · have hs : s ∈ appendAll rs' cuts := mem_appendAll.2 (Or.inr hs)
      exact (hkeys s hs).elim (fun h => ⟨s, hs, h⟩)
        fun hh => absurd ((T.ntrans _ _ _ hks hh).symm.trans hlt) Bool.false_ne_true

end GtModel.Heap

namespace GtModel.C16
open GtModel.Heap
variable {K : Type}

/-- the heap invariant, and every identity in the heap was handed out already -/
def InvS (cmp : Cmp K) (s : St K) : Prop := Inv cmp s.h ∧ ∀ i ∈ ids s.h.roots, i < s.next

def OpPre (s : St K) : Op K → Prop
  | .dec i _ => ∃ x ∈ flats s.h.roots, x.id = i
  | .rem i => ∃ x ∈ flats s.h.roots, x.id = i
  | _ => True

/-- "Live" defined independently of the heap and of the invariant, from an operation and its RETURN VALUE alone: the
    identity `push` returned is added, the one `pop` returned or `remove` was given is removed, `clear` forgets all,
    every other operation (and a refused one) changes nothing. -/
def liveAfter (L : Multiset Nat) : Op K → Ret → Multiset Nat
  | .push _, .item i => i ::ₘ L
  | .pop, .item i => L.erase i
  | .rem i, .unit => L.erase i
  | .clear, _ => 0
  | _, _ => L

theorem ids_lt_succ_of_push {rs rs' : List (HNode K)} {n : Nat} {k : K} (hms : ms rs' = {(n, k, false)} + ms rs)
    (hlt : ∀ i ∈ ids rs, i < n) : ∀ i ∈ ids rs', i < n + 1 := by
  intro i hi
  rcases List.mem_cons.1 ((ids_perm_of_ms_cons hms).mem_iff.1 hi) with rfl | hi
  · exact Nat.lt_succ_self _
  · exact Nat.lt_succ_of_lt (hlt i hi)

theorem bound_of_idsM {rs rs' : List (HNode K)} {n : Nat} (h : ∀ i ∈ idsM rs', i ∈ idsM rs) (hlt : ∀ i ∈ ids rs, i < n) :
    ∀ i ∈ ids rs', i < n :=
  fun i hi => hlt i (mem_idsM.1 (h i (mem_idsM.2 hi)))

def StepOk (cmp : Cmp K) (s : St K) (op : Op K) : Prop :=
  (OpPre s op → ∃ s' r, step cmp s op = (some s', r)) ∧
  ∀ s' r, step cmp s op = (some s', r) → InvS cmp s' ∧ idsM s'.h.roots = liveAfter (idsM s.h.roots) op r

theorem stepOk_of_eq {cmp : Cmp K} {s : St K} {op : Op K} (s₁ : St K) (r₁ : Ret) (hI : InvS cmp s₁)
    (hl : idsM s₁.h.roots = liveAfter (idsM s.h.roots) op r₁) (h : step cmp s op = (some s₁, r₁)) : StepOk cmp s op :=
  ⟨fun _ => ⟨_, _, h⟩, fun s' r hs => by rw [h] at hs; cases hs; exact ⟨hI, hl⟩⟩

theorem stepOk_of_none {cmp : Cmp K} {s : St K} {op : Op K} {r₁ : Ret} (h : step cmp s op = (none, r₁))
    (hpre : ¬ OpPre s op) : StepOk cmp s op :=
  ⟨fun hp => absurd hp hpre, fun s' r hs => by rw [h] at hs; cases hs⟩

theorem step_spec {cmp : Cmp K} (T : Total cmp) (s : St K) (hI : InvS cmp s) (op : Op K) : StepOk cmp s op := by
  have ⟨hInv, hlt⟩ := hI
  cases op with
  | push k =>
    obtain ⟨h', hp, hI', hms⟩ := push_spec T s.h hInv s.next k fun hc => Nat.lt_irrefl _ (hlt _ hc)
    have hl : idsM h'.roots = s.next ::ₘ idsM s.h.roots := idsM_of_ms hms
    exact stepOk_of_eq ⟨h', s.next + 1⟩ (.item s.next) ⟨hI', ids_lt_succ_of_push hms hlt⟩ hl (by simp only [step, hp])
  | pop =>
    by_cases hne : s.h.roots = []
    · exact stepOk_of_eq s (.err .attributeError) hI rfl (by simp only [step, pop_empty s.h hInv hne])
    · obtain ⟨h', z, hp, hI', hms, -, -⟩ := pop_spec T s.h hInv hne
      have hl : idsM h'.roots = (idsM s.h.roots).erase z.id := idsM_erase_of_ms hms
      exact stepOk_of_eq ⟨h', s.next⟩ (.item z.id)
        ⟨hI', bound_of_idsM (fun i hi => Multiset.mem_of_mem_erase (hl ▸ hi)) hlt⟩ hl (by simp only [step, hp])
  | peek =>
    by_cases hne : s.h.roots = []
    · exact stepOk_of_eq s (.err .attributeError) hI rfl (by simp only [step, peek_empty s.h hInv hne])
    · obtain ⟨z, -, hp, -, -⟩ := peek_spec T s.h hInv hne
      exact stepOk_of_eq s (.item z.id) hI rfl (by simp only [step, hp])
  | dec i k =>
    by_cases hin : ∃ x ∈ flats s.h.roots, x.id = i
    · obtain ⟨x, hx, hxi⟩ := hin
      cases hlk : cmp.lt x.key k
      · obtain ⟨h', rest, hp, hI', hmo, hmn⟩ := decreaseKey_spec T s.h hInv i k x hx hxi hlk
        have hl : idsM h'.roots = idsM s.h.roots := (idsM_of_ms hmn).trans (idsM_of_ms hmo).symm
        exact stepOk_of_eq ⟨h', s.next⟩ .unit ⟨hI', bound_of_idsM (fun j hj => hl ▸ hj) hlt⟩ hl (by simp only [step, hp])
      · exact stepOk_of_eq s (.err .valueError) hI rfl
          (by simp only [step, decreaseKey_valueError s.h hInv i k x hx hxi hlk])
    · exact stepOk_of_none (r₁ := .err .notInHeap)
        (by simp only [step, decreaseKey_notInHeap s.h i k fun x hx he => hin ⟨x, hx, he⟩]) hin
  | rem i =>
    by_cases hin : ∃ x ∈ flats s.h.roots, x.id = i
    · obtain ⟨h', x, hp, hI', -, hxi, hms⟩ := remove_spec T s.h hInv i hin
      have hl : idsM h'.roots = (idsM s.h.roots).erase i := hxi ▸ idsM_erase_of_ms hms
      exact stepOk_of_eq ⟨h', s.next⟩ .unit
        ⟨hI', bound_of_idsM (fun j hj => Multiset.mem_of_mem_erase (hl ▸ hj)) hlt⟩ hl (by simp only [step, hp])
    · exact stepOk_of_none (r₁ := .err .notInHeap)
        (by simp only [step, remove_notInHeap T s.h hInv i fun x hx he => hin ⟨x, hx, he⟩]) hin
  | clear => exact stepOk_of_eq ⟨empty, s.next⟩ .unit ⟨inv_empty cmp, fun _ h => nomatch h⟩ rfl rfl
  | len | bool | nodes | iter | minNode => exact stepOk_of_eq _ _ hI rfl rfl

/-- the input of `smallest`/`largest` as (position, key, deleted=false) triples, positions from `start` -/
def enumFrom (start : Nat) : List K → List (Nat × K × Bool)
  | [] => []
  | k :: ks => (start, k, false) :: enumFrom (start + 1) ks

theorem enumFrom_length (start : Nat) (ks : List K) : (enumFrom start ks).length = ks.length := by
  induction ks generalizing start with
  | nil => rfl
  | cons k ks ih => rw [enumFrom, List.length_cons, ih, List.length_cons]

theorem enumFrom_fst (start : Nat) (ks : List K) : (enumFrom start ks).map (·.1) = List.range' start ks.length := by
  induction ks generalizing start with
  | nil => rfl
  | cons k ks ih => rw [enumFrom, List.map_cons, ih, List.length_cons, List.range'_succ]

theorem pushAll_spec {cmp : Cmp K} (T : Total cmp) (ks : List K) (h : Heap K) (start : Nat) (hI : Inv cmp h)
    (hlt : ∀ i ∈ ids h.roots, i < start) :
    ∃ h', pushAll cmp h start ks = .ok h' ∧ Inv cmp h' ∧ ms h'.roots = ms h.roots + (enumFrom start ks : Multiset _) := by
  induction ks generalizing h start with
  | nil => exact ⟨h, rfl, hI, (add_zero _).symm⟩
  | cons k ks ih =>
    obtain ⟨h1, hp, hI1, hms1⟩ := push_spec T h hI start k fun hc => Nat.lt_irrefl _ (hlt _ hc)
    obtain ⟨h', hp', hI', hms'⟩ := ih h1 (start + 1) hI1 (ids_lt_succ_of_push hms1 hlt)
    refine ⟨h', by simp only [pushAll, hp, hp'], hI', ?_⟩
    rw [hms', hms1, enumFrom, ← Multiset.cons_coe, ← Multiset.singleton_add, add_comm _ (ms h.roots), add_assoc]

end GtModel.C16
