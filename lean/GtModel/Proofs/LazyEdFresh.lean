/-
  A fresh EditDistance: the state `edInit` builds satisfies the static facts `EdStat` (lb0 ≤ the greedy final cost by
  `spec_lower`) and the invariant `EdInv`.
-/
import GtModel.Proofs.LazyMatrix
import GtModel.Proofs.LazySort

namespace GtModel.Lazy
open GtModel.EditMatrix (Cell Move step spec goLeft goUp goDiag cellAt origin middle)

theorem middle_sum_le (l : List Nat) (ps : Nat × Nat) : (middle l ps).sum ≤ l.sum :=
  Nat.le_trans (take_sum_le_sum _ _) (by have := take_add_drop_sum l ps.1; omega)

theorem middle_sublist {α : Type} (l : List α) (ps : Nat × Nat) : (middle l ps).Sublist l :=
  (List.take_sublist _ _).trans (List.drop_sublist _ _)

theorem middle_map {α β : Type} (f : α → β) (l : List α) (ps : Nat × Nat) :
    middle (l.map f) ps = (middle l ps).map f := by
  simp [middle, List.map_take, List.map_drop]

section
variable (ps : Nat × Nat) (fs ts : List Nat) (pen : Nat)

theorem edInit_nf : (edInit ps fs ts pen).nf = fs.length - ps.1 - ps.2 := by
  simp [edInit, EdSt.nf, middle_length]

theorem edInit_nt : (edInit ps fs ts pen).nt = ts.length - ps.1 - ps.2 := by
  simp [edInit, EdSt.nt, middle_length]

theorem edInit_rem : (edInit ps fs ts pen).rem = (middle fs ps).map (· + pen) := rfl
theorem edInit_ins : (edInit ps fs ts pen).ins = (middle ts ps).map (· + pen) := rfl
theorem edInit_ub0 : (edInit ps fs ts pen).ub0 = (fs.map (· + pen)).sum + (ts.map (· + pen)).sum := rfl

theorem edInit_lb0 : (edInit ps fs ts pen).lb0 =
    if fs.length < ts.length then (((sortNat ts).take (ts.length - fs.length)).map (· + pen)).sum
    else (((sortNat fs).take (fs.length - ts.length)).map (· + pen)).sum := by
  simp only [edInit]
  split <;> rfl

theorem lb_le_low (l : List Nat) {k v : Nat}
    (h : Low ((middle l ps).map (· + pen)) ((middle l ps).map (· + pen)).length k v) :
    (((sortNat l).take k).map (· + pen)).sum ≤ v := by
  obtain ⟨s, hs, hl, hv⟩ := h
  rw [List.take_length] at hs
  obtain ⟨s0, hs0, rfl⟩ := List.sublist_map_iff.mp hs
  have hsub := hs0.trans (middle_sublist l ps)
  have h1 := ksm_le_sublist l s0 hsub
  have := hsub.length_le
  rw [List.length_map] at hl
  subst hl
  rw [sum_map_add] at hv ⊢
  rw [List.length_take, sortNat_length, Nat.min_eq_left this]
  simp only [ksm] at h1
  omega

theorem lb_le_all (l : List Nat) (k : Nat) : (((sortNat l).take k).map (· + pen)).sum ≤ (l.map (· + pen)).sum := by
  have := take_sum_le_sum ((sortNat l).map (· + pen)) k
  rwa [← List.map_take, sum_map_add (sortNat l), sortNat_sum, sortNat_length, ← sum_map_add] at this

theorem edInit_stat (fm : List (List Nat)) (hf : ps.1 + ps.2 ≤ fs.length) (ht : ps.1 + ps.2 ≤ ts.length)
    (hpf : ∀ x ∈ fs, 0 < x + pen) (hpt : ∀ x ∈ ts, 0 < x + pen) : EdStat (edInit ps fs ts pen) fm := by
  have hnf := edInit_nf ps fs ts pen
  have hnt := edInit_nt ps fs ts pen
  refine ⟨?_, ?_, ?_, ?_, ?_⟩
  · exact List.forall_mem_map.mpr fun y hy => hpf y ((middle_sublist fs ps).subset hy)
  · exact List.forall_mem_map.mpr fun y hy => hpt y ((middle_sublist ts ps).subset hy)
  · rw [edInit_rem, edInit_ins, edInit_ub0, ← middle_map, ← middle_map]
    exact Nat.add_le_add (middle_sum_le _ ps) (middle_sum_le _ ps)
  · -- the corner of the greedy matrix costs at least |nf - nt| entries of the longer side
    obtain ⟨h1, h2⟩ := spec_lower (edInit ps fs ts pen).rem (edInit ps fs ts pen).ins fm
      (edInit ps fs ts pen).nt (edInit ps fs ts pen).nf (Nat.le_refl _) (Nat.le_refl _)
    show (edInit ps fs ts pen).lb0 ≤ (spec _ _ fm _ _).cost
    rw [edInit_lb0]
    split
    · exact lb_le_low ps pen ts (h2.mono (Nat.le_refl _) (by omega) (Nat.le_refl _))
    · exact lb_le_low ps pen fs (h1.mono (Nat.le_refl _) (by omega) (Nat.le_refl _))
  · intro h1 h2
    rw [hnf] at h1
    rw [hnt] at h2
    have pos : ∀ {n p q : Nat}, 0 < n - p - q → 0 < n := fun h =>
      Nat.lt_of_lt_of_le h (Nat.le_trans (Nat.sub_le _ _) (Nat.sub_le _ _))
    have posf := sum_map_pos (pos h1) hpf
    have post := sum_map_pos (pos h2) hpt
    rw [edInit_ub0, edInit_lb0]
    split
    · exact Nat.lt_of_le_of_lt (lb_le_all pen ts _) (Nat.lt_add_of_pos_left posf)
    · exact Nat.lt_of_le_of_lt (lb_le_all pen fs _) (Nat.lt_add_of_pos_right post)

theorem edInit_inv (g : Ghost) (cells : List (List M)) (hf : ps.1 + ps.2 ≤ fs.length) (ht : ps.1 + ps.2 ≤ ts.length)
    (hpf : ∀ x ∈ fs, 0 < x + pen) (hpt : ∀ x ∈ ts, 0 < x + pen)
    (hnz : 0 < (ts.length - ps.1 - ps.2) + (fs.length - ps.1 - ps.2))
    (hsh : MShape cells (ts.length - ps.1 - ps.2) (fs.length - ps.1 - ps.2))
    (hI : ∀ row ∈ cells, ∀ m ∈ row, g.I m) : EdInv g (edInit ps fs ts pen) cells := by
  have hnf := edInit_nf ps fs ts pen
  have hnt := edInit_nt ps fs ts pen
  have hfr : (edInit ps fs ts pen).fr = -1 := rfl
  have hca : (edInit ps fs ts pen).cache = none := rfl
  refine ⟨by rw [hnf, hnt]; exact hnz, ⟨by rw [hfr]; omega, by rw [hfr]; omega, by simp [edInit], fun _ => rfl⟩,
    by rw [hnf, hnt]; exact hsh, hI, ?_, ?_, by rw [hfr]; omega, ?_, ?_, ?_,
    edInit_stat ps fs ts pen _ hf ht hpf hpt⟩
  · refine ⟨zeroTable_shape _ _, zeroTable_shape _ _, ?_⟩
    intro r c _ _ hF
    rcases hF with ⟨rfl, rfl⟩ | ⟨h, _⟩
    · constructor
      · simp [edInit, tget, zeroTable, edT, spec, origin, pure, Except.pure]
      · simp [edInit, tget, zeroTable, edT, spec, origin, pure, Except.pure]
    · rw [hfr] at h; omega
  · intro r c m _ _ hD
    have := hD.2.2.1
    rw [hfr] at this; omega
  · simp [edInit]
  · intro h; rw [hca] at h; simp at h
  · intro tr h; rw [hca] at h; cases h

end

end GtModel.Lazy
