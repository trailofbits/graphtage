/-
  `strLt` (Python's `<` on `str`, as lists of code points) is core's `<` on `List Nat`, hence a strict total order;
  `sortKV` (the model of `sorted(...)` in `DictNode.from_dict`) returns the unique strictly key-sorted permutation of
  its input when the keys are distinct.
-/
import GtModel.Model.Tree

namespace GtModel

theorem strLt_iff_lt : ∀ (a b : Str), strLt a b = true ↔ a < b
  | [], [] => by simp [strLt]
  | [], _ :: _ => by simp [strLt]
  | _ :: _, [] => by simp [strLt]
  | x :: a, y :: b => by
    rw [strLt, List.cons_lt_cons_iff, ← strLt_iff_lt a b]
    split
    · simp [*]
    · split
      · simp only [Bool.false_eq_true, false_iff]; omega
      · have : x = y := by omega
        simp [*]

theorem strLt_irrefl : ∀ (a : Str), strLt a a = false :=
  fun a => Bool.eq_false_iff.2 fun h => List.lt_irrefl a ((strLt_iff_lt a a).1 h)

theorem strLt_trans : ∀ (a b c : Str), strLt a b = true → strLt b c = true → strLt a c = true := by
  intro a b c h1 h2
  exact (strLt_iff_lt a c).2 (List.lt_trans ((strLt_iff_lt a b).1 h1) ((strLt_iff_lt b c).1 h2))

theorem strLt_total : ∀ (a b : Str), a ≠ b → strLt a b = true ∨ strLt b a = true := by
  intro a b h
  rw [strLt_iff_lt, strLt_iff_lt]
  exact (List.le_total a b).imp (fun h1 => (List.le_iff_lt_or_eq.1 h1).resolve_right h)
    fun h1 => (List.le_iff_lt_or_eq.1 h1).resolve_right (Ne.symm h)

theorem strLt_asymm (a b : Str) (h1 : strLt a b = true) (h2 : strLt b a = true) : False :=
  List.lt_asymm ((strLt_iff_lt a b).1 h1) ((strLt_iff_lt b a).1 h2)

theorem strLt_ne {a b : Str} (h : strLt a b = true) : a ≠ b := by
  intro e; subst e; rw [strLt_irrefl] at h; exact Bool.false_ne_true h

section SortSec
variable {α : Type}

theorem insertKV_perm (k : Str) (v : α) : ∀ (l : List (Str × α)), (insertKV k v l).Perm ((k, v) :: l) := by
  intro l
  induction l with
  | nil => simp [insertKV]
  | cons p l ih =>
    obtain ⟨k', v'⟩ := p
    simp only [insertKV]
    split
    · exact List.Perm.refl _
    · exact (List.Perm.cons _ ih).trans (List.Perm.swap _ _ _)

theorem sortKV_perm : ∀ (l : List (Str × α)), (sortKV l).Perm l := by
  intro l
  induction l with
  | nil => simp [sortKV]
  | cons p l ih =>
    obtain ⟨k, v⟩ := p
    simp only [sortKV]
    exact (insertKV_perm k v _).trans (List.Perm.cons _ ih)

def SortedKV (l : List (Str × α)) : Prop := l.Pairwise (fun p q => strLt p.1 q.1 = true)

theorem insertKV_sorted (k : Str) (v : α) : ∀ (l : List (Str × α)), SortedKV l → (∀ p ∈ l, p.1 ≠ k) →
    SortedKV (insertKV k v l) := by
  intro l
  induction l with
  | nil => intro _ _; simp [insertKV, SortedKV]
  | cons p l ih =>
    intro hs hk
    obtain ⟨k', v'⟩ := p
    simp only [insertKV]
    simp only [SortedKV, List.pairwise_cons] at hs
    split
    · rename_i hlt
      simp only [SortedKV, List.pairwise_cons]
      refine ⟨?_, hs⟩
      intro q hq
      simp only [List.mem_cons] at hq
      rcases hq with rfl | hq
      · exact hlt
      · exact strLt_trans _ _ _ hlt (hs.1 q hq)
    · rename_i hlt
      have hne : k' ≠ k := hk (k', v') (by simp)
      have hlt' : strLt k' k = true := by
        rcases strLt_total k' k hne with h | h
        · exact h
        · exact absurd h hlt
      have ih' := ih hs.2 (fun p hp => hk p (by simp [hp]))
      simp only [SortedKV, List.pairwise_cons]
      refine ⟨?_, ih'⟩
      intro q hq
      have := (insertKV_perm k v l).subset hq
      simp only [List.mem_cons] at this
      rcases this with rfl | hq
      · exact hlt'
      · exact hs.1 q hq

theorem sortKV_sorted : ∀ (l : List (Str × α)), (l.map Prod.fst).Nodup → SortedKV (sortKV l) := by
  intro l
  induction l with
  | nil => intro _; simp [sortKV, SortedKV]
  | cons p l ih =>
    intro hn
    obtain ⟨k, v⟩ := p
    simp only [List.map_cons, List.nodup_cons, List.mem_map, not_exists, not_and] at hn
    simp only [sortKV]
    refine insertKV_sorted k v _ (ih hn.2) ?_
    intro p hp e
    exact hn.1 p ((sortKV_perm l).subset hp) e

theorem sorted_perm_eq {l₁ l₂ : List (Str × α)} (h₁ : SortedKV l₁) (h₂ : SortedKV l₂) (hp : l₁.Perm l₂) :
    l₁ = l₂ :=
  List.Perm.eq_of_pairwise (le := fun (p q : Str × α) => strLt p.1 q.1 = true)
    (fun a b _ _ hab hba => (strLt_asymm a.1 b.1 hab hba).elim) h₁ h₂ hp

theorem sortKV_perm_eq {l₁ l₂ : List (Str × α)} (hn : (l₁.map Prod.fst).Nodup) (hp : l₁.Perm l₂) :
    sortKV l₁ = sortKV l₂ := by
  have hn2 : (l₂.map Prod.fst).Nodup := (hp.map Prod.fst).nodup hn
  exact sorted_perm_eq (sortKV_sorted l₁ hn) (sortKV_sorted l₂ hn2)
    ((sortKV_perm l₁).trans (hp.trans (sortKV_perm l₂).symm))

theorem sortKV_length (l : List (Str × α)) : (sortKV l).length = l.length := (sortKV_perm l).length_eq

theorem mem_sortKV {l : List (Str × α)} {p : Str × α} : p ∈ sortKV l ↔ p ∈ l := (sortKV_perm l).mem_iff

theorem sortKV_keys_nodup {l : List (Str × α)} (h : (l.map Prod.fst).Nodup) : ((sortKV l).map Prod.fst).Nodup :=
  ((sortKV_perm l).map Prod.fst).symm.nodup h

end SortSec

example : sortKV [([98], 1), ([97], 2), ([97, 0], 3)] = sortKV [([97, 0], 3), ([98], 1), ([97], 2)] := by decide

end GtModel
