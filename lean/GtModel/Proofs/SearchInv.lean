/- `IterativeTighteningSearch`: abstract-heap lemmas, the invariant of the two heaps with stale keys, and how the
   heap operations keep it. -/
import GtModel.Model.Search
import GtModel.Proofs.BoundedLemmas

namespace GtModel.Bounded
open GtModel

variable {fs : List Int} {s s' : SS}

def IsMin (es : List HEntry) (m : HEntry) : Prop := m ∈ es ∧ ∀ x ∈ es, Range.lt x.key m.key = false

theorem IsMin.single (e : HEntry) : IsMin [e] e :=
  ⟨List.mem_singleton_self e, fun x hx => by rw [List.mem_singleton.mp hx]; exact Range.lt_irrefl _⟩

theorem IsMin.new {es l : List HEntry} {m e : HEntry} (hm : IsMin es m) (hl : ∀ x ∈ l, x ∈ es ∨ x = e) (he : e ∈ l)
    (h : Range.lt m.key e.key = false) : IsMin l e :=
  ⟨he, fun x hx => (hl x hx).elim (fun hx => Range.not_lt_trans (hm.2 x hx) h) fun hx => hx ▸ Range.lt_irrefl _⟩

theorem IsMin.old {es l : List HEntry} {m e : HEntry} (hm : IsMin es m) (hl : ∀ x ∈ l, x ∈ es ∨ x = e)
    (hs : ∀ x ∈ es, x ∈ l) (h : Range.lt e.key m.key = false) : IsMin l m :=
  ⟨hs m hm.1, fun x hx => (hl x hx).elim (hm.2 x) fun hx => hx ▸ h⟩

structure HeapOK (h : Heap) : Prop where
  es_nil : h.min = none → h.es = []
  isMin : ∀ m, h.min = some m → IsMin h.es m

theorem HeapOK.min_mem {h : Heap} (hk : HeapOK h) {m : HEntry} (hm : h.min = some m) : m ∈ h.es := (hk.isMin m hm).1

theorem HeapOK.empty : HeapOK Heap.empty := ⟨fun _ => rfl, fun _ h => nomatch h⟩

theorem push_es (h : Heap) (nid item : Nat) (key : Range) : (h.push nid item key).es = h.es ++ [⟨nid, item, key⟩] := by
  unfold Heap.push; split <;> rfl

theorem mem_push {h : Heap} {nid item : Nat} {key : Range} {e : HEntry} :
    e ∈ (h.push nid item key).es ↔ e ∈ h.es ∨ e = ⟨nid, item, key⟩ := by
  rw [push_es, List.mem_append, List.mem_singleton]

theorem HeapOK.push {h : Heap} (hk : HeapOK h) (nid item : Nat) (key : Range) : HeapOK (h.push nid item key) := by
  have hl : ∀ x ∈ h.es ++ [⟨nid, item, key⟩], x ∈ h.es ∨ x = ⟨nid, item, key⟩ := fun x hx => by simpa using hx
  unfold Heap.push
  split
  · rename_i hm
    rw [hk.es_nil hm]
    exact ⟨(fun h => nomatch h), fun m hm' => by cases hm'; exact .single _⟩
  · rename_i m hm
    refine ⟨fun h' => (by split at h' <;> cases h'), fun m' hm' => ?_⟩
    split at hm' <;> rename_i hlt <;> cases hm'
    · exact (hk.isMin m hm).new hl (by simp) (Range.lt_asymm hlt)
    · exact (hk.isMin m hm).old hl (fun x hx => List.mem_append_left _ hx) (by simpa using hlt)

theorem HeapOK.isEmpty_iff {h : Heap} (hk : HeapOK h) : h.isEmpty = true ↔ h.min = none := by
  unfold Heap.isEmpty
  constructor
  · intro he
    cases hm : h.min with
    | none => rfl
    | some m => have := hk.min_mem hm; rw [List.isEmpty_iff.mp he] at this; cases this
  · intro hm; rw [hk.es_nil hm]; rfl

theorem peek_eq (h : Heap) : h.peek = h.min.map (·.item) := rfl

theorem isMinIn_spec {es : List HEntry} {e : HEntry} (h : Heap.isMinIn es e = true) : IsMin es e := by
  unfold Heap.isMinIn at h
  simp at h
  exact ⟨h.1, fun x hx => h.2 x hx⟩

theorem firstMin_ok : ∀ (es : List HEntry), HeapOK ⟨es, Heap.firstMin es⟩
  | [] => ⟨fun _ => rfl, fun _ h => nomatch h⟩
  | e :: es => by
    obtain ⟨ih1, ih2⟩ := firstMin_ok es
    have hl : ∀ x ∈ e :: es, x ∈ es ∨ x = e := fun x hx => (List.mem_cons.mp hx).symm
    unfold Heap.firstMin
    cases hf : Heap.firstMin es with
    | none =>
      cases ih1 hf
      exact ⟨(fun h => nomatch h), fun m hm => by cases hm; exact .single _⟩
    | some m0 =>
      refine ⟨fun h => (by dsimp only at h; split at h <;> cases h), fun m hm => ?_⟩
      dsimp only at hm
      split at hm <;> rename_i hlt <;> cases hm
      · exact (ih2 m0 hf).old hl (fun x hx => List.mem_cons_of_mem _ hx) (Range.lt_asymm hlt)
      · exact (ih2 m0 hf).new hl (List.mem_cons_self ..) (by simpa using hlt)

theorem newMinOf_ok (es' : List HEntry) (ans : Option Nat) : HeapOK ⟨es', (newMinOf es' ans).1⟩ := by
  unfold newMinOf
  cases es' with
  | nil => exact ⟨fun _ => rfl, fun _ h => nomatch h⟩
  | cons e0 es0 =>
    dsimp only
    split
    · split
      · rename_i hmin
        exact ⟨(fun h => nomatch h), fun m h => by cases h; exact isMinIn_spec hmin⟩
      · exact firstMin_ok _
    · exact firstMin_ok _

theorem min'_le_left (a b : Bound) : Bound.le (Bound.min' a b) a = true := by
  unfold Bound.min'; split
  · rename_i h; exact Bound.le_of_lt h
  · exact Bound.le_refl _

theorem min'_le_right (a b : Bound) : Bound.le (Bound.min' a b) b = true := by
  unfold Bound.min'; split
  · exact Bound.le_refl _
  · rename_i h; exact Bound.not_lt_iff_le.mp (by simpa using h)

theorem le_min' {c a b : Bound} (h1 : Bound.le c a = true) (h2 : Bound.le c b = true) :
    Bound.le c (Bound.min' a b) = true := by
  unfold Bound.min'; split <;> assumption

def foldLb (es : List HEntry) (init : Bound) : Bound := es.foldl (fun lb e => Bound.min' e.key.lo lb) init

theorem foldLb_spec : ∀ (es : List HEntry) (init : Bound),
    Bound.le (foldLb es init) init = true ∧ (∀ e ∈ es, Bound.le (foldLb es init) e.key.lo = true) ∧
    (∀ c, Bound.le c init = true → (∀ e ∈ es, Bound.le c e.key.lo = true) → Bound.le c (foldLb es init) = true)
  | [], init => ⟨Bound.le_refl _, (fun _ h => nomatch h), fun _ h _ => h⟩
  | e0 :: es, init => by
    obtain ⟨i1, i2, i3⟩ := foldLb_spec es (Bound.min' e0.key.lo init)
    refine ⟨Bound.le_trans i1 (min'_le_right _ _), fun x hx => ?_, fun c hc hall => ?_⟩
    · rcases List.mem_cons.mp hx with rfl | hx
      · exact Bound.le_trans i1 (min'_le_left _ _)
      · exact i2 x hx
    · exact i3 c (le_min' (hall e0 (List.mem_cons_self ..)) hc) fun x hx => hall x (List.mem_cons_of_mem _ hx)

theorem staleLb_eq (s : SS) : staleLb s = foldLb (s.u.es ++ s.t.es) .posInf := rfl


theorem staleLb_le {e : HEntry} (he : e ∈ s.u.es ∨ e ∈ s.t.es) : Bound.le (staleLb s) e.key.lo = true :=
  (foldLb_spec _ _).2.1 e (List.mem_append.mpr he)

def OptIdx (fs : List Int) (i : Nat) : Prop :=
  ∃ n, fs[i]? = some n ∧ ∀ (k : Nat) (nk : Int), fs[k]? = some nk → n ≤ nk

/-- a node of `_untightened` has a STALE key (read when it was pushed): all that is kept of it is that it contains the
item's current bounds -/
def UEntryOK (σ : St) (e : HEntry) : Prop :=
  ∃ a, σ[e.item]? = some a ∧ a.rest ≠ [] ∧ Bound.le e.key.lo a.cur.lo = true ∧ Bound.le a.cur.hi e.key.hi = true

/-- a node of `_tightened` belongs to a finished item, so its key, the final point, cannot go stale -/
def TEntryOK (σ : St) (e : HEntry) : Prop := ∃ a, σ[e.item]? = some a ∧ a.rest = [] ∧ e.key = a.cur

def Node (s : SS) (e : HEntry) : Prop := e ∈ s.u.es ∨ e ∈ s.t.es

def AliveIdx (s : SS) (i : Nat) : Prop := (∃ l, s.unproc = some l ∧ i ∈ l) ∨ ∃ e, Node s e ∧ e.item = i

structure SCore (fs : List Int) (s : SS) : Prop where
  valid : ValidSt s.σ fs
  /-- default `initial_bounds` only: with an explicit one the statements are false (three witnesses at the end of
  Props/C17) -/
  ib : s.ib = ⟨.negInf, .posInf⟩
  uOK : ∀ e ∈ s.u.es, UEntryOK s.σ e
  tOK : ∀ e ∈ s.t.es, TEntryOK s.σ e
  uHeap : HeapOK s.u
  tHeap : HeapOK s.t
  /-- at most one node per item in `_untightened`: after tightening `node.item` only that node's key has to be justified
  anew (`erase_item_ne`, `SCore.tighten`) -/
  uNodup : (s.u.es.map (·.item)).Nodup
  /-- the items not yet read are distinct, exist, and have no node in `_untightened` yet (so `pushU` keeps `uNodup`) -/
  pend : ∀ l, s.unproc = some l → l.Nodup ∧ ∀ k ∈ l, k < s.σ.length ∧ ∀ e ∈ s.u.es, e.item ≠ k
  unsup : s.unsupported = false

structure SInv (fs : List Int) (s : SS) : Prop extends SCore fs s where
  /-- why the result is a minimum: neither `_update_bounds` (`forloop_step`) nor the goal branch (`goal_step`) ever
  removes the only optimum -/
  alive : fs ≠ [] → ∃ i, OptIdx fs i ∧ AliveIdx s i

theorem exists_opt : ∀ (fs : List Int), fs ≠ [] → ∃ i, OptIdx fs i
  | [], h => absurd rfl h
  | [a], _ => ⟨0, a, rfl, fun k nk hk => by
      cases k with
      | zero => cases hk; exact Int.le_refl _
      | succ k => cases hk⟩
  | a :: b :: l, _ => by
    obtain ⟨j, n, hn, hmin⟩ := exists_opt (b :: l) (List.cons_ne_nil _ _)
    by_cases hle : a ≤ n
    · refine ⟨0, a, rfl, fun k nk hk => ?_⟩
      cases k with
      | zero => cases hk; exact Int.le_refl _
      | succ k => exact Int.le_trans hle (hmin k nk hk)
    · refine ⟨j + 1, n, hn, fun k nk hk => ?_⟩
      cases k with
      | zero => cases hk; omega
      | succ k => exact hmin k nk hk

theorem SInv.init {σ : St} (hv : ValidSt σ fs) : SInv fs (SS.init σ ⟨.negInf, .posInf⟩) := by
  refine ⟨⟨hv, rfl, (fun e h => nomatch h), (fun e h => nomatch h), HeapOK.empty, HeapOK.empty, List.nodup_nil, ?_, rfl⟩,
    fun hne => ?_⟩
  · intro l hl
    cases hl
    exact ⟨List.nodup_range, fun k hk => ⟨List.mem_range.mp hk, fun e he => nomatch he⟩⟩
  · obtain ⟨i, ho⟩ := exists_opt fs hne
    have ⟨n, hn, _⟩ := ho
    exact ⟨i, ho, .inl ⟨_, rfl, List.mem_range.mpr (hv.1 ▸ (List.getElem?_eq_some_iff.mp hn).1)⟩⟩

theorem SInv.of_core (h : SInv fs s) (hc : SCore fs s')
    (hal : ∀ i, OptIdx fs i → AliveIdx s i → ∃ i', OptIdx fs i' ∧ AliveIdx s' i') : SInv fs s' :=
  ⟨hc, fun hne => let ⟨i, ho, ha⟩ := h.alive hne; hal i ho ha⟩

theorem AliveIdx.node (hun : s.unproc = none) {i : Nat} (h : AliveIdx s i) : ∃ e, Node s e ∧ e.item = i :=
  h.elim (fun ⟨l, hl, _⟩ => by rw [hun] at hl; cases hl) id

theorem erase_item_ne {es : List HEntry} {x : HEntry} (hn : (es.map (·.item)).Nodup) (hx : x ∈ es) :
    ∀ e ∈ es.erase x, e.item ≠ x.item := fun e he heq =>
  have := ((List.perm_cons_erase hx).map (·.item)).nodup_iff.mp hn
  (List.nodup_cons.mp this).1 (List.mem_map.mpr ⟨e, he, heq⟩)

theorem UEntryOK.tightenAt_ne {σ : St} {e : HEntry} (h : UEntryOK σ e) {x : Nat} (hne : e.item ≠ x) :
    UEntryOK (tightenAt σ x).2 e := by
  obtain ⟨a, ha, r⟩ := h
  exact ⟨a, by rw [tightenAt_get_ne hne]; exact ha, r⟩

theorem TEntryOK.tightenAt {σ : St} {e : HEntry} (h : TEntryOK σ e) (x : Nat) : TEntryOK (tightenAt σ x).2 e := by
  obtain ⟨a, ha, hr, hk⟩ := h
  obtain ⟨a', ha', hr', hc'⟩ := rest_nil_tightenAt x ha hr
  exact ⟨a', ha', hr', by rw [hk, hc']⟩

/-- what tightening the item of node `e` (from `a` to `a'`) leaves true of the node's stale key -/
structure Tightened (σ : St) (e : HEntry) (a a' : Item) : Prop where
  old : σ[e.item]? = some a
  new : (tightenAt σ e.item).2[e.item]? = some a'
  ok : (tightenAt σ e.item).1 = true
  hi : Bound.le a'.cur.hi a.cur.hi = true
  keyLo : Bound.le e.key.lo a'.cur.lo = true
  keyHi : Bound.le a'.cur.hi e.key.hi = true

theorem tightenAt_rel_any {σ : St} (hv : ValidSt σ fs) {k : Nat} {a : Item} (ha : σ[k]? = some a) :
    ∃ a', (tightenAt σ k).2[k]? = some a' ∧ Bound.le a'.cur.hi a.cur.hi = true ∧
      Bound.le a.cur.lo a'.cur.lo = true := by
  obtain ⟨n, _, va⟩ := hv.get ha
  obtain ⟨c1, c2⟩ := Range.contains_iff.mp va.tighten_contains
  exact ⟨_, (tightenAt_get_eq ha).1, c2, c1⟩

theorem UEntryOK.tightenAt_self {σ : St} (hv : ValidSt σ fs) {e : HEntry} (h : UEntryOK σ e) :
    ∃ a a', Tightened σ e a a' := by
  obtain ⟨a, ha, hr, l1, l2⟩ := h
  obtain ⟨a', ha', c2, c1⟩ := tightenAt_rel_any hv ha
  refine ⟨a, a', ha, ha', ?_, c2, Bound.le_trans l1 c1, Bound.le_trans c2 l2⟩
  rw [(tightenAt_get_eq ha).2]
  cases ht : (a.tighten).1
  · exact absurd (Item.tighten_fst_false.mp ht) hr
  · rfl

theorem pushU_eq {k : Nat} {r : Range} (h : curAt s.σ k = some r) :
    pushU s k = { s with u := s.u.push s.next k r, next := s.next + 1 } := by
  unfold pushU; rw [h]

theorem pushT_eq {k : Nat} {r : Range} (h : curAt s.σ k = some r) :
    pushT s k = { s with t := s.t.push s.next k r, next := s.next + 1 } := by
  unfold pushT; rw [h]

theorem pushByDef_eq {k : Nat} {r : Range} (h : curAt s.σ k = some r) :
    pushByDef s k = if r.definitive = true then pushT s k else pushU s k := by
  unfold pushByDef; rw [h]

/-- the core invariant after tightening item `x`, for a state whose heaps hold nodes of before; only a node of
`_untightened` for `x` itself has to be justified anew -/
theorem SCore.tighten (hc : SCore fs s) (x : Nat) (hσ : s'.σ = (tightenAt s.σ x).2)
    (hun : s'.unproc = s.unproc) (hib : s'.ib = s.ib) (hus : s'.unsupported = s.unsupported)
    (hu : HeapOK s'.u) (ht : HeapOK s'.t) (su : s'.u.es.Sublist s.u.es) (st : ∀ e ∈ s'.t.es, e ∈ s.t.es)
    (hok : ∀ e ∈ s'.u.es, e.item = x → UEntryOK s'.σ e) : SCore fs s' := by
  refine ⟨hσ ▸ hc.valid.tightenAt x, hib.trans hc.ib, fun e he => ?_, fun e he => ?_, hu, ht,
    hc.uNodup.sublist (su.map _), fun l hl => ?_, hus.trans hc.unsup⟩
  · by_cases hx : e.item = x
    · exact hok e he hx
    · rw [hσ]; exact (hc.uOK e (su.subset he)).tightenAt_ne hx
  · rw [hσ]; exact (hc.tOK e (st e he)).tightenAt x
  · obtain ⟨nd, rest⟩ := hc.pend l (hun ▸ hl)
    refine ⟨nd, fun k hk => ⟨?_, fun e he => (rest k hk).2 e (su.subset he)⟩⟩
    rw [hσ, tightenAt_length]; exact (rest k hk).1

theorem SCore.pushT (hc : SCore fs s) {k : Nat} {a : Item} (ha : s.σ[k]? = some a)
    (hr : a.rest = []) : SCore fs (pushT s k) := by
  rw [pushT_eq (curAt_of_get ha)]
  refine { hc with tOK := fun e he => ?_, tHeap := hc.tHeap.push _ _ _ }
  rcases mem_push.mp he with he | rfl
  · exact hc.tOK e he
  · exact ⟨a, ha, hr, rfl⟩

theorem SCore.pushU (hc : SCore fs s) {k : Nat} {a : Item} (ha : s.σ[k]? = some a)
    (hr : a.rest ≠ []) (hu : ∀ e ∈ s.u.es, e.item ≠ k) (hp : ∀ l, s.unproc = some l → k ∉ l) :
    SCore fs (pushU s k) := by
  rw [pushU_eq (curAt_of_get ha)]
  refine { hc with uOK := fun e he => ?_, uHeap := hc.uHeap.push _ _ _, uNodup := ?_, pend := fun l hl => ?_ }
  · rcases mem_push.mp he with he | rfl
    · exact hc.uOK e he
    · exact ⟨a, ha, hr, Bound.le_refl _, Bound.le_refl _⟩
  · show ((s.u.push s.next k a.cur).es.map (·.item)).Nodup
    rw [push_es, List.map_append, List.nodup_append]
    refine ⟨hc.uNodup, by simp, fun x hx y hy => ?_⟩
    obtain ⟨e, he, rfl⟩ := List.mem_map.mp hx
    rw [List.map_singleton, List.mem_singleton] at hy
    exact hy ▸ hu e he
  · obtain ⟨nd, rest⟩ := hc.pend l hl
    refine ⟨nd, fun k' hk' => ⟨(rest k' hk').1, fun e he => ?_⟩⟩
    rcases mem_push.mp he with he | rfl
    · exact (rest k' hk').2 e he
    · exact fun h => hp l hl (by rw [show k = k' from h]; exact hk')

theorem SCore.pushByDef (hc : SCore fs s) {k : Nat} {a : Item} (ha : s.σ[k]? = some a)
    (hu : ∀ e ∈ s.u.es, e.item ≠ k) (hp : ∀ l, s.unproc = some l → k ∉ l) :
    SCore fs (pushByDef s k) ∧ (∀ e, Node s e → Node (pushByDef s k) e) ∧
    ((pushByDef s k).u.es = s.u.es ∧ (pushByDef s k).t.es = s.t.es ++ [⟨s.next, k, a.cur⟩] ∧ a.rest = [] ∨
     (pushByDef s k).t.es = s.t.es ∧ (pushByDef s k).u.es = s.u.es ++ [⟨s.next, k, a.cur⟩] ∧ a.rest ≠ []) := by
  obtain ⟨n, _, va⟩ := hc.valid.get ha
  have hcur := curAt_of_get ha
  rw [pushByDef_eq hcur]
  split
  · rename_i hdef
    have hr := (va.definitive hdef).2
    refine ⟨hc.pushT ha hr, ?_, .inl ?_⟩ <;> rw [pushT_eq hcur]
    · exact fun e he => he.imp id fun h => by rw [push_es]; exact List.mem_append_left _ h
    · exact ⟨rfl, push_es _ _ _ _, hr⟩
  · rename_i hdef
    have hr : a.rest ≠ [] := fun hr => hdef (va.definitive_iff.mpr hr)
    refine ⟨hc.pushU ha hr hu hp, ?_, .inr ?_⟩ <;> rw [pushU_eq hcur]
    · exact fun e he => he.imp (fun h => by rw [push_es]; exact List.mem_append_left _ h) id
    · exact ⟨rfl, push_es _ _ _ _, hr⟩

end GtModel.Bounded
