/-
  The work-stack machine of `Builder.build_tree` computes the path recursion `dfs` (same tree, same error), and
  the work-stack machine of `TreeNode.copy` computes `copyRec`.  Both recursions are a `List.mapM` over the children
  followed by the per-node function; a run of a machine ends in `after r k`: `k` applied to the result `r`, or the
  failed configuration if `r` is an error.
-/
import GtModel.Proofs.BuilderBasic

namespace GtModel.Builder

/-- what the traversal does with one child `c` of a node whose ancestors (itself included) are `path` -/
def visit (b : BKind) (o : Opts) (s : Store) (recur : Ref → Except Err Tree) (path : List Ref) (c : Ref) :
    Except Err Tree :=
  if scans b o s (expand b s c) && path.contains c then
    (if o.ign then pure (Tree.cyc c 1) else throw Err.cycle)
  else recur c

theorem dfsChildren_eq_mapM (b : BKind) (o : Opts) (s : Store) (recur : Ref → Except Err Tree) (path cs : List Ref) :
    dfsChildren b o s recur path cs = cs.mapM (visit b o s recur path) := by
  induction cs with
  | nil => rfl
  | cons c cs ih =>
    rw [dfsChildren, ih, List.mapM_cons, visit]
    split <;> rfl

theorem dfsChildren_cons (b : BKind) (o : Opts) (s : Store) (recur : Ref → Except Err Tree) (path : List Ref) (c : Ref)
    (cs : List Ref) :
    dfsChildren b o s recur path (c :: cs) =
      ((if (scans b o s (expand b s c) && path.contains c) = true then
          (if o.ign = true then Except.ok (Tree.cyc c 1) else Except.error Err.cycle)
        else recur c) >>= fun t => dfsChildren b o s recur path cs >>= fun ts => Except.ok (t :: ts)) := by
  rw [dfsChildren_eq_mapM, List.mapM_cons, ← dfsChildren_eq_mapM]
  rfl

theorem visit_cases (b : BKind) (o : Opts) (s : Store) (recur : Ref → Except Err Tree) (path : List Ref) (c : Ref) :
    (o.ign = true ∧ visit b o s recur path c = .ok (.cyc c 1)) ∨
    ((scans b o s (expand b s c) && path.contains c) = true ∧ o.ign = false ∧
      visit b o s recur path c = .error .cycle) ∨
    ((scans b o s (expand b s c) && path.contains c) = false ∧ visit b o s recur path c = recur c) := by
  unfold visit
  by_cases hs : (scans b o s (expand b s c) && path.contains c) = true
  · rw [if_pos hs]
    by_cases hi : o.ign = true
    · exact .inl ⟨hi, by rw [if_pos hi]; rfl⟩
    · exact .inr (.inl ⟨hs, Bool.eq_false_iff.2 hi, by rw [if_neg hi]; rfl⟩)
  · exact .inr (.inr ⟨Bool.eq_false_iff.2 hs, by rw [if_neg hs]⟩)

theorem visit_of_not_mem (b : BKind) (o : Opts) (s : Store) (recur : Ref → Except Err Tree) {path : List Ref} {c : Ref}
    (h : c ∉ path) : visit b o s recur path c = recur c := by
  rw [visit, List.contains_eq_mem, decide_eq_false h, Bool.and_false]
  rfl

theorem dfs_succ (b : BKind) (o : Opts) (s : Store) (d : Nat) (path : List Ref) (x : Ref) :
    dfs b o s (d + 1) path x =
      (expand b s x).mapM (visit b o s (dfs b o s d (x :: path)) (x :: path)) >>= fun ts =>
        liftB (buildNode b o s x ts) := by
  rw [dfs, dfsChildren_eq_mapM]

theorem copyRecList_eq_mapM (cs : List Tree) : copyRecList cs = cs.mapM copyRec := by
  induction cs with
  | nil => rfl
  | cons t ts ih => rw [copyRecList, ih, List.mapM_cons]

theorem copyRec_eq (t : Tree) : copyRec t = t.children.mapM copyRec >>= copyFrom t := by
  cases t with
  | node tag cs => rw [copyRec, copyRecList_eq_mapM]; rfl
  | _ => rfl

section Build
variable {b : BKind} {o : Opts} {s : Store}

theorem runSteps_done (n : Nat) (t : Tree) : runSteps b o s n (.done t) = .done t := by
  cases n <;> rfl

theorem runSteps_fail (n : Nat) (e : Err) : runSteps b o s n (.fail e) = .fail e := by
  cases n <;> rfl

theorem runSteps_add (m n : Nat) (st : Step) :
    runSteps b o s (m + n) st = runSteps b o s n (runSteps b o s m st) := by
  induction m generalizing st with
  | zero => rw [Nat.zero_add]; rfl
  | succ m ih =>
    rw [Nat.add_right_comm]
    cases st with
    | cont w => exact ih _
    | done t => rw [runSteps_done, runSteps_done, runSteps_done]
    | fail e => rw [runSteps_fail, runSteps_fail, runSteps_fail]

def Reaches (b : BKind) (o : Opts) (s : Store) (st st' : Step) : Prop := ∃ n, runSteps b o s n st = st'

variable (b o s) in
theorem Reaches.step (w : List Frame) : Reaches b o s (.cont w) (step b o s w) := ⟨1, rfl⟩

def Step.after {α} (r : Except Err α) (k : α → Step) : Step :=
  match r with
  | .ok a => k a
  | .error e => .fail e

def deliver (t : Tree) : List Frame → Step
  | [] => .done t
  | p :: rest => .cont ({ p with processed := p.processed ++ [t] } :: rest)

/-- what the children loop needs of the recursive call: pushed child `c` ends appended to its parent's frame -/
def SimHyp (b : BKind) (o : Opts) (s : Store) (recur : Ref → Except Err Tree) (x : Ref) (rest : List Frame) : Prop :=
  ∀ (c : Ref) (proc : List Tree) (more : List Ref), recur c ≠ .error .outOfFuel →
    Reaches b o s (.cont (⟨c, [], expand b s c⟩ :: ⟨x, proc, more⟩ :: rest))
      (Step.after (recur c) fun t => .cont (⟨x, proc ++ [t], more⟩ :: rest))

theorem Reaches.refl (st : Step) : Reaches b o s st st := ⟨0, rfl⟩

theorem Reaches.trans {a c d : Step} (h1 : Reaches b o s a c) (h2 : Reaches b o s c d) : Reaches b o s a d := by
  obtain ⟨m, hm⟩ := h1
  obtain ⟨n, hn⟩ := h2
  exact ⟨m + n, by rw [runSteps_add, hm, hn]⟩

/-- The budget error of `dfs` is the one outcome the machine does not reproduce. -/
theorem Reaches.bind {α β} {st : Step} {x : Except Err α} {f : α → Except Err β} {k1 : α → Step} {k2 : β → Step}
    (hne : x >>= f ≠ .error .outOfFuel) (h1 : x ≠ .error .outOfFuel → Reaches b o s st (Step.after x k1))
    (h2 : ∀ a, f a ≠ .error .outOfFuel → Reaches b o s (k1 a) (Step.after (f a) k2)) :
    Reaches b o s st (Step.after (x >>= f) k2) := by
  cases x with
  | error e => exact h1 fun h => hne (congrArg (· >>= f) h)
  | ok a => exact (h1 nofun).trans (h2 a fun h => hne h)

theorem step_finish (x : Ref) (proc : List Tree) (rest : List Frame) :
    step b o s (⟨x, proc, []⟩ :: rest) = Step.after (liftB (buildNode b o s x proc)) fun t => deliver t rest := by
  rw [step]
  cases buildNode b o s x proc with
  | error e => rfl
  | ok t => cases rest <;> rfl

theorem visit_sim {recur : Ref → Except Err Tree} {x : Ref} {rest : List Frame} (hyp : SimHyp b o s recur x rest)
    (c : Ref) (proc : List Tree) (more : List Ref)
    (hne : visit b o s recur (x :: rest.map (·.node)) c ≠ .error .outOfFuel) :
    Reaches b o s (.cont (⟨x, proc, c :: more⟩ :: rest))
      (Step.after (visit b o s recur (x :: rest.map (·.node)) c) fun t => .cont (⟨x, proc ++ [t], more⟩ :: rest)) := by
  have hstep := Reaches.step b o s (⟨x, proc, c :: more⟩ :: rest)
  simp only [step] at hstep
  unfold visit at hne ⊢
  by_cases hs : (scans b o s (expand b s c) && (x :: rest.map (·.node)).contains c) = true
  · rw [if_pos hs] at hstep hne ⊢
    by_cases hi : o.ign = true
    · rw [if_pos hi] at hstep ⊢
      exact hstep
    · rw [if_neg hi] at hstep ⊢
      exact hstep
  · rw [if_neg hs] at hstep hne ⊢
    exact hstep.trans (hyp c proc more hne)

theorem children_sim {recur : Ref → Except Err Tree} {x : Ref} {rest : List Frame} (hyp : SimHyp b o s recur x rest)
    (cs : List Ref) (proc : List Tree)
    (hne : cs.mapM (visit b o s recur (x :: rest.map (·.node))) ≠ .error .outOfFuel) :
    Reaches b o s (.cont (⟨x, proc, cs⟩ :: rest))
      (Step.after (cs.mapM (visit b o s recur (x :: rest.map (·.node)))) fun ts => .cont (⟨x, proc ++ ts, []⟩ :: rest)) := by
  induction cs generalizing proc with
  | nil =>
    show Reaches b o s _ (.cont (⟨x, proc ++ [], []⟩ :: rest))
    rw [List.append_nil]
    exact .refl _
  | cons c cs ih =>
    rw [List.mapM_cons] at hne ⊢
    refine .bind hne (visit_sim hyp c proc cs) fun t hne => .bind hne (ih (proc ++ [t])) fun ts _ => ?_
    rw [List.append_assoc]
    exact .refl _

theorem dfs_sim (d : Nat) (x : Ref) (rest : List Frame) (hne : dfs b o s d (rest.map (·.node)) x ≠ .error .outOfFuel) :
    Reaches b o s (.cont (⟨x, [], expand b s x⟩ :: rest))
      (Step.after (dfs b o s d (rest.map (·.node)) x) fun t => deliver t rest) := by
  induction d generalizing x rest with
  | zero => exact absurd rfl hne
  | succ d ih =>
    rw [dfs_succ] at hne ⊢
    refine .bind hne (children_sim (fun c proc more => ih c (⟨x, proc, more⟩ :: rest)) _ []) fun ts _ => ?_
    rw [List.nil_append, ← step_finish]
    exact .step b o s _

theorem buildTree_mono {fuel : Nat} {root : Ref} {r : Except Err Tree} (h : buildTree b o s fuel root = r)
    (hne : r ≠ .error .outOfFuel) : ∀ fuel' ≥ fuel, buildTree b o s fuel' root = r := by
  intro fuel' hf
  obtain ⟨k, rfl⟩ := Nat.exists_eq_add_of_le hf
  subst h
  unfold buildTree at hne ⊢
  rw [runSteps_add]
  cases hst : runSteps b o s fuel (.cont (initWork b s root)) with
  | cont w => rw [hst] at hne; exact absurd rfl hne
  | done t => rw [runSteps_done]
  | fail e => rw [runSteps_fail]

variable (b o s) in
/-- the machine started by `build_tree(root)` returns what `dfs` returns -/
theorem buildTree_of_dfs (d : Nat) (root : Ref) (r : Except Err Tree)
    (h : dfs b o s d [] root = r) (hne : r ≠ .error .outOfFuel) :
    ∃ fuel, ∀ fuel' ≥ fuel, buildTree b o s fuel' root = r := by
  subst h
  obtain ⟨n, hn⟩ := dfs_sim d root [] hne
  change _ = Step.after (dfs b o s d [] root) fun t => .done t at hn
  refine ⟨n, buildTree_mono ?_ hne⟩
  rw [buildTree, initWork, hn]
  cases dfs b o s d [] root <;> rfl

end Build

theorem copyRun_done (n : Nat) (t : Tree) : copyRun n (.done t) = .done t := by
  cases n <;> rfl

theorem copyRun_fail (n : Nat) (e : BErr) : copyRun n (.fail e) = .fail e := by
  cases n <;> rfl

theorem copyRun_add (m n : Nat) (st : CStep) : copyRun (m + n) st = copyRun n (copyRun m st) := by
  induction m generalizing st with
  | zero => rw [Nat.zero_add]; rfl
  | succ m ih =>
    rw [Nat.add_right_comm]
    cases st with
    | cont w => exact ih _
    | done t => rw [copyRun_done, copyRun_done, copyRun_done]
    | fail e => rw [copyRun_fail, copyRun_fail, copyRun_fail]

def CReaches (st st' : CStep) : Prop := ∃ n, copyRun n st = st'

theorem CReaches.refl (st : CStep) : CReaches st st := ⟨0, rfl⟩

theorem CReaches.trans {a c d : CStep} (h1 : CReaches a c) (h2 : CReaches c d) : CReaches a d := by
  obtain ⟨m, hm⟩ := h1
  obtain ⟨n, hn⟩ := h2
  exact ⟨m + n, by rw [copyRun_add, hm, hn]⟩

theorem CReaches.step (w : List CFrame) : CReaches (.cont w) (copyStep w) := ⟨1, rfl⟩

def CStep.after {α} (r : Except BErr α) (k : α → CStep) : CStep :=
  match r with
  | .ok a => k a
  | .error e => .fail e

theorem CReaches.bind {α β} {st : CStep} {x : Except BErr α} {f : α → Except BErr β} {k1 : α → CStep} {k2 : β → CStep}
    (h1 : CReaches st (CStep.after x k1)) (h2 : ∀ a, CReaches (k1 a) (CStep.after (f a) k2)) :
    CReaches st (CStep.after (x >>= f) k2) := by
  cases x with
  | error e => exact h1
  | ok a => exact h1.trans (h2 a)

def cdeliver (t : Tree) : List CFrame → CStep
  | [] => .done t
  | p :: rest => .cont ({ p with processed := p.processed ++ [t] } :: rest)

theorem copyStep_finish (x : Tree) (proc : List Tree) (work : List CFrame) :
    copyStep (⟨x, proc, []⟩ :: work) = CStep.after (copyFrom x proc) fun t => cdeliver t work := by
  rw [copyStep]
  cases copyFrom x proc with
  | error e => rfl
  | ok t => cases work <;> rfl

def CopySim (t : Tree) : Prop :=
  ∀ work, CReaches (.cont (⟨t, [], t.children⟩ :: work)) (CStep.after (copyRec t) fun t' => cdeliver t' work)

theorem copy_children_sim (node : Tree) (work : List CFrame) (cs : List Tree) (h : ∀ c ∈ cs, CopySim c)
    (proc : List Tree) :
    CReaches (.cont (⟨node, proc, cs⟩ :: work))
      (CStep.after (cs.mapM copyRec) fun ts => .cont (⟨node, proc ++ ts, []⟩ :: work)) := by
  induction cs generalizing proc with
  | nil =>
    show CReaches _ (.cont (⟨node, proc ++ [], []⟩ :: work))
    rw [List.append_nil]
    exact .refl _
  | cons c cs ih =>
    rw [List.mapM_cons]
    refine .bind ((CReaches.step _).trans (h c List.mem_cons_self _)) fun t =>
      .bind (ih (fun c hc => h c (List.mem_cons_of_mem _ hc)) (proc ++ [t])) fun ts => ?_
    rw [List.append_assoc]
    exact .refl _

theorem copy_sim (t : Tree) : CopySim t := by
  have of_children : ∀ t : Tree, (∀ c ∈ t.children, CopySim c) → CopySim t := fun t h work => by
    rw [copyRec_eq]
    refine .bind (copy_children_sim t work t.children h []) fun ts => ?_
    rw [List.nil_append, ← copyStep_finish]
    exact .step _
  induction t using Tree.induct with
  | leaf c s q => exact of_children _ nofun
  | cyc r w => exact of_children _ nofun
  | node tag cs ih => exact of_children _ ih

def CopyListSim (cs : List Tree) (node : Tree) (proc : List Tree) (work : List CFrame) : Prop :=
    (∀ ts, copyRecList cs = .ok ts →
      CReaches (.cont (⟨node, proc, cs⟩ :: work)) (.cont (⟨node, proc ++ ts, []⟩ :: work))) ∧
    (∀ e, copyRecList cs = .error e → CReaches (.cont (⟨node, proc, cs⟩ :: work)) (.fail e))

theorem copy_sim_list : ∀ (cs : List Tree) (node : Tree) (proc : List Tree) (work : List CFrame),
    CopyListSim cs node proc work := by
  intro cs node proc work
  have h := copy_children_sim node work cs (fun c _ => copy_sim c) proc
  rw [← copyRecList_eq_mapM] at h
  exact ⟨fun ts hts => by rw [hts] at h; exact h, fun e he => by rw [he] at h; exact h⟩

/-- `TreeNode.copy()` (the machine) returns what the recursion `copyRec` returns -/
theorem copyTree_of_copyRec (t : Tree) : ∃ fuel, ∀ fuel' ≥ fuel, copyTree fuel' t = liftB (copyRec t) := by
  obtain ⟨n, hn⟩ := copy_sim t []
  refine ⟨n, fun fuel' hf => ?_⟩
  obtain ⟨k, rfl⟩ := Nat.exists_eq_add_of_le hf
  rw [copyTree, copyRun_add, copyInit, hn]
  cases copyRec t with
  | ok t' => show (match copyRun k (.done t') with | .done t => _ | .fail e => _ | .cont _ => _) = _; rw [copyRun_done]; rfl
  | error e => show (match copyRun k (.fail e) with | .done t => _ | .fail e => _ | .cont _ => _) = _; rw [copyRun_fail]; rfl

end GtModel.Builder
