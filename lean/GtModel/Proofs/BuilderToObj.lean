/-
  Lemmas for `to_obj (build x) = normalise x`: no-collapse of `dictOf` / `mkCounter` on pairwise distinct keys,
  CPython's `sorted` returns a permutation (`Part` rules of ExceptBasic, nothing assumed of the comparison) and does
  not raise on distinct leaf keys (`Ret` rules), hence what `mappingFrom` makes of such keys (`mappingFrom_good`) and
  how it reads back (`mappingFrom_toObj`).
-/
import GtModel.Proofs.BuilderBasic

namespace GtModel.Builder

theorem dictInsert_fresh {κ ν} (eq : κ → κ → Bool) (k : κ) (v : ν) :
    ∀ (acc : List (κ × ν)), (∀ p ∈ acc, eq p.1 k = false) → dictInsert eq k v acc = acc ++ [(k, v)] := by
  intro acc
  induction acc with
  | nil => intro _; rfl
  | cons p acc ih =>
    intro h
    obtain ⟨k0, v0⟩ := p
    have h0 : eq k0 k = false := h (k0, v0) (by simp)
    simp only [dictInsert, h0, Bool.false_eq_true, if_false, List.cons_append]
    rw [ih (fun p hp => h p (by simp [hp]))]

theorem foldl_append_of_fresh {α β} {R : β → β → Prop} {ins : α → List β → List β} {mk : α → β}
    (hins : ∀ a acc, (∀ b ∈ acc, R b (mk a)) → ins a acc = acc ++ [mk a]) :
    ∀ (xs : List α) (acc : List β), (acc ++ xs.map mk).Pairwise R →
      xs.foldl (fun acc a => ins a acc) acc = acc ++ xs.map mk
  | [], acc, _ => (List.append_nil acc).symm
  | x :: xs, acc, h => by
    rw [List.map_cons, List.append_cons] at h ⊢
    rw [List.foldl_cons, hins x acc fun b hb =>
      (List.pairwise_append.1 (List.pairwise_append.1 h).1).2.2 b hb _ (List.mem_singleton_self _)]
    exact foldl_append_of_fresh hins xs _ h

theorem dictOf_id {κ ν} (eq : κ → κ → Bool) (kvs : List (κ × ν))
    (h : kvs.Pairwise (fun a b => eq a.1 b.1 = false)) : dictOf eq kvs = kvs := by
  rw [dictOf, foldl_append_of_fresh (mk := id) (fun p => dictInsert_fresh eq p.1 p.2) kvs [] (by rwa [List.map_id]),
    List.map_id, List.nil_append]

theorem counterAdd_fresh {α} (eq : α → α → Bool) (x : α) :
    ∀ (acc : List (α × Nat)), (∀ p ∈ acc, eq p.1 x = false) → counterAdd eq x acc = acc ++ [(x, 1)] := by
  intro acc
  induction acc with
  | nil => intro _; rfl
  | cons p acc ih =>
    intro h
    obtain ⟨y, n⟩ := p
    have h0 : eq y x = false := h (y, n) (by simp)
    simp only [counterAdd, h0, Bool.false_eq_true, if_false, List.cons_append]
    rw [ih (fun p hp => h p (by simp [hp]))]

theorem counterElems_ones {α} (xs : List α) : counterElems (xs.map fun x => (x, 1)) = xs := by
  induction xs with
  | nil => rfl
  | cons x xs ih => rw [List.map_cons, counterElems, List.flatMap_cons, ← counterElems, ih]; rfl

theorem mkCounter_id {α} (eq : α → α → Bool) (xs : List α) (h : xs.Pairwise (fun a b => eq a b = false)) :
    mkCounter eq xs = xs := by
  rw [mkCounter, counterOf, foldl_append_of_fresh (R := fun a b => eq a.1 b.1 = false) (mk := fun x => (x, 1))
    (counterAdd_fresh eq) xs [] (List.pairwise_map.2 h), List.nil_append, counterElems_ones]

section
variable {α : Type} (lt : α → α → Except BErr Bool)

theorem takeRun_append (desc : Bool) : ∀ (xs : List α) (prev : α),
    Part (takeRun lt desc prev xs) fun p => p.1 ++ p.2 = xs
  | [], _ => Part.pure rfl
  | x :: xs, _ => by
    unfold takeRun
    refine Part.bind fun _ _ => Part.ite (fun _ => Part.bind fun p hp => ?_) fun _ => Part.pure rfl
    exact Part.pure (congrArg (x :: ·) (takeRun_append desc xs x p hp))

/-- `binarysort` puts the pivot somewhere into the sorted prefix -/
theorem perm_insert_at (pos : Nat) (p : α) (l ps : List α) :
    (l.take pos ++ p :: l.drop pos ++ ps).Perm (l ++ p :: ps) := by
  have h1 : (l.take pos ++ p :: l.drop pos).Perm (p :: l) := by
    simpa using List.perm_middle (a := p) (l₁ := l.take pos) (l₂ := l.drop pos)
  exact (h1.append_right ps).trans (by simpa using (List.perm_middle (l₁ := l) (l₂ := ps) (a := p)).symm)

theorem binInsertAll_perm : ∀ (ps sorted out : List α),
    binInsertAll lt sorted ps = .ok out → out.Perm (sorted ++ ps)
  | [], sorted => Part.pure (by rw [List.append_nil])
  | p :: ps, sorted => by
    unfold binInsertAll
    exact Part.bind fun pos _ out h => (binInsertAll_perm ps _ out h).trans (perm_insert_at pos p sorted ps)

/-- `sorted(xs)` is a permutation of `xs` (whatever the comparison answers) -/
theorem pySorted_perm : ∀ (xs out : List α), pySorted lt xs = .ok out → out.Perm xs
  | [] => Part.pure (.refl _)
  | [a] => Part.pure (.refl _)
  | a :: b :: rest => by
    unfold pySorted
    refine Part.bind fun d _ => Part.bind fun p hr out h2 => ?_
    obtain ⟨r, rest'⟩ := p
    cases takeRun_append lt d rest b _ hr
    refine (binInsertAll_perm lt _ _ out h2).trans ?_
    cases d
    · exact .refl _
    · exact (List.reverse_perm _).append_right rest'

def CmpOk (a b : α) : Prop := (∃ r, lt a b = .ok r) ∧ (∃ r, lt b a = .ok r)

theorem CmpOk.symm {a b : α} (h : CmpOk lt a b) : CmpOk lt b a := ⟨h.2, h.1⟩

theorem ret_of_ok {x : Except BErr α} (h : ∃ a, x = .ok a) : Ret x fun _ => True := h.imp fun _ e => ⟨e, trivial⟩

theorem ok_of_ret {x : Except BErr α} {P : α → Prop} (h : Ret x P) : ∃ a, x = .ok a := h.imp fun _ h => h.1

theorem takeRun_ok (desc : Bool) : ∀ (xs : List α) (prev : α), (prev :: xs).Pairwise (CmpOk lt) →
    Ret (takeRun lt desc prev xs) fun _ => True
  | [], _, _ => Ret.pure trivial
  | x :: xs, prev, h => by
    rw [List.pairwise_cons] at h
    unfold takeRun
    refine Ret.bind (ret_of_ok (h.1 x List.mem_cons_self).2) fun _ _ => Ret.ite (fun _ => ?_) fun _ => Ret.pure trivial
    exact Ret.bind (takeRun_ok desc xs x h.2) fun _ _ => Ret.pure trivial

theorem bsearch_ok (pivot : α) (a : Array α) (hp : ∀ y ∈ a.toList, ∃ r, lt pivot y = .ok r) :
    ∀ (n l r : Nat), r - l ≤ n → r ≤ a.size → Ret (bsearch lt pivot a l r) fun _ => True
  | 0, l, r, h, _ => by
    unfold bsearch
    rw [dif_neg (by omega)]
    exact Ret.pure trivial
  | n + 1, l, r, h, hr => by
    unfold bsearch
    by_cases hlr : l < r
    · have hlt : l + (r - l) / 2 < a.size := by omega
      rw [dif_pos hlr]
      simp only [show a[l + (r - l) / 2]? = some a[l + (r - l) / 2] by simp [hlt]]
      exact Ret.bind (ret_of_ok (hp _ (by simp))) fun _ _ =>
        Ret.ite (fun _ => bsearch_ok pivot a hp n _ _ (by omega) (by omega)) fun _ => bsearch_ok pivot a hp n _ _ (by omega) hr
    · rw [dif_neg hlr]
      exact Ret.pure trivial

theorem binInsertAll_ok : ∀ (ps sorted : List α), (sorted ++ ps).Pairwise (CmpOk lt) →
    Ret (binInsertAll lt sorted ps) fun _ => True
  | [], _, _ => Ret.pure trivial
  | p :: ps, sorted, h => by
    have hp : ∀ y ∈ sorted.toArray.toList, ∃ r, lt p y = .ok r := fun y hy =>
      ((List.pairwise_append.1 h).2.2 y (by simpa using hy) p List.mem_cons_self).2
    unfold binInsertAll
    refine Ret.bind (bsearch_ok lt p sorted.toArray hp sorted.length 0 sorted.length (by omega) (by simp)) fun pos _ => ?_
    exact binInsertAll_ok ps _
      ((List.Perm.pairwise_iff (fun {a b} h => CmpOk.symm lt h) (perm_insert_at pos p sorted ps).symm).1 h)

theorem pySorted_ok (xs : List α) (h : xs.Pairwise (CmpOk lt)) : ∃ out, pySorted lt xs = .ok out := by
  match xs with
  | [] => exact ⟨_, rfl⟩
  | [a] => exact ⟨_, rfl⟩
  | a :: b :: rest =>
    have h' := h
    rw [List.pairwise_cons] at h
    unfold pySorted
    refine ok_of_ret (P := fun _ => True) (Ret.bind (ret_of_ok (h.1 b List.mem_cons_self).2) fun d _ =>
      Ret.bind (P := fun p => p.1 ++ p.2 = rest) ?_ fun p happ => ?_)
    · obtain ⟨pr, hpr, _⟩ := takeRun_ok lt d rest b h.2
      exact ⟨pr, hpr, takeRun_append lt d rest b pr hpr⟩
    · obtain ⟨r, rest'⟩ := p
      subst happ
      apply binInsertAll_ok
      cases d
      · simpa using h'
      · have hperm : ((a :: b :: r).reverse ++ rest').Perm (a :: b :: (r ++ rest')) := by
          simpa using List.Perm.append_right rest' (List.reverse_perm (a :: b :: r))
        exact (List.Perm.pairwise_iff (fun {a b} h => CmpOk.symm lt h) hperm.symm).1 h'

end

mutual
/-- Python `==` of plain values: equal up to the order of dict entries and of multiset elements -/
inductive ObjEquiv : Obj → Obj → Prop where
  | scalar (s : Scalar) : ObjEquiv (.scalar s) (.scalar s)
  | list {xs ys} : ObjEquivList xs ys → ObjEquiv (.list xs) (.list ys)
  | mset {xs zs ys} : ObjEquivList xs zs → zs.Perm ys → ObjEquiv (.mset xs) (.mset ys)
  | dict {kvs zs ws} : ObjEquivPairs kvs zs → zs.Perm ws → ObjEquiv (.dict kvs) (.dict ws)
inductive ObjEquivList : List Obj → List Obj → Prop where
  | nil : ObjEquivList [] []
  | cons {x y xs ys} : ObjEquiv x y → ObjEquivList xs ys → ObjEquivList (x :: xs) (y :: ys)
inductive ObjEquivPairs : List (Obj × Obj) → List (Obj × Obj) → Prop where
  | nil : ObjEquivPairs [] []
  | cons {k v k' v' xs ys} : ObjEquiv k k' → ObjEquiv v v' → ObjEquivPairs xs ys →
      ObjEquivPairs ((k, v) :: xs) ((k', v') :: ys)
end

theorem objEquivList_of_forall2 {xs ys : List Obj} (h : Forall2 ObjEquiv xs ys) : ObjEquivList xs ys := by
  induction h with
  | nil => exact .nil
  | cons h _ ih => exact .cons h ih

theorem forall2_of_objEquivList {xs ys : List Obj} (h : ObjEquivList xs ys) : Forall2 ObjEquiv xs ys := by
  induction xs generalizing ys with
  | nil => cases h; exact .nil
  | cons x xs ih => cases h with | cons h1 h2 => exact .cons h1 (ih h2)

def PairEquiv (a b : Obj × Obj) : Prop := ObjEquiv a.1 b.1 ∧ ObjEquiv a.2 b.2

theorem objEquivPairs_of_forall2 {xs ys : List (Obj × Obj)} (h : Forall2 PairEquiv xs ys) : ObjEquivPairs xs ys := by
  induction h with
  | nil => exact .nil
  | cons h _ ih => exact .cons h.1 h.2 ih

theorem forall2_of_objEquivPairs {xs ys : List (Obj × Obj)} (h : ObjEquivPairs xs ys) : Forall2 PairEquiv xs ys := by
  induction xs generalizing ys with
  | nil => cases h; exact .nil
  | cons x xs ih => cases h with | cons h1 h2 h3 => exact .cons ⟨h1, h2⟩ (ih h3)

theorem ObjEquiv.dict_perm {rs rs' N : List (Obj × Obj)} (hp : rs.Perm rs') (h : ObjEquivPairs rs N) :
    ObjEquiv (.dict rs') (.dict N) := by
  obtain ⟨zs, hz, hpz⟩ := Forall2.perm hp (forall2_of_objEquivPairs h)
  exact .dict (objEquivPairs_of_forall2 hz) hpz.symm

theorem ObjEquiv.mset_perm {rs rs' N : List Obj} (hp : rs.Perm rs') (h : ObjEquivList rs N) :
    ObjEquiv (.mset rs') (.mset N) := by
  obtain ⟨zs, hz, hpz⟩ := Forall2.perm hp (forall2_of_objEquivList h)
  exact .mset (objEquivList_of_forall2 hz) hpz.symm


theorem toObjList_eq_mapM (ts : List Tree) : toObjList ts = ts.mapM toObj := by
  induction ts with
  | nil => rfl
  | cons t ts ih => rw [toObjList, ih, List.mapM_cons]

theorem toObjList_forall2 (ts : List Tree) (xs : List Obj) :
    toObjList ts = .ok xs ↔ Forall2 (fun t x => toObj t = .ok x) ts xs := by
  rw [toObjList_eq_mapM]
  exact mapM_ok_iff

theorem toObj_list_node (a b : Bool) {ts : List Tree} {ys : List Obj}
    (h : Forall2 (fun t y => toObj t = .ok y) ts ys) : toObj (.node (.list a b) ts) = .ok (.list ys) := by
  rw [toObj, (toObjList_forall2 ts ys).2 h]
  rfl

/-- the `(key, value)` reading of one child of a mapping node (`self.items()`) -/
def toItem : Tree → Except BErr (Obj × Obj)
  | .node (.kvp ..) [k, v] => do
      let ko ← toObj k
      let vo ← toObj v
      pure (ko, vo)
  | _ => throw (.unmodelled "mapping child is not a key/value pair")

theorem toObjItems_eq_mapM (ts : List Tree) : toObjItems ts = ts.mapM toItem := by
  induction ts with
  | nil => rfl
  | cons t ts ih =>
    rw [List.mapM_cons, ← ih]
    unfold toItem
    split
    · rw [toObjItems]
    · rw [toObjItems.eq_3 _ _ (by assumption)]

def leafEqc : Tree → String
  | .leaf _ s _ => s.eqc
  | _ => ""

/-- a dictionary key / set member node: a leaf; a `NullNode` always wraps `None` -/
def IsKeyLeaf (t : Tree) : Prop := ∃ c s q, t = .leaf c s q ∧ (c = .null → s = Scalar.none)

theorem pyEq_keyLeaf {a b : Tree} (ha : IsKeyLeaf a) (hb : IsKeyLeaf b) (hne : leafEqc a ≠ leafEqc b) :
    Tree.pyEq a b = false := by
  obtain ⟨c, s, q, rfl, hc⟩ := ha
  obtain ⟨c', s', q', rfl, hc'⟩ := hb
  rw [pyEq_leaf]
  simp only [leafEqc] at hne
  by_cases h : c = .null
  · rw [if_pos h]
    by_cases h' : c' = .null
    · rw [hc h, hc' h'] at hne; exact absurd rfl hne
    · simp [h']
  · rw [if_neg h]
    simp [hne]

theorem pairwise_pyEq_of_eqc {α} {key : α → Tree} {l : List α} (hk : ∀ a ∈ l, IsKeyLeaf (key a))
    (hd : (l.map fun a => leafEqc (key a)).Pairwise (· ≠ ·)) :
    l.Pairwise fun a b => Tree.pyEq (key a) (key b) = false ∧ Tree.pyEq (key b) (key a) = false :=
  (List.pairwise_map.1 hd).imp_of_mem fun ha hb hne =>
    ⟨pyEq_keyLeaf (hk _ ha) (hk _ hb) hne, pyEq_keyLeaf (hk _ hb) (hk _ ha) (Ne.symm hne)⟩

def KeyNe (a b : Tree × Tree) : Prop := Tree.pyEq a.1 b.1 = false ∧ Tree.pyEq b.1 a.1 = false

/-- items of a mapping whose keys are leaves, pairwise of different `==` class: no entry collapses -/
structure GoodItems (items : List (Tree × Tree)) : Prop where
  keys : ∀ it ∈ items, IsKeyLeaf it.1
  dist : (items.map (fun it => leafEqc it.1)).Pairwise (· ≠ ·)

theorem GoodItems.pairwise {items : List (Tree × Tree)} (h : GoodItems items) : items.Pairwise KeyNe := by
  exact pairwise_pyEq_of_eqc (key := Prod.fst) h.keys h.dist

theorem dictOf_good {items : List (Tree × Tree)} (h : GoodItems items) : dictOf Tree.pyEq items = items :=
  dictOf_id _ _ (h.pairwise.imp (fun hk => hk.1))

theorem toObj_keyLeaf {t : Tree} (h : IsKeyLeaf t) : ∃ s, toObj t = .ok (.scalar s) ∧ s.eqc = leafEqc t := by
  obtain ⟨c, s, q, rfl, _⟩ := h
  exact ⟨s, rfl, rfl⟩

theorem keyEq_scalar (a b : Scalar) : Obj.keyEq (.scalar a) (.scalar b) = (a.eqc == b.eqc) := by
  rw [Obj.keyEq]

def ItemObj (it : Tree × Tree) (r : Obj × Obj) : Prop := toObj it.1 = .ok r.1 ∧ toObj it.2 = .ok r.2

theorem nodeLt_leaf_ok (c c' : LeafCls) (s s' : Scalar) (q q' : Bool) :
    Ret (nodeLt (.leaf c s q) (.leaf c' s' q')) fun _ => True := by
  unfold nodeLt
  refine Ret.ite (fun _ => ?_) fun _ => Ret.pure trivial
  cases c' <;> exact Ret.pure trivial

theorem kvpLt_ok {py ake : Bool} {a b : Tree × Tree} (ha : IsKeyLeaf a.1) (hb : IsKeyLeaf b.1)
    (hne : Tree.pyEq a.1 b.1 = false) : ∃ r, kvpLt (kvpNode py ake a.1 a.2) (kvpNode py ake b.1 b.2) = .ok r := by
  obtain ⟨c, s, q, hae, _⟩ := ha
  obtain ⟨c', s', q', hbe, _⟩ := hb
  rw [kvpNode, kvpNode, kvpLt, hne, hae, hbe]
  exact ok_of_ret (P := fun _ => True) (Ret.bind (nodeLt_leaf_ok ..) fun _ _ =>
    Ret.ite (fun _ => Ret.pure trivial) fun _ => Ret.ite (fun h => nomatch h) fun _ => Ret.pure trivial)

theorem mappingFrom_good (py : Bool) (o : Opts) {items : List (Tree × Tree)} (hg : GoodItems items) :
    ∃ kvps, mappingFrom py o items = .ok (.node (if o.ake then .dict py o.amk else .fdict py) kvps) ∧
      kvps.Perm (items.map fun p => kvpNode py o.ake p.1 p.2) := by
  unfold mappingFrom
  cases o.ake
  · have hpw : (items.map fun p => (p.1, kvpNode py false p.1 p.2)).Pairwise fun a b => Tree.pyEq a.1 b.1 = false :=
      List.pairwise_map.2 (hg.pairwise.imp And.left)
    refine ⟨_, ?_, .refl _⟩
    simp only [Bool.false_eq_true, if_false, fdictNodeFrom, dictOf_id _ _ hpw, List.map_map]
    rfl
  · -- `sorted` permutes the pairs; they are pairwise different nodes, so the Counter keeps them all, in order
    have hne : (items.map fun p => kvpNode py true p.1 p.2).Pairwise
        fun a b => Tree.pyEq a b = false ∧ Tree.pyEq b a = false :=
      List.pairwise_map.2 (hg.pairwise.imp fun h => by
        simp only [kvpNode, pyEq_kvp, h.1, h.2, Bool.false_and, and_self])
    have hcmp : (items.map fun p => kvpNode py true p.1 p.2).Pairwise (CmpOk kvpLt) :=
      List.pairwise_map.2 (hg.pairwise.imp_of_mem fun ha hb h =>
        ⟨kvpLt_ok (hg.keys _ ha) (hg.keys _ hb) h.1, kvpLt_ok (hg.keys _ hb) (hg.keys _ ha) h.2⟩)
    obtain ⟨sorted, hs⟩ := pySorted_ok kvpLt _ hcmp
    have hperm := pySorted_perm kvpLt _ _ hs
    have hsne := (hperm.symm.pairwise_iff fun h => ⟨h.2, h.1⟩).1 hne
    refine ⟨sorted, ?_, hperm⟩
    simp only [if_true, dictNodeFrom, hs, bind, Except.bind, mkCounter_id _ _ (hsne.imp And.left)]
    rfl

theorem mappingFrom_ok (py : Bool) (o : Opts) (items : List (Tree × Tree)) (hg : GoodItems items) :
    ∃ t, mappingFrom py o items = .ok t :=
  let ⟨_, h, _⟩ := mappingFrom_good py o hg
  ⟨_, h⟩

/-- **Mapping lemma.**  A `DictNode` / `FixedKeyDictNode` (or pydiff attribute mapping) built from items whose keys
are pairwise distinct leaves reads back, by `to_obj()`, as the dict of the items' values — up to the order chosen
by `sorted` for a `DictNode`. -/
theorem mappingFrom_toObj (py : Bool) (o : Opts) (items : List (Tree × Tree)) (rs : List (Obj × Obj))
    (hg : GoodItems items) (hobj : Forall2 ItemObj items rs) (t : Tree)
    (hb : mappingFrom py o items = .ok t) : ∃ rs', toObj t = .ok (.dict rs') ∧ rs.Perm rs' := by
  obtain ⟨kvps, hk, hperm⟩ := mappingFrom_good py o hg
  cases hk.symm.trans hb
  have hitems : Forall2 (fun c r => toItem c = .ok r) (items.map fun p => kvpNode py o.ake p.1 p.2) rs :=
    Forall2.map_left _ (hobj.imp fun it _ r _ h => by rw [kvpNode, toItem, h.1, h.2]; rfl)
  obtain ⟨rs', hrs', hp⟩ := Forall2.perm hperm.symm hitems
  have hread : toObjItems kvps = .ok rs' := by rw [toObjItems_eq_mapM]; exact mapM_ok_iff.2 hrs'
  -- on the value side the keys are scalars with pairwise different `eqc`: hashable, and `dict` keeps every entry
  have hkeys : Forall2 (fun it r => ∃ s, r.1 = Obj.scalar s ∧ s.eqc = leafEqc it.1) items rs :=
    hobj.imp fun it hit r _ h => by
      obtain ⟨s, hs, he⟩ := toObj_keyLeaf (hg.keys it hit)
      exact ⟨s, Except.ok.inj (h.1.symm.trans hs), he⟩
  have hpw : rs.Pairwise fun a b => Obj.keyEq a.1 b.1 = false ∧ Obj.keyEq b.1 a.1 = false := by
    refine Forall2.pairwise ?_ hkeys (List.pairwise_map.1 hg.dist)
    rintro a b r r' ⟨s, hs, he⟩ ⟨s', hs', he'⟩ hne
    rw [hs, hs', keyEq_scalar, keyEq_scalar, he, he']
    exact ⟨beq_eq_false_iff_ne.2 hne, beq_eq_false_iff_ne.2 (Ne.symm hne)⟩
  have hid : dictOf Obj.keyEq rs' = rs' :=
    dictOf_id _ _ (((hp.pairwise_iff fun h => ⟨h.2, h.1⟩).1 hpw).imp And.left)
  have hhash : rs'.all (fun p => p.1.hashable) = true := List.all_eq_true.2 fun r hr => by
    obtain ⟨_, _, s, hs, _⟩ := hkeys.mem_right (hp.symm.subset hr)
    rw [hs]; rfl
  refine ⟨rs', ?_, hp⟩
  cases o.ake <;> simp only [Bool.false_eq_true, if_false, if_true, toObj, hread, hhash, hid, bind, Except.bind, pure, Except.pure]

/-- `[attr₁, value₁, attr₂, value₂, …]` as `PyObjBuilder.default_expander` yields them -/
def flattenItems : List (Tree × Tree) → List Tree
  | [] => []
  | it :: rest => it.1 :: it.2 :: flattenItems rest

theorem pairUp_flatten : ∀ (items : List (Tree × Tree)), pairUp (flattenItems items) = items
  | [] => rfl
  | it :: rest => by simp [flattenItems, pairUp, pairUp_flatten rest]

theorem flatten_length_even : ∀ (items : List (Tree × Tree)), (flattenItems items).length % 2 = 0
  | [] => rfl
  | it :: rest => by simp [flattenItems]; have := flatten_length_even rest; omega

def IsStrLeaf (t : Tree) : Prop := ∃ s q, t = .leaf .string s q

theorem unquote_strLeaf {t : Tree} (h : IsStrLeaf t) :
    IsKeyLeaf (unquote t) ∧ leafEqc (unquote t) = leafEqc t ∧ toObj (unquote t) = toObj t ∧ isStringNode t = true := by
  obtain ⟨s, q, rfl⟩ := h
  exact ⟨⟨.string, s, false, rfl, fun h => by cases h⟩, rfl, by simp [unquote, toObj], rfl⟩

/-- **`PyObjBuilder.default_builder` is value-faithful**: given the class-name node, attribute-name nodes with pairwise
different names and already built attribute values reading back as `rs`, the `PyObj` node reads back as
`{class_name: {attr: value, …}}` (up to the order of the attributes). -/
theorem pyobjDefaultBuild_toObj (o : Opts) (sName : Scalar) (q : Bool) (items : List (Tree × Tree))
    (rs : List (Obj × Obj)) (hk : ∀ it ∈ items, IsStrLeaf it.1)
    (hd : (items.map (fun it => leafEqc it.1)).Pairwise (· ≠ ·)) (hobj : Forall2 ItemObj items rs) :
    ∃ t rs', pyobjDefaultBuild o (.leaf .string sName q :: flattenItems items) = .ok t ∧
      toObj t = .ok (.dict [(.scalar sName, .dict rs')]) ∧ rs.Perm rs' := by
  have hg : GoodItems items :=
    ⟨fun it hit => by obtain ⟨s, q', h⟩ := hk it hit; exact ⟨.string, s, q', h, fun h' => by cases h'⟩, hd⟩
  let items' := items.map (fun p => (unquote p.1, p.2))
  have hg' : GoodItems items' := by
    constructor
    · intro it hit
      obtain ⟨it0, h0, rfl⟩ := List.mem_map.1 hit
      exact (unquote_strLeaf (hk it0 h0)).1
    · have : items'.map (fun it => leafEqc it.1) = items.map (fun it => leafEqc it.1) := by
        simp only [items', List.map_map]
        apply List.map_congr_left
        intro it hit
        exact (unquote_strLeaf (hk it hit)).2.1
      rw [this]; exact hd
  have hobj' : Forall2 ItemObj items' rs :=
    Forall2.map_left _ (hobj.imp fun a ha _ _ h => ⟨(unquote_strLeaf (hk a ha)).2.2.1.trans h.1, h.2⟩)
  obtain ⟨attrs, hattrs⟩ := mappingFrom_ok true o items' hg'
  obtain ⟨rs', hr', hp⟩ := mappingFrom_toObj true o items' rs hg' hobj' attrs hattrs
  have hall : (items.all (fun p => isStringNode p.1)) = true := by
    rw [List.all_eq_true]
    intro it hit
    exact (unquote_strLeaf (hk it hit)).2.2.2
  refine ⟨.node .pyobj [.leaf .string sName false, attrs], rs', ?_, ?_, hp⟩
  · have hname : isStringNode (.leaf .string sName q) = true := rfl
    have hun : unquote (.leaf .string sName q) = .leaf .string sName false := rfl
    have hmap : List.map (fun p => (unquote p.1, p.2)) items = items' := rfl
    simp only [pyobjDefaultBuild, hname, flatten_length_even, pairUp_flatten, dictOf_good hg, hall, hun, hmap]
    simp [bind, Except.bind, hattrs, pure, Except.pure]
  · simp [toObj, hr', bind, Except.bind, pure, Except.pure]

end GtModel.Builder
