/-
  L3 → L2: `mkEdit_refines`.  The rule for MultiSetEdit (`msCore_refines`, over abstract index lists), one lemma per
  compound class of `mkEdit` (the children refine ⟹ the compound refines), and the dispatch over the tree shapes.
-/
import GtModel.Proofs.LazyFkBound
import GtModel.Proofs.LazyRefRules

namespace GtModel.Lazy
open GtModel.EditMatrix (middle trimLens)

attribute [-simp] List.getD_eq_getElem?_getD

theorem contains_map_eq_any (g : Nat × Nat → Nat) (l : List (Nat × Nat)) (a : Nat) :
    (l.map g).contains a = l.any (g · == a) := by
  induction l with
  | nil => rfl
  | cons p ps ih =>
    have e : (a == g p) = (g p == a) := by
      rw [Bool.eq_iff_iff]; simp only [beq_iff_eq]; exact eq_comm
    simp only [List.map_cons, List.contains_cons, List.any_cons, ih, e]

theorem unmatched_map (g : Nat × Nat → Nat) (n : Nat) (pairs : List (Nat × Nat)) :
    unmatched n (pairs.map g) = (List.range n).filter fun a => !(pairs.any (g · == a)) := by
  simp only [unmatched, contains_map_eq_any]

theorem sumCosts_matches (l : List Nat) : sumCosts (l.map fun i => (mkMatch 0).relabel (.at i) .same) = 0 := by
  induction l with
  | nil => rfl
  | cons i is ih => rw [List.map_cons, sumCosts_cons, ih]; rfl

section
variable (a : Ghost) (nMatch : List Script) (toRemove toInsert : List Nat) (auto pairs : List (Nat × Nat))
  (kM : Nat → Nat → M) (kS : Nat → Nat → Script) (szF szT : Nat → Nat) (mdc : List (List Nat))

/-- the machine `mkMs` builds, over abstract index lists -/
def msCoreM : M :=
  .ms { kind := .ms }
    { remCosts := toRemove.map fun i => szF i + 1, insCosts := toInsert.map fun j => szT j + 1,
      remIdx := toRemove, insIdx := toInsert, nMatch := nMatch }
    (auto.map fun p => kM p.1 p.2)
    { nf := toRemove.length, nt := toInsert.length, assign := pairs, mdCounts := mdc }
    (toRemove.map fun i => toInsert.map fun j => kM i j)

/-- the script `msScript` builds, over the same lists -/
def msCoreS : Script :=
  mkCompound .ms
    (nMatch
      ++ (auto.map fun p => kS p.1 p.2)
      ++ (pairs.map fun p => kS (toRemove.getD p.1 0) (toInsert.getD p.2 0))
      ++ (((List.range toRemove.length).filter fun x => !(pairs.any (·.1 == x))).map fun x =>
            GtModel.mkRemove (toRemove.getD x 0) (szF (toRemove.getD x 0)) 1)
      ++ (((List.range toInsert.length).filter fun x => !(pairs.any (·.2 == x))).map fun x =>
            GtModel.mkInsert (toInsert.getD x 0) (szT (toInsert.getD x 0)) 1))

theorem leftover_toDL (k : Kind) (idx : List Nat) (sz : Nat → Nat) (p : Nat → Bool) :
    (((List.range idx.length).filter p).map fun x =>
        DScript.mk k (.at (idx.getD x 0)) .none (Iv.point ((idx.map fun i => sz i + 1).getD x 0)) [])
      = toDL (((List.range idx.length).filter p).map fun x => .mk k (.at (idx.getD x 0)) .none (sz (idx.getD x 0) + 1) [])
    ∧ (((List.range idx.length).filter p).map fun x => (idx.map fun i => sz i + 1).getD x 0).sum
      = sumCosts (((List.range idx.length).filter p).map fun x =>
          .mk k (.at (idx.getD x 0)) .none (sz (idx.getD x 0) + 1) []) := by
  apply map_toDL
  intro x hx
  rw [getD_map idx _ 0 0 x (List.mem_range.mp (List.mem_filter.mp hx).1)]
  exact ⟨rfl, rfl⟩

theorem msCore_refines (hn : ∀ s ∈ nMatch, s.subs = []) (hc : sumCosts nMatch = 0)
    (hk : ∀ i j, RefP a (kM i j) (kS i j)) (hp : ∀ p ∈ pairs, p.1 < toRemove.length ∧ p.2 < toInsert.length) :
    RefP a (msCoreM nMatch toRemove toInsert auto pairs kM szF szT mdc)
      (msCoreS nMatch toRemove toInsert auto pairs kS szF szT) := by
  have s1 := map_ofScript nMatch hn
  have s2 := RefL.map auto (fun p => kM p.1 p.2) (fun p => kS p.1 p.2) (fun p _ => hk p.1 p.2)
  have s3 := map_toDL pairs (scrAt (scriptLL a (toRemove.map fun i => toInsert.map fun j => kM i j)))
    (finAt (finLL a (toRemove.map fun i => toInsert.map fun j => kM i j)))
    (fun p => kS (toRemove.getD p.1 0) (toInsert.getD p.2 0)) (by
      intro p hpp
      obtain ⟨h1, h2⟩ := hp p hpp
      constructor
      · rw [scriptLL_eq_map, List.map_map, scrAt, getD_map toRemove _ 0 [] p.1 h1, Function.comp, List.map_map,
          getD_map toInsert _ 0 default p.2 h2]
        exact (hk _ _).scr
      · rw [finLL_eq_map, List.map_map, finAt, getD_map toRemove _ 0 [] p.1 h1, Function.comp, List.map_map,
          getD_map toInsert _ 0 0 p.2 h2]
        exact (hk _ _).fin)
  have s4 := leftover_toDL .remove toRemove szF fun x => !(pairs.any (·.1 == x))
  have s5 := leftover_toDL .insert toInsert szT fun x => !(pairs.any (·.2 == x))
  have hfin : finG a (msCoreM nMatch toRemove toInsert auto pairs kM szF szT mdc)
      = (msCoreS nMatch toRemove toInsert auto pairs kS szF szT).cost := by
    simp only [msCoreM, msCoreS, finG, extraOf, unmatched_map, mkCompound_cost, sumCosts_append, hc,
      s3.2, s2.fin, s4.2, s5.2, GtModel.mkRemove, GtModel.mkInsert, Nat.zero_add]
    exact (congrArg (· + _) (Nat.add_comm _ _)).trans (Nat.add_assoc _ _ _).symm
  refine ⟨?_, hfin⟩
  have hfin' := hfin
  simp only [msCoreM, finG] at hfin'
  simp only [msCoreM, msCoreS, scriptG, mkCompound, toD, hfin', unmatched_map, s1, s2.scr, s3.1, s4.1, s5.1,
    GtModel.mkRemove, GtModel.mkInsert]
  simp only [toDL_append, Script.cost_mk]

end

theorem mkMs_refines (a : Ghost) (amk : Bool) (orc : Orc) (fp tp : List Nat) (fkv tkv : List (Str × Tree))
    (vM : List (List M)) (vS : List (List Script))
    (hv : ∀ i j, RefP a ((vM.getD i []).getD j (mkConst .match_ 0)) ((vS.getD i []).getD j (mkMatch 0))) :
    RefP a (mkMs amk orc fp tp fkv tkv vM) (msScript amk orc.assign fp tp fkv tkv vS) :=
  msCore_refines a _ (msToRemove amk fkv tkv) (msToInsert amk fkv tkv) (msAuto amk fkv tkv)
    (msPairs amk orc.assign fp tp fkv tkv) _ (msKvE fkv tkv vS) (fun i => kvSize (fkv.getD i dkv))
    (fun j => kvSize (tkv.getD j dkv)) _
    (List.forall_mem_map.mpr fun _ _ => rfl)
    (sumCosts_matches (msToMatch amk fkv tkv))
    (fun i j => (mkKvp_refines _ _ _ (hv i j)).relabel _ _)
    (msPairs_pinj amk orc.assign fp tp fkv tkv).2.2

theorem leafEdits_subs (x : Scalar) (t : Tree) (hs : ∀ u v, x = .str u → t = .leaf (.str v) → False) :
    (leafEdits x t).subs = [] := by
  unfold leafEdits
  split
  · rfl
  · rfl
  · exact absurd rfl (hs _ _ rfl)
  · rfl
  · rfl

theorem mkLeaf_refines (a : Ghost) (x : Scalar) (t : Tree) : RefP a (mkLeaf x t) (leafEdits x t) := by
  unfold mkLeaf
  split
  · exact mkStr_refines a _ _
  · exact RefP.ofLeaf a _ (leafEdits_subs _ _ (by assumption))

section
variable (a : Ghost) (o : Opts) (orc : Orc) (fp tp : List Nat)

/-- what `mkEdit_refines` says of one from-tree -/
abbrev TreeRef (c : Tree) : Prop :=
  ∀ (t : Tree) (fp tp : List Nat), RefP a (mkEdit o orc fp tp c t) (edits o orc.assign fp tp c t)

variable {a o orc fp tp}

theorem listTbl_ref {fcs tcs : List Tree} (ih : ∀ c ∈ fcs, TreeRef a o orc c) {i j : Nat} (hi : i < fcs.length)
    (hj : j < tcs.length) :
    RefP a (mkEdit o orc (fp ++ [i]) (tp ++ [j]) (fcs.getD i dT) (tcs.getD j dT))
      (((listTbl o orc.assign fp tp fcs tcs).getD i []).getD j (mkMatch 0)) := by
  rw [listTbl_getD _ _ _ _ _ _ _ _ _ hi hj, ← getD_eq_getElem fcs dT hi, ← getD_eq_getElem tcs dT hj]
  exact ih _ (getD_mem fcs i dT hi) _ _ _

theorem kvTbl_ref {fkv : List (Str × Tree)} (ih : ∀ kv ∈ fkv, TreeRef a o orc kv.2) (tkv : List (Str × Tree))
    (i j : Nat) :
    RefP a (((kvTblM o orc fp tp fkv tkv).getD i []).getD j (mkConst .match_ 0))
      (((kvTbl o orc.assign fp tp fkv tkv).getD i []).getD j (mkMatch 0)) := by
  rw [kvTblM_getD, kvTbl, zipIdx_grid fkv tkv dkv dkv
    fun p i q j => edits o orc.assign (fp ++ [i, 1]) (tp ++ [j, 1]) p.2 q.2, grid_getD]
  split
  · rename_i h
    exact ih _ (getD_mem fkv i dkv h.1) _ _ _
  · exact RefP.const a 0

theorem fixed_refines {fcs : List Tree} (ih : ∀ c ∈ fcs, TreeRef a o orc c) (tcs : List Tree) :
    RefP a (.fixed { kind := .fixed } (fixedPairs o orc fp tp fcs tcs) (fixedTail fcs tcs))
      (fixedScript fcs tcs (listTbl o orc.assign fp tp fcs tcs)) := by
  have htail : ∀ s ∈ fixedTail fcs tcs, s.subs = [] := by
    intro s hs
    simp only [fixedTail, List.mem_append, List.mem_map] at hs
    rcases hs with ⟨k, _, rfl⟩ | ⟨k, _, rfl⟩ <;> rfl
  rw [fixedPairs_eq, fixedScript, List.append_assoc]
  refine RefP.fixed .fixed (RefL.map _ _ _ ?_) _ htail
  intro i hi
  have hi : i < min fcs.length tcs.length := List.mem_range.mp hi
  exact (listTbl_ref ih (Nat.lt_of_lt_of_le hi (Nat.min_le_left _ _))
    (Nat.lt_of_lt_of_le hi (Nat.min_le_right _ _))).relabel _ _

theorem listEd_refines {fcs : List Tree} (ih : ∀ c ∈ fcs, TreeRef a o orc c) (tcs : List Tree) :
    RefP a (.ed { kind := .ed } (edInit (trimLens fcs tcs) (fcs.map Tree.size) (tcs.map Tree.size) (edPen fcs tcs))
        (edCells o orc fp tp fcs tcs))
      (edScript fcs tcs (edPen fcs tcs) (listTbl o orc.assign fp tp fcs tcs)) := by
  have lt : ∀ {i n p q : Nat}, i < n - p - q → i + p < n := fun h =>
    Nat.add_lt_of_lt_sub (Nat.lt_of_lt_of_le h (Nat.sub_le _ _))
  rw [edCells_eq]
  refine ed_refines a fcs tcs (trimLens fcs tcs) Tree.size (edPen fcs tcs) dT (edCell o orc fp tp fcs tcs)
    (fun r c => (((listTbl o orc.assign fp tp fcs tcs).getD (c + (trimLens fcs tcs).1) []).getD
      (r + (trimLens fcs tcs).1) (mkMatch 0)).relabel (.at (c + (trimLens fcs tcs).1)) (.at (r + (trimLens fcs tcs).1)))
    ?_
  intro r c hr hc
  rw [middle_length] at hr hc
  rw [edCell, middle_getD dT tcs _ r hr]
  exact (listTbl_ref ih (lt hc) (lt hr)).relabel _ _

theorem fk_refines {fkv : List (Str × Tree)} (ih : ∀ kv ∈ fkv, TreeRef a o orc kv.2) (tkv : List (Str × Tree))
    (st : CollSt) :
    RefP a (.coll { kind := .fk } st (fkPending fkv tkv (kvTblM o orc fp tp fkv tkv)) [])
      (fkScript fkv tkv (kvTbl o orc.assign fp tp fkv tkv)) := by
  have e : fkScript fkv tkv (kvTbl o orc.assign fp tp fkv tkv)
      = mkCompound .fk (fkScript fkv tkv (kvTbl o orc.assign fp tp fkv tkv)).subs := rfl
  rw [e, fkScript_subs, fkPending_eq]
  refine RefP.coll .fk st (((RefL.map _ _ _ ?_).append (RefL.map _ _ _ fun _ _ => RefP.ofLeaf a (GtModel.mkRemove ..) rfl)).append
    (RefL.map _ _ _ fun _ _ => RefP.ofLeaf a (GtModel.mkInsert ..) rfl))
  intro i _
  simp only [sharedM]
  split
  · exact (RefP.const a 0).relabel _ _
  · exact (mkKvp_refines _ _ _ (kvTbl_ref ih tkv _ _)).relabel _ _

end

theorem mkEdit_refines (a : Ghost) (o : Opts) (orc : Orc) :
    ∀ (f t : Tree) (fp tp : List Nat),
      RefP a (mkEdit o orc fp tp f t) (edits o orc.assign fp tp f t) := by
  intro f
  induction f using Tree.ind with
  | leaf x =>
    intro t fp tp
    rw [mkEdit_leaf, edits_leaf]
    exact mkLeaf_refines a x t
  | list fcs ih =>
    intro t fp tp
    by_cases ht : ∃ tcs, t = .list tcs
    · obtain ⟨tcs, rfl⟩ := ht
      rw [mkEdit_list_list, edits_list_list]
      exact RefP.ite (fun _ => RefP.const a 0) fun _ =>
        RefP.ite (fun _ => fixed_refines ih tcs) fun _ => listEd_refines ih tcs
    · rw [mkEdit_list_other fun tcs h => ht ⟨tcs, h⟩, edits_list_other _ _ _ _ _ _ fun tcs h => ht ⟨tcs, h⟩]
      exact RefP.ofLeaf a _ rfl
  | dict fkv ih =>
    intro t fp tp
    by_cases ht : ∃ tkv, t = .dict tkv
    · obtain ⟨tkv, rfl⟩ := ht
      rw [mkEdit_dict_dict, edits_dict_dict]
      exact RefP.ite (fun _ => RefP.const a 0) fun _ =>
        mkMs_refines a _ orc fp tp fkv tkv _ _ (kvTbl_ref ih tkv)
    · rw [mkEdit_dict_other fun tkv h => ht ⟨tkv, h⟩, edits_dict_other _ _ _ _ _ _ fun tkv h => ht ⟨tkv, h⟩]
      exact RefP.ofLeaf a _ rfl
  | fdict fkv ih =>
    intro t fp tp
    by_cases ht : ∃ tkv, t = .fdict tkv
    · obtain ⟨tkv, rfl⟩ := ht
      rw [mkEdit_fdict_fdict, edits_fdict_fdict]
      exact RefP.ite (fun _ => RefP.const a 0) fun _ => fk_refines ih tkv _
    · rw [mkEdit_fdict_other fun tkv h => ht ⟨tkv, h⟩,
        edits_fdict_other _ _ _ _ _ _ fun tkv h => ht ⟨tkv, h⟩]
      exact RefP.ofLeaf a _ rfl

end GtModel.Lazy
