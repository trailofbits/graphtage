/-
  The pending sub-edits of a FixedKeyDictNodeEdit and, on its domain, the static bound
  "Σ initial upper bounds ≤ from.total_size + to.total_size + 1".
-/
import GtModel.Proofs.EditsPerm
import GtModel.Proofs.LazyFreshP

namespace GtModel.Lazy
open GtModel.EditMatrix (middle trimLens)

attribute [-simp] List.getD_eq_getElem?_getD

theorem mkKvp_invP (a : Ghost) (fk tk : Str) (veq : Bool) (ve : M) (hve : InvP a ve) : InvP a (mkKvp fk tk veq ve) :=
  InvP.kvp ((orMatch (InvP.const a _ _) (mkStr_fresh a fk tk).1.toInvP _).relabel _ _)
    ((orMatch (InvP.const a _ _) hve _).relabel _ _) _

theorem mkKvp_fresh (a : Ghost) (fk tk : Str) (veq : Bool) (ve : M) (hve : FreshP a ve) :
    FreshP a (mkKvp fk tk veq ve) :=
  FreshP.kvp ((orMatch (FreshP.const a _ _) (mkStr_fresh a fk tk).1 _).relabel _ _)
    ((orMatch (FreshP.const a _ _) hve _).relabel _ _) _

theorem mkKvp_hi (fk tk : Str) (veq : Bool) (ve : M) :
    (initIv (mkKvp fk tk veq ve)).hi
      = (if fk == tk then 0 else (initIv (mkStr fk tk)).hi) + (if veq then 0 else (initIv ve).hi) := by
  unfold mkKvp
  simp only [initIv, initIv_relabel, Iv.add]
  cases (fk == tk) <;> cases veq <;> simp [mkConst, initIv, Iv.point]

/-- the sub-edit of the from-pair `i` whose key also occurs in `to` -/
def sharedM (fkv tkv : List (Str × Tree)) (vtbl : List (List M)) (i : Nat) : M :=
  let j := (findKey (fkv.getD i dkv).1 tkv 0).getD 0
  if kvEq (fkv.getD i dkv) (tkv.getD j dkv) then (mkConst .match_ 0).relabel (.at i) (.at j)
  else (mkKvp (fkv.getD i dkv).1 (tkv.getD j dkv).1 ((fkv.getD i dkv).2.eq (tkv.getD j dkv).2)
    ((vtbl.getD i []).getD j (mkConst .match_ 0))).relabel (.at i) (.at j)

theorem fkPending_eq (fkv tkv : List (Str × Tree)) (vtbl : List (List M)) :
    fkPending fkv tkv vtbl =
      ((List.range fkv.length).filter fun i => (findKey (fkv.getD i dkv).1 tkv 0).isSome).map (sharedM fkv tkv vtbl)
      ++ ((List.range fkv.length).filter fun i => !(findKey (fkv.getD i dkv).1 tkv 0).isSome).map (fun i =>
        mkRemove i (kvSize (fkv.getD i dkv)) 1)
      ++ ((List.range tkv.length).filter fun j => !(findKey (tkv.getD j dkv).1 fkv 0).isSome).map (fun j =>
        mkInsert j (kvSize (tkv.getD j dkv)) 1) := by
  simp only [fkPending]
  congr 1
  · congr 1
    · rw [filterMap_eq_map_filter _ (mkConst .match_ 0)]
      apply map_filter_congr
      intro i _
      refine ⟨by simp, fun hi => ?_⟩
      simp only [Option.isSome_map] at hi
      obtain ⟨j, hj⟩ := Option.isSome_iff_exists.1 hi
      simp [hj, sharedM]
    · rw [filterMap_eq_map_filter _ (mkConst .match_ 0)]
      apply map_filter_congr
      intro i _
      cases findKey (fkv.getD i dkv).1 tkv 0 <;> simp
  · rw [filterMap_eq_map_filter _ (mkConst .match_ 0)]
    apply map_filter_congr
    intro i _
    cases findKey (tkv.getD i dkv).1 fkv 0 <;> simp

section
variable (a : Ghost) (fkv tkv : List (Str × Tree)) (vtbl : List (List M))

theorem sharedM_fresh (hv : ∀ i j, FreshP a ((vtbl.getD i []).getD j (mkConst .match_ 0))) (i : Nat) :
    FreshP a (sharedM fkv tkv vtbl i) := by
  simp only [sharedM]
  split
  · exact (FreshP.const a _ _).relabel _ _
  · exact (mkKvp_fresh a _ _ _ _ (hv _ _)).relabel _ _

theorem fkPending_fresh (hv : ∀ i j, FreshP a ((vtbl.getD i []).getD j (mkConst .match_ 0))) :
    ∀ m ∈ fkPending fkv tkv vtbl, FreshP a m := by
  intro m hm
  rw [fkPending_eq] at hm
  simp only [List.mem_append, List.mem_map] at hm
  rcases hm with (⟨i, _, rfl⟩ | ⟨i, _, rfl⟩) | ⟨j, _, rfl⟩
  · exact sharedM_fresh a fkv tkv vtbl hv i
  · exact FreshP.const a _ _
  · exact FreshP.const a _ _

theorem fkPending_ne (h : (fkv.length == tkv.length && subKV fkv tkv) = false) : fkPending fkv tkv vtbl ≠ [] := by
  rw [fkPending_eq]
  intro h0
  simp only [List.append_eq_nil_iff, List.map_eq_nil_iff] at h0
  obtain ⟨⟨h1, h2⟩, h3⟩ := h0
  have hf := (List.filter_append_perm (fun i => (findKey (fkv.getD i dkv).1 tkv 0).isSome)
    (List.range fkv.length)).length_eq
  rw [h1, h2, List.length_range] at hf
  obtain rfl : fkv = [] := List.length_eq_zero_iff.mp hf.symm
  have ht : ∀ j, tkv.length ≤ j := by simpa [findKey] using h3
  obtain rfl : tkv = [] := List.length_eq_zero_iff.mp (Nat.le_zero.mp (ht 0))
  simp [subKV] at h

/-- the value's edit may cost `3 * nw` more than the two sizes; on `fkOK` the two copies of the key pay for it -/
theorem sharedM_hi {i j : Nat} (hj : findKey (fkv.getD i dkv).1 tkv 0 = some j)
    (hb : (initIv ((vtbl.getD i []).getD j (mkConst .match_ 0))).hi
      ≤ (fkv.getD i dkv).2.size + (tkv.getD j dkv).2.size + 1 + 3 * (tkv.getD j dkv).2.nw)
    (hd : 3 * (tkv.getD j dkv).2.nw ≤ 2 * (tkv.getD j dkv).1.length + 5) :
    (initIv (sharedM fkv tkv vtbl i)).hi ≤ (kvSize (fkv.getD i dkv) + 1) + (kvSize (tkv.getD j dkv) + 1) := by
  have hkey : (tkv.getD j dkv).1 = (fkv.getD i dkv).1 := findKey_key hj
  simp only [sharedM, hj, Option.getD_some]
  split
  · exact Nat.zero_le _
  · rw [initIv_relabel, mkKvp_hi, if_pos (by rw [hkey]; exact beq_self_eq_true _), Nat.zero_add, kvSize, kvSize]
    rw [hkey] at hd ⊢
    split <;> omega

theorem fkPending_sum (hdf : (keys fkv).Nodup) (hdt : (keys tkv).Nodup)
    (hB : ∀ i j, i < fkv.length → j < tkv.length →
      (initIv ((vtbl.getD i []).getD j (mkConst .match_ 0))).hi
        ≤ (fkv.getD i dkv).2.size + (tkv.getD j dkv).2.size + 1 + 3 * (tkv.getD j dkv).2.nw)
    (hdom : ∀ j, j < tkv.length → 3 * (tkv.getD j dkv).2.nw ≤ 2 * (tkv.getD j dkv).1.length + 5) :
    ((fkPending fkv tkv vtbl).map fun m => (initIv m).hi).sum ≤ sizeKV fkv + sizeKV tkv := by
  let wf : Nat → Nat := fun i => kvSize (fkv.getD i dkv) + 1
  let wt : Nat → Nat := fun j => kvSize (tkv.getD j dkv) + 1
  let jOf : Nat → Nat := fun i => (findKey (fkv.getD i dkv).1 tkv 0).getD 0
  let hit : Nat → Bool := fun i => (findKey (fkv.getD i dkv).1 tkv 0).isSome
  let S := (List.range fkv.length).filter hit
  let R := (List.range fkv.length).filter fun i => !hit i
  let I := (List.range tkv.length).filter fun j => !(findKey (tkv.getD j dkv).1 fkv 0).isSome
  have e1 : (S.map fun i => (initIv (sharedM fkv tkv vtbl i)).hi).sum ≤ (S.map wf).sum + ((S.map jOf).map wt).sum := by
    rw [List.map_map, ← sum_map_add2]
    refine sum_map_le S _ _ fun i hi => ?_
    obtain ⟨hi1, hi2⟩ := List.mem_filter.mp hi
    obtain ⟨j, hj⟩ := Option.isSome_iff_exists.1 hi2
    have hjo : jOf i = j := congrArg (Option.getD · 0) hj
    show _ ≤ wf i + wt (jOf i)
    rw [hjo]
    exact sharedM_hi fkv tkv vtbl hj (hB i j (List.mem_range.mp hi1) (findKey_lt hj)) (hdom j (findKey_lt hj))
  have pf : ((S ++ R).map wf).sum = ((List.range fkv.length).map wf).sum :=
    ((List.filter_append_perm _ _).map wf).sum_nat
  -- the to-pairs hit by a shared key together with those of `I` are all of `tkv`
  have hh : S.map jOf = fkHits fkv tkv := by
    rw [fkHits, filterMap_eq_map_filter _ 0]
  have pt : ((fkHits fkv tkv ++ I).map wt).sum = ((List.range tkv.length).map wt).sum := by
    refine ((perm_compl _ _ _ (fkHits_nodup fkv tkv hdf) ?_ ?_).map wt).sum_nat
    · intro j hj
      obtain ⟨i, _, h⟩ := List.mem_filterMap.mp hj
      exact findKey_lt h
    · intro j hj
      rw [mem_fkHits fkv tkv hdt j hj, ← findKey_none (s := 0), getD_key hj]
      cases findKey tkv[j].1 fkv 0 <;> simp
  rw [List.map_append, List.sum_append] at pf pt
  rw [hh] at e1
  rw [fkPending_eq, List.map_append, List.map_append, List.sum_append, List.sum_append, List.map_map, List.map_map,
    List.map_map, sizeKV_eq_sum fkv, sizeKV_eq_sum tkv, ← map_range_getD fkv dkv fun kv => kvSize kv + 1,
    ← map_range_getD tkv dkv fun kv => kvSize kv + 1]
  show (S.map fun i => (initIv (sharedM fkv tkv vtbl i)).hi).sum + (R.map wf).sum + (I.map wt).sum
    ≤ ((List.range fkv.length).map wf).sum + ((List.range tkv.length).map wt).sum
  omega

end

end GtModel.Lazy
