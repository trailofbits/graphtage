/-
  The parts of the compound scripts: what a sub-edit of `edScript`, `fixedScript`, `msScript` and `fkScript` can be
  (`SubForm`, `subForm_*`), the look-up of keys (`findKey`), and what the model keeps of an answer of the assignment solver (`PInj`).
-/
import GtModel.Proofs.EditMatrix
import GtModel.Proofs.EditsBasic
namespace GtModel
open List
open GtModel.EditMatrix

/-- kinds that carry sub-edits: the five `CompoundEdit` classes plus `StringEdit` -/
def Kind.hasSubs : Kind → Bool
  | .kvp | .fixed | .ed | .ms | .fk | .str => true
  | _ => false

/-- an edit of whole nodes: Match, Replace, Remove or Insert, without sub-edits -/
def Script.Flat (s : Script) : Prop := s.kind.hasSubs = false ∧ s.subs = []

section Trim
variable {α : Type} [BEq α]

theorem trim_le_left (a b : List α) : (trimLens a b).1 + (trimLens a b).2 ≤ a.length := (trimLens_le a b).1

theorem trim_le_right (a b : List α) : (trimLens a b).1 + (trimLens a b).2 ≤ b.length := (trimLens_le a b).2

theorem trim_prefix (d : α) (a b : List α) (i : Nat) (h : i < (trimLens a b).1) :
    (a.getD i d == b.getD i d) = true := by
  obtain ⟨pa, pb, sa, sb, ha, hb, hp, -⟩ := trim_split a b
  rw [ha.getD_pre d h, hb.getD_pre d h]
  exact hp.get i _ _

/-- the matches of the shared suffix, counted from its start, as the scripts label them -/
theorem trim_suffix_at (d : α) (a b : List α) (k : Nat) (h : k < (trimLens a b).2) :
    (a.getD (a.length - (trimLens a b).2 + k) d == b.getD (b.length - (trimLens a b).2 + k) d) = true := by
  obtain ⟨pa, pb, sa, sb, ha, hb, -, hs⟩ := trim_split a b
  rw [ha.getD_suf d h, hb.getD_suf d h]
  exact hs.get k _ _

end Trim

/-- What a sub-edit of a compound script can be: a `Match` of cost 0 between positions `i`, `j` that `eqAt` relates
    (equal children), the pair edit `cell i j` for positions `pairAt` relates, an identity match of a position in `M`
    (`MultiSetEdit` only), a removal or an insertion. -/
inductive SubForm (eqAt pairAt : Nat → Nat → Prop) (cell : Nat → Nat → Script) (M : List Nat) : Script → Prop
  | eq {i j : Nat} : eqAt i j → SubForm eqAt pairAt cell M ((mkMatch 0).relabel (.at i) (.at j))
  | cell {i j : Nat} : pairAt i j → SubForm eqAt pairAt cell M (cell i j)
  | same {i : Nat} : i ∈ M → SubForm eqAt pairAt cell M ((mkMatch 0).relabel (.at i) .same)
  | remove (i c p : Nat) : SubForm eqAt pairAt cell M (mkRemove i c p)
  | insert (j c p : Nat) : SubForm eqAt pairAt cell M (mkInsert j c p)

theorem SubForm.flat_or_cell {eqAt pairAt : Nat → Nat → Prop} {cell : Nat → Nat → Script} {M : List Nat} {s : Script}
    (h : SubForm eqAt pairAt cell M s) : s.Flat ∨ ∃ i j, pairAt i j ∧ s = cell i j := by
  cases h with
  | cell h => exact .inr ⟨_, _, h, rfl⟩
  | _ => exact .inl ⟨rfl, rfl⟩

def listEqAt (fcs tcs : List Tree) (i j : Nat) : Prop :=
  i < fcs.length ∧ j < tcs.length ∧ (fcs.getD i (.leaf .null) == tcs.getD j (.leaf .null)) = true

theorem mid_lt {c p s n : Nat} (h : c < n - p - s) : c + p < n := by omega
theorem pre_lt {k p s n : Nat} (h : k < p) (hl : p + s ≤ n) : k < n := by omega
theorem suf_lt {k p s n : Nat} (h : k < s) (hl : p + s ≤ n) : n - s + k < n := by omega

theorem subForm_edScript {fcs tcs : List Tree} {pen : Nat} {tbl : List (List Script)} {s : Script}
    (h : s ∈ (edScript fcs tcs pen tbl).subs) :
    SubForm (listEqAt fcs tcs) (fun i j => i < fcs.length ∧ j < tcs.length)
      (fun i j => ((tbl.getD i []).getD j (mkMatch 0)).relabel (.at i) (.at j)) [] s := by
  have hl := trimLens_le fcs tcs
  simp only [edScript, Script.subs_mk, List.mem_append, List.mem_map, List.mem_range] at h
  rcases h with (⟨k, hk, rfl⟩ | ⟨⟨m, r, c⟩, hm, rfl⟩) | ⟨k, hk, rfl⟩
  · exact .eq ⟨pre_lt hk hl.1, pre_lt hk hl.2, trim_prefix _ fcs tcs k hk⟩
  · have hr := solve_located_inRange _ _ _ _ hm
    simp only [List.length_map, middle_length] at hr
    cases m
    · exact .cell (i := c + (trimLens fcs tcs).1) (j := r + (trimLens fcs tcs).1)
        ⟨mid_lt (hr.2 Move.noConfusion), mid_lt (hr.1 Move.noConfusion)⟩
    · exact .insert ..
    · exact .remove ..
  · exact .eq ⟨suf_lt hk hl.1, suf_lt hk hl.2, trim_suffix_at _ fcs tcs k hk⟩

theorem subForm_fixedScript {fcs tcs : List Tree} {tbl : List (List Script)} {s : Script}
    (h : s ∈ (fixedScript fcs tcs tbl).subs) :
    SubForm (listEqAt fcs tcs) (fun i j => i < fcs.length ∧ j < tcs.length)
      (fun i j => ((tbl.getD i []).getD j (mkMatch 0)).relabel (.at i) (.at j)) [] s := by
  simp only [fixedScript, mkCompound_subs, List.mem_append, List.mem_map, List.mem_range] at h
  rcases h with (⟨k, hk, rfl⟩ | ⟨k, _, rfl⟩) | ⟨k, _, rfl⟩
  · exact .cell (i := k) (j := k) ⟨Nat.lt_of_lt_of_le hk (Nat.min_le_left ..), Nat.lt_of_lt_of_le hk (Nat.min_le_right ..)⟩
  · exact .remove ..
  · exact .insert ..

-- the model and `getD_key`, `listTbl_getD`, … are stated with `getD`, which this simp lemma would rewrite away
-- (file-local, hence repeated in the files that follow)
attribute [-simp] List.getD_eq_getElem?_getD

def keys {α : Type} (l : List (Str × α)) : List Str := l.map Prod.fst

theorem findKey_eq (k : Str) (l : List (Str × Tree)) (s : Nat) :
    findKey k l s = (l.findIdx? fun p => k == p.1).map (· + s) := by
  induction l generalizing s with
  | nil => rfl
  | cons kv l ih =>
    obtain ⟨k', v'⟩ := kv
    rw [findKey, List.findIdx?_cons, ih]
    split
    · simp
    · simp [Option.map_map, Function.comp_def, Nat.add_assoc, Nat.add_comm 1]

theorem findKey_some {k : Str} {l : List (Str × Tree)} {s j : Nat} (h : findKey k l s = some j) :
    s ≤ j ∧ ∃ hj : j - s < l.length, l[j - s].1 = k := by
  rw [findKey_eq, Option.map_eq_some_iff] at h
  obtain ⟨i, hi, rfl⟩ := h
  obtain ⟨hl, hk, -⟩ := List.findIdx?_eq_some_iff_getElem.1 hi
  simp only [Nat.add_sub_cancel]
  exact ⟨Nat.le_add_left .., hl, (beq_iff_eq.1 hk).symm⟩

theorem findKey_none {k : Str} {l : List (Str × Tree)} {s : Nat} : findKey k l s = none ↔ k ∉ keys l := by
  rw [findKey_eq, Option.map_eq_none_iff, List.findIdx?_eq_none_iff]
  simp only [keys, List.mem_map, not_exists, not_and, beq_eq_false_iff_ne, ne_eq]
  exact ⟨fun h p hp e => h p hp e.symm, fun h p hp e => h p hp e.symm⟩

theorem findKey_self {l : List (Str × Tree)} (hd : (keys l).Nodup) {i : Nat} (hi : i < l.length) (s : Nat) :
    findKey l[i].1 l s = some (i + s) := by
  rw [findKey_eq, Option.map_eq_some_iff]
  refine ⟨i, List.findIdx?_eq_some_iff_getElem.2 ⟨hi, beq_self_eq_true _, fun j hj hk => ?_⟩, rfl⟩
  have := (List.nodup_iff_pairwise_ne.1 hd)
  rw [keys, List.pairwise_map] at this
  exact (List.pairwise_iff_getElem.1 this j i (by omega) hi hj) (beq_iff_eq.1 hk).symm

theorem findKey_lt {k : Str} {l : List (Str × Tree)} {j : Nat} (h : findKey k l 0 = some j) : j < l.length := by
  obtain ⟨_, h2, _⟩ := findKey_some h; simpa using h2

theorem findKey_key {k : Str} {l : List (Str × Tree)} {j : Nat} (h : findKey k l 0 = some j) :
    (l.getD j ([], .leaf .null)).1 = k := by
  obtain ⟨_, h2, h3⟩ := findKey_some h
  simp only [Nat.sub_zero] at h2 h3
  simp [List.getD_eq_getElem?_getD, h2, h3]

theorem findKey_iff {l : List (Str × Tree)} (hd : (keys l).Nodup) {k : Str} {j : Nat} :
    findKey k l 0 = some j ↔ ∃ hj : j < l.length, l[j].1 = k := by
  constructor
  · intro h
    obtain ⟨_, h2, h3⟩ := findKey_some h
    exact ⟨by simpa using h2, by simpa using h3⟩
  · rintro ⟨hj, rfl⟩
    simpa using findKey_self hd hj 0

theorem keys_inj {l : List (Str × Tree)} (hd : (keys l).Nodup) {i j : Nat} (hi : i < l.length) (hj : j < l.length)
    (h : l[i].1 = l[j].1) : i = j := by
  have h1 := findKey_self hd hi 0
  have h2 := findKey_self hd hj 0
  rw [h, h2] at h1
  simpa using h1.symm

theorem mem_keys_iff {α : Type} {l : List (Str × α)} {k : Str} : k ∈ keys l ↔ ∃ i, ∃ h : i < l.length, l[i].1 = k := by
  simp only [keys, List.mem_iff_getElem, List.length_map, List.getElem_map]

abbrev dkv : Str × Tree := ([], .leaf .null)

theorem getD_key {l : List (Str × Tree)} {i : Nat} (hi : i < l.length) : (l.getD i dkv).1 = l[i].1 := by
  simp [List.getD_eq_getElem?_getD, hi]

/-- the three segments of `fkScript`, with `filterMap` turned into `filter`+`map` -/
theorem fkScript_subs (fkv tkv : List (Str × Tree)) (vtbl : List (List Script)) :
    (fkScript fkv tkv vtbl).subs =
      ((List.range fkv.length).filter fun i => (findKey (fkv.getD i dkv).1 tkv 0).isSome).map (fun i =>
        let j := (findKey (fkv.getD i dkv).1 tkv 0).getD 0
        if kvEq (fkv.getD i dkv) (tkv.getD j dkv) then (mkMatch 0).relabel (.at i) (.at j)
        else (kvpScript (fkv.getD i dkv).1 (tkv.getD j dkv).1 ((fkv.getD i dkv).2.eq (tkv.getD j dkv).2)
          ((vtbl.getD i []).getD j (mkMatch 0))).relabel (.at i) (.at j))
      ++ ((List.range fkv.length).filter fun i => !(findKey (fkv.getD i dkv).1 tkv 0).isSome).map (fun i =>
        mkRemove i (kvSize (fkv.getD i dkv)) 1)
      ++ ((List.range tkv.length).filter fun j => !(findKey (tkv.getD j dkv).1 fkv 0).isSome).map (fun j =>
        mkInsert j (kvSize (tkv.getD j dkv)) 1) := by
  simp only [fkScript, mkCompound_subs]
  congr 1
  · congr 1
    · rw [filterMap_eq_map_filter _ (mkMatch 0)]
      apply map_filter_congr
      intro i _
      refine ⟨by simp, fun hi => ?_⟩
      simp only [Option.isSome_map] at hi
      obtain ⟨j, hj⟩ := Option.isSome_iff_exists.1 hi
      simp [hj]
    · rw [filterMap_eq_map_filter _ (mkMatch 0)]
      apply map_filter_congr
      intro i _
      cases findKey (fkv.getD i dkv).1 tkv 0 <;> simp
  · rw [filterMap_eq_map_filter _ (mkMatch 0)]
    apply map_filter_congr
    intro i _
    cases findKey (tkv.getD i dkv).1 fkv 0 <;> simp

/-- what the model keeps of any answer of the assignment solver: pairs with distinct first components, distinct
    second components, all in range -/
def PInj (nf nt : Nat) (l : List (Nat × Nat)) : Prop :=
  (l.map Prod.fst).Nodup ∧ (l.map Prod.snd).Nodup ∧ ∀ p ∈ l, p.1 < nf ∧ p.2 < nt

theorem PInj.perm {nf nt : Nat} {l l' : List (Nat × Nat)} (h : l.Perm l') (hl : PInj nf nt l) : PInj nf nt l' :=
  ⟨((h.map _).nodup_iff).1 hl.1, ((h.map _).nodup_iff).1 hl.2.1, fun p hp => hl.2.2 p ((h.mem_iff).2 hp)⟩

theorem sanitize_pinj (nf nt : Nat) (rest : List (Nat × Nat)) : ∀ acc, PInj nf nt acc →
    PInj nf nt (sanitize nf nt acc rest) := by
  induction rest with
  | nil => intro acc h; exact h.perm (List.reverse_perm acc).symm
  | cons p rest ih =>
    intro acc h
    obtain ⟨i, j⟩ := p
    simp only [sanitize]
    split
    · rename_i hc
      simp only [Bool.and_eq_true, decide_eq_true_eq, Bool.not_eq_true', List.any_eq_false, beq_iff_eq] at hc
      apply ih
      refine ⟨?_, ?_, ?_⟩
      · simp only [List.map_cons, List.nodup_cons, List.mem_map, not_exists, not_and]
        exact ⟨fun q hq e => hc.1.2 q hq (by simpa using e), h.1⟩
      · simp only [List.map_cons, List.nodup_cons, List.mem_map, not_exists, not_and]
        exact ⟨fun q hq e => hc.2 q hq (by simpa using e), h.2.1⟩
      · intro q hq
        simp only [List.mem_cons] at hq
        rcases hq with rfl | hq
        · exact ⟨hc.1.1.1, hc.1.1.2⟩
        · exact h.2.2 q hq
    · exact ih acc h

theorem identityPairs_pinj (nf nt : Nat) : PInj nf nt (identityPairs (Nat.min nf nt)) := by
  have h1 : Nat.min nf nt ≤ nf := Nat.min_le_left _ _
  have h2 : Nat.min nf nt ≤ nt := Nat.min_le_right _ _
  refine ⟨?_, ?_, ?_⟩
  · simp [identityPairs, List.map_map, Function.comp_def, List.nodup_range]
  · simp [identityPairs, List.map_map, Function.comp_def, List.nodup_range]
  · intro p hp
    simp only [identityPairs, List.mem_map, List.mem_range] at hp
    obtain ⟨i, hi, rfl⟩ := hp
    exact ⟨by dsimp only; omega, by dsimp only; omega⟩

theorem lookup_pinj (orc : Oracle) (fps tps : List (List Nat)) : PInj fps.length tps.length (orc.lookup fps tps) := by
  unfold Oracle.lookup
  split
  · exact sanitize_pinj _ _ _ [] ⟨by simp, by simp, by simp⟩
  · exact identityPairs_pinj _ _

theorem insertPair_perm (p : Nat × Nat) (l : List (Nat × Nat)) : (insertPair p l).Perm (p :: l) := by
  induction l with
  | nil => exact List.Perm.refl _
  | cons q l ih =>
    simp only [insertPair]
    split
    · exact List.Perm.refl _
    · exact ((List.Perm.cons q ih).trans (List.Perm.swap p q l))

theorem sortPairs_perm (l : List (Nat × Nat)) : (sortPairs l).Perm l := by
  induction l with
  | nil => exact List.Perm.refl _
  | cons p l ih => exact (insertPair_perm p _).trans (List.Perm.cons p ih)

theorem sorted_lookup_pinj (orc : Oracle) (fps tps : List (List Nat)) :
    PInj fps.length tps.length (sortPairs (orc.lookup fps tps)) :=
  (lookup_pinj orc fps tps).perm (sortPairs_perm _).symm

/-- The parts of `MultiSetEdit(from, to)` on two `DictNode`s, as `msScript` computes them: `msAuto` the pairs matched by key,
    `msFLeft` / `msTLeft` what that leaves on either side, `msToMatch` the left from-pairs with an equal to-pair (identity
    matches), `msToRemove` / `msToInsert` what goes to the matcher, `msPairs` the matcher's answer after `sanitize`, sorted,
    `msKvE i j` the `KeyValuePairEdit` of from-pair `i` and to-pair `j` (`fkScript` builds its pair edits the same way, so
    `msKvE` is what `subForm_fkScript` names too); `hasEqIn` is the membership test by `kvEq`. -/
def msAuto (amk : Bool) (fkv tkv : List (Str × Tree)) : List (Nat × Nat) :=
  if amk then (List.range fkv.length).filterMap fun i => (findKey (fkv.getD i dkv).1 tkv 0).map fun j => (i, j)
  else []
def msFLeft (amk : Bool) (fkv tkv : List (Str × Tree)) : List Nat :=
  (List.range fkv.length).filter fun i => !((msAuto amk fkv tkv).any (·.1 == i))
def msTLeft (amk : Bool) (fkv tkv : List (Str × Tree)) : List Nat :=
  (List.range tkv.length).filter fun j => !((msAuto amk fkv tkv).any (·.2 == j))
def hasEqIn (x : Str × Tree) (idxs : List Nat) (l : List (Str × Tree)) : Bool :=
  idxs.any fun j => kvEq x (l.getD j dkv)
def msToMatch (amk : Bool) (fkv tkv : List (Str × Tree)) : List Nat :=
  (msFLeft amk fkv tkv).filter fun i => hasEqIn (fkv.getD i dkv) (msTLeft amk fkv tkv) tkv
def msToRemove (amk : Bool) (fkv tkv : List (Str × Tree)) : List Nat :=
  (msFLeft amk fkv tkv).filter fun i => !(hasEqIn (fkv.getD i dkv) (msTLeft amk fkv tkv) tkv)
def msToInsert (amk : Bool) (fkv tkv : List (Str × Tree)) : List Nat :=
  (msTLeft amk fkv tkv).filter fun j => !(hasEqIn (tkv.getD j dkv) (msFLeft amk fkv tkv) fkv)
def msPairs (amk : Bool) (orc : Oracle) (fp tp : List Nat) (fkv tkv : List (Str × Tree)) : List (Nat × Nat) :=
  sortPairs (orc.lookup ((msToRemove amk fkv tkv).map fun i => fp ++ [i]) ((msToInsert amk fkv tkv).map fun j => tp ++ [j]))
def msKvE (fkv tkv : List (Str × Tree)) (vtbl : List (List Script)) (i j : Nat) : Script :=
  (kvpScript (fkv.getD i dkv).1 (tkv.getD j dkv).1 ((fkv.getD i dkv).2.eq (tkv.getD j dkv).2)
    ((vtbl.getD i []).getD j (mkMatch 0))).relabel (.at i) (.at j)

theorem msPairs_pinj (amk : Bool) (orc : Oracle) (fp tp : List Nat) (fkv tkv : List (Str × Tree)) :
    PInj (msToRemove amk fkv tkv).length (msToInsert amk fkv tkv).length (msPairs amk orc fp tp fkv tkv) := by
  have := sorted_lookup_pinj orc ((msToRemove amk fkv tkv).map fun i => fp ++ [i]) ((msToInsert amk fkv tkv).map fun j => tp ++ [j])
  rwa [List.length_map, List.length_map] at this

theorem msScript_subs (amk : Bool) (orc : Oracle) (fp tp : List Nat) (fkv tkv : List (Str × Tree))
    (vtbl : List (List Script)) :
    (msScript amk orc fp tp fkv tkv vtbl).subs =
      (msToMatch amk fkv tkv).map (fun i => (mkMatch 0).relabel (.at i) .same)
      ++ (msAuto amk fkv tkv).map (fun p => msKvE fkv tkv vtbl p.1 p.2)
      ++ (msPairs amk orc fp tp fkv tkv).map (fun p =>
          msKvE fkv tkv vtbl ((msToRemove amk fkv tkv).getD p.1 0) ((msToInsert amk fkv tkv).getD p.2 0))
      ++ ((List.range (msToRemove amk fkv tkv).length).filter fun a => !((msPairs amk orc fp tp fkv tkv).any (·.1 == a))).map
          (fun a => mkRemove ((msToRemove amk fkv tkv).getD a 0) (kvSize (fkv.getD ((msToRemove amk fkv tkv).getD a 0) dkv)) 1)
      ++ ((List.range (msToInsert amk fkv tkv).length).filter fun b => !((msPairs amk orc fp tp fkv tkv).any (·.2 == b))).map
          (fun b => mkInsert ((msToInsert amk fkv tkv).getD b 0) (kvSize (tkv.getD ((msToInsert amk fkv tkv).getD b 0) dkv)) 1) := by
  rfl

theorem any_fst_iff (l : List (Nat × Nat)) (i : Nat) : (!(l.any (·.1 == i))) = true ↔ i ∉ l.map Prod.fst := by
  simp only [Bool.not_eq_true', List.any_eq_false, beq_iff_eq, List.mem_map, not_exists, not_and]
theorem any_snd_iff (l : List (Nat × Nat)) (j : Nat) : (!(l.any (·.2 == j))) = true ↔ j ∉ l.map Prod.snd := by
  simp only [Bool.not_eq_true', List.any_eq_false, beq_iff_eq, List.mem_map, not_exists, not_and]

theorem msAuto_fst (amk : Bool) (fkv tkv : List (Str × Tree)) :
    (msAuto amk fkv tkv).map Prod.fst =
      (List.range fkv.length).filter (fun i => amk && (findKey (fkv.getD i dkv).1 tkv 0).isSome) := by
  unfold msAuto
  cases amk
  · simp
  · simp only [if_true, Bool.true_and]
    rw [filterMap_eq_map_filter _ (0, 0), List.map_map]
    have : ∀ l : List Nat, (l.filter fun i => (findKey (fkv.getD i dkv).1 tkv 0).isSome).map id =
        l.filter fun i => (findKey (fkv.getD i dkv).1 tkv 0).isSome := by simp
    rw [← this]
    apply map_filter_congr
    intro i _
    cases h : findKey (fkv.getD i dkv).1 tkv 0 <;> simp [h]

theorem msAuto_mem {amk : Bool} {fkv tkv : List (Str × Tree)} {p : Nat × Nat} (h : p ∈ msAuto amk fkv tkv) :
    amk = true ∧ p.1 < fkv.length ∧ findKey (fkv.getD p.1 dkv).1 tkv 0 = some p.2 := by
  unfold msAuto at h
  cases amk
  · simp at h
  · simp only [if_true, List.mem_filterMap, List.mem_range, Option.map_eq_some_iff] at h
    obtain ⟨i, hi, j, hj, rfl⟩ := h
    exact ⟨rfl, hi, hj⟩

theorem fLeft_mem {amk : Bool} {fkv tkv : List (Str × Tree)} {i : Nat} (h : i ∈ msFLeft amk fkv tkv) :
    i < fkv.length ∧ (amk = true → (fkv.getD i dkv).1 ∉ keys tkv) := by
  simp only [msFLeft, List.mem_filter, List.mem_range, any_fst_iff, msAuto_fst, not_and, Bool.and_eq_true] at h
  refine ⟨h.1, fun ha => ?_⟩
  have := h.2 h.1
  rw [← findKey_none (s := 0)]
  cases hk : findKey (fkv.getD i dkv).1 tkv 0
  · rfl
  · simp [ha, hk] at this

theorem tLeft_mem {amk : Bool} {fkv tkv : List (Str × Tree)} {j : Nat} (h : j ∈ msTLeft amk fkv tkv) :
    j < tkv.length := by
  simp only [msTLeft, List.mem_filter, List.mem_range] at h; exact h.1

theorem subForm_msScript {amk : Bool} {orc : Oracle} {fp tp : List Nat} {fkv tkv : List (Str × Tree)}
    {vtbl : List (List Script)} {s : Script} (h : s ∈ (msScript amk orc fp tp fkv tkv vtbl).subs) :
    SubForm (fun _ _ => False) (fun i j => i < fkv.length ∧ j < tkv.length) (msKvE fkv tkv vtbl)
      (msToMatch amk fkv tkv) s := by
  rw [msScript_subs] at h
  simp only [List.mem_append, List.mem_map] at h
  rcases h with (((⟨k, hk, rfl⟩ | ⟨p, hp, rfl⟩) | ⟨p, hp, rfl⟩) | ⟨k, _, rfl⟩) | ⟨k, _, rfl⟩
  · exact .same hk
  · exact .cell ⟨(msAuto_mem hp).2.1, findKey_lt (msAuto_mem hp).2.2⟩
  · have hP := (msPairs_pinj amk orc fp tp fkv tkv).2.2 p hp
    exact .cell ⟨(fLeft_mem (List.mem_filter.1 (getD_mem _ _ _ hP.1)).1).1, tLeft_mem (List.mem_filter.1 (getD_mem _ _ _ hP.2)).1⟩
  · exact .remove ..
  · exact .insert ..

def keyAt (fkv tkv : List (Str × Tree)) (i j : Nat) : Prop :=
  i < fkv.length ∧ j < tkv.length ∧ findKey (fkv.getD i dkv).1 tkv 0 = some j

theorem keyAt.key_eq {fkv tkv : List (Str × Tree)} {i j : Nat} (h : keyAt fkv tkv i j) :
    ∃ (hi : i < fkv.length) (hj : j < tkv.length), fkv[i].1 = tkv[j].1 := by
  obtain ⟨hi, hj, hf⟩ := h
  have := findKey_key hf
  rw [getD_key hi, getD_key hj] at this
  exact ⟨hi, hj, this.symm⟩

theorem subForm_fkScript {fkv tkv : List (Str × Tree)} {vtbl : List (List Script)} {s : Script}
    (h : s ∈ (fkScript fkv tkv vtbl).subs) :
    SubForm (fun i j => keyAt fkv tkv i j ∧ kvEq (fkv.getD i dkv) (tkv.getD j dkv) = true) (keyAt fkv tkv)
      (msKvE fkv tkv vtbl) [] s := by
  rw [fkScript_subs] at h
  simp only [List.mem_append, List.mem_map, List.mem_filter, List.mem_range] at h
  rcases h with (⟨i, ⟨hi, hsome⟩, rfl⟩ | ⟨k, _, rfl⟩) | ⟨k, _, rfl⟩
  · obtain ⟨j, hj⟩ := Option.isSome_iff_exists.1 hsome
    simp only [hj, Option.getD_some]
    split
    · exact .eq ⟨⟨hi, findKey_lt hj, hj⟩, ‹_›⟩
    · exact .cell ⟨hi, findKey_lt hj, hj⟩
  · exact .remove ..
  · exact .insert ..

end GtModel
