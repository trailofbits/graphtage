/-
  Python `__eq__` on nodes (`Tree.pyEq`) is reflexive on built trees without placeholders / PyObj nodes; with
  `pyEq_reset_left` (it ignores the flags that `copy_from` drops): `copy() == tree`.
-/
import GtModel.Proofs.BuilderCopy

namespace GtModel.Builder

theorem pyEq_leaf_refl (c : LeafCls) (s : Scalar) (q : Bool) : Tree.pyEq (.leaf c s q) (.leaf c s q) = true := by
  rw [pyEq_leaf]
  by_cases hc : c = .null <;> simp [hc]

theorem pyEq_refl_built (t : Tree) (h : Built false false t) : Tree.pyEq t t = true := by
  induction t using Tree.induct with
  | leaf c s q => exact pyEq_leaf_refl c s q
  | cyc r w => cases h with | cyc _ _ h => cases h
  | node tag cs ih =>
    rw [pyEq_node]
    refine seqEq_self (fun c hc => ih c hc (h.children c hc)) ?_
    cases h with
    | pyobj _ _ hp _ _ => cases hp
    | _ => nofun

theorem pyEq_refl_list : ∀ (cs : List Tree), BuiltList false false cs → ∀ x ∈ cs, Tree.pyEq x x = true :=
  fun _ h x hx => pyEq_refl_built x (builtList_iff.1 h x hx)

theorem pyEq_refl_kvps : ∀ (cs : List Tree), BuiltKvps false false cs → ∀ x ∈ cs, Tree.pyEq x x = true :=
  fun cs h => pyEq_refl_list cs (builtList_of_kvps h)

/-- **`copy() == tree`** for built trees without placeholders / PyObj nodes -/
theorem pyEq_reset_self (t : Tree) (h : Built false false t) : Tree.pyEq (reset t) t = true := by
  rw [pyEq_reset_left, pyEq_refl_built t h]

end GtModel.Builder
