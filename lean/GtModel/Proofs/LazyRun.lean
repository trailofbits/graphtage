/-
  Consequences of `Protocol` for the public operations on the root edit: every operation succeeds and keeps the
  invariant (C05 `no_internal_error`), the final cost and script do not depend on the history (C05
  `history_independent`), refinement converges (C04 `converges`).
-/
import GtModel.Proofs.LazyEngine

namespace GtModel.Lazy

section
variable {ops : Ops} {g : Ghost}

theorem full_eq_tightenAll (ops : Ops) : ∀ (k : Nat) (m : M), full ops k m = tightenAll ops false k m
  | 0, _ => rfl
  | k + 1, m => by
    simp only [full, tightenAll, full_eq_tightenAll ops k]
    rfl

theorem full_ok (P : Protocol ops g) (k : Nat) (m : M) (hI : g.I m) (hμ : g.μ m < k) :
    ∃ m', full ops k m = .ok m' ∧ Keeps g m m' ∧ g.view m' = Iv.point (g.fin m) := by
  obtain ⟨m', e, kp, hd⟩ := tightenAll_ok P false k m hI hμ
  have wf := P.wf m' kp.inv
  exact ⟨m', (full_eq_tightenAll ops k m).trans e, kp, iv_point_of (kp.fin ▸ wf.1) (kp.fin ▸ wf.2) hd⟩

theorem nonzero_ok (P : Protocol ops g) : ∀ (k : Nat) (m : M), g.I m → g.μ m < k →
    ∃ m' r, nonzeroLoop ops k m = .ok (m', r) ∧ Keeps g m m'
  | 0, _, _, h => absurd h (Nat.not_lt_zero _)
  | k + 1, m, hI, hμ => by
    refine Ret.ex₂ ?_
    unfold nonzeroLoop
    refine Ret.bindv (P.bounds m hI) fun m1 ⟨p1, _⟩ => Ret.ite
      (fun _ => Ret.bindv (P.bounds m1 p1.inv) fun m2 ⟨p2, _⟩ => Ret.pure (p1.trans p2).keeps)
      fun _ => Ret.bindv (P.bounds m1 p1.inv) fun m2 ⟨p2, _⟩ => ?_
    have k2 := (p1.trans p2).keeps
    refine Ret.ite (fun _ => Ret.bindv (P.bounds m2 p2.inv) fun m3 ⟨p3, _⟩ => Ret.pure (k2.trans p3.keeps))
      fun _ => Ret.bind₂ (P.tighten m2 p2.inv) fun m3 r st => ?_
    have k3 := k2.trans st.keeps
    cases r with
    | true =>
      have hμ3 : g.μ m3 < k := Nat.lt_of_lt_of_le (st.dec rfl) (Nat.le_trans k2.mu (Nat.le_of_lt_succ hμ))
      exact Ret.mono (Ret.of₂ (nonzero_ok P k m3 st.inv hμ3)) fun _ kp => k3.trans kp
    | false => exact Ret.bindv (P.bounds m3 st.inv) fun m4 ⟨p4, _⟩ => Ret.pure (k3.trans p4.keeps)

end

section
variable {rec : Ops} {g : Ghost} {q : Bool} {F : Nat}

theorem editsOp_ok (P : Protocol rec g) (m : M) (hI : (layer F g).I m) :
    ∃ m' r, editsOp rec q F m = .ok (m', r) ∧ Keeps (layer F g) m m' := by
  match m, hI with
  | .const .., hI | .str .., hI | .kvp .., hI | .fixed .., hI => exact ⟨_, _, rfl, Keeps.refl _ _ hI⟩
  | .ed l s c, ⟨inv, hmu⟩ =>
    obtain ⟨s', c', names, he, ek⟩ := edEdits_ok P q F l inv hmu
    exact ⟨.ed l s' c', names, he, ed_keeps hmu ek⟩
  | .coll l s p r, ⟨inv, hmu⟩ => exact ⟨_, _, rfl, coll_keeps hmu (collExpandAll_ok P s p r inv).1⟩
  | .ms l s k w e, ⟨inv, hmu⟩ =>
    obtain ⟨w', e', names, he, mk⟩ := msEdits_ok P q F l inv
    exact ⟨.ms l s k w' e', names, he, ms_keeps hmu mk⟩

end

section
variable {q : Bool} {F n : Nat} {a : Ghost}

theorem applyOp_ok (hF : 0 < F) (op : Op) (m : M) (hI : (G a F (n + 1)).I m) (hμ : muG a m < F) :
    ∃ m' r, applyOp q F n op m = .ok (m', r) ∧ Keeps (G a F (n + 1)) m m' ∧ (∀ b, r = .iv b → b = viewG a m) := by
  have P := engine_protocol_all q F hF a (n + 1)
  have no : ∀ {r : Res}, (∀ b, r ≠ .iv b) → ∀ b, r = .iv b → b = viewG a m := fun h b hb => absurd hb (h b)
  refine Ret.ex₂ ?_
  cases op with
  | bounds => exact Ret.bindv (P.bounds m hI) fun _ p => Ret.pure ⟨p.1.keeps, fun _ hb => (Res.iv.inj hb).symm⟩
  | tighten => exact Ret.bind₂ (P.tighten m hI) fun _ _ st => Ret.pure ⟨st.keeps, no fun _ => Res.noConfusion⟩
  | complete => exact Ret.bind₂ (P.complete m hI) fun _ _ p => Ret.pure ⟨p.1.keeps, no fun _ => Res.noConfusion⟩
  | valid => exact Ret.pure ⟨Keeps.refl _ _ hI, no fun _ => Res.noConfusion⟩
  | edits =>
    refine Ret.bind₂ (editsOp_ok (q := q) (engine_protocol_all q F hF a n) m (G_succ a F n ▸ hI)) fun _ _ p => ?_
    rw [← G_succ] at p
    exact Ret.pure ⟨p, no fun _ => Res.noConfusion⟩
  | nonzero => exact Ret.bind₂ (nonzero_ok P F m hI hμ) fun _ _ kp => Ret.pure ⟨kp, no fun _ => Res.noConfusion⟩
  | onDiff => exact Ret.bind (P.onDiff m hI) fun _ p => Ret.pure ⟨p, no fun _ => Res.noConfusion⟩

end

/-- every observed interval of a run lies in the previous one and contains the final cost -/
def Nested (fin : Nat) : Iv → List Res → Prop
  | _, [] => True
  | cur, .iv b :: rest => cur.lo ≤ b.lo ∧ b.hi ≤ cur.hi ∧ b.lo ≤ fin ∧ fin ≤ b.hi ∧ Nested fin b rest
  | cur, _ :: rest => Nested fin cur rest

theorem Nested.mono {fin : Nat} {a b : Iv} (h : a.lo ≤ b.lo ∧ b.hi ≤ a.hi) :
    ∀ rs, Nested fin b rs → Nested fin a rs
  | [], _ => trivial
  | .iv c :: rest, hn => by
      obtain ⟨h1, h2, h3, h4, h5⟩ := hn
      exact ⟨Nat.le_trans h.1 h1, Nat.le_trans h2 h.2, h3, h4, h5⟩
  | .bool _ :: rest, hn => Nested.mono h rest hn
  | .names _ :: rest, hn => Nested.mono h rest hn
  | .unit :: rest, hn => Nested.mono h rest hn

theorem run_ok (q : Bool) (F : Nat) (hF : 0 < F) (a : Ghost) (n : Nat) :
    ∀ (ops : List Op) (m : M), (G a F (n + 1)).I m → muG a m < F →
      ∃ m' rs, run q F n m ops = .ok (m', rs) ∧ Keeps (G a F (n + 1)) m m' ∧ Nested (finG a m) (viewG a m) rs
  | [], m, hI, _ => ⟨m, [], rfl, Keeps.refl _ _ hI, trivial⟩
  | op :: rest, m, hI, hμ => by
    refine Ret.ex₂ (Ret.bind₂ (applyOp_ok (q := q) hF op m hI hμ) fun m1 r ⟨k1, hr⟩ => ?_)
    refine Ret.bind₂ (run_ok q F hF a n rest m1 k1.inv (Nat.lt_of_le_of_lt k1.mu hμ)) fun m2 rs ⟨k2, hn⟩ => ?_
    refine Ret.pure ⟨k1.trans k2, ?_⟩
    have hf : finG a m1 = finG a m := k1.fin
    rw [hf] at hn
    have hn' := Nested.mono k1.sub rs hn
    cases r with
    | iv b =>
      cases hr b rfl
      have wf := (engine_protocol_all q F hF a (n + 1)).wf m hI
      exact ⟨Nat.le_refl _, Nat.le_refl _, wf.1, wf.2, hn'⟩
    | bool _ => exact hn'
    | names _ => exact hn'
    | unit => exact hn'

theorem finish_ok (q : Bool) (F : Nat) (hF : 0 < F) (a : Ghost) (n : Nat) (m : M)
    (hI : (G a F (n + 1)).I m) (hμ : muG a m < F) :
    ∃ m', finish q F n m = .ok (m', scriptG a m) := by
  have P := engine_protocol_all q F hF a (n + 1)
  obtain ⟨m1, e1, k1, hv⟩ := full_ok P F m hI hμ
  obtain ⟨m2, e2, _⟩ := P.dump m1 k1.inv (by rw [hv]; rfl)
  exact ⟨m2, bind_of_eq e1 (e2.trans (by rw [G_script, show scriptG a m1 = scriptG a m from k1.scr]))⟩

theorem session_ok (q1 q2 : Bool) (F : Nat) (hF : 0 < F) (a : Ghost) (n : Nat) (m : M) (hI : (G a F (n + 1)).I m)
    (hμ : muG a m < F) (ops : List Op) :
    ∃ m1 rs m2 m3, run q1 F n m ops = .ok (m1, rs) ∧ Nested (finG a m) (viewG a m) rs ∧
      finish q1 F n m1 = .ok (m2, scriptG a m) ∧ finish q2 F n m = .ok (m3, scriptG a m) := by
  obtain ⟨m1, rs, h, k, hn⟩ := run_ok q1 F hF a n ops m hI hμ
  obtain ⟨m2, h2⟩ := finish_ok q1 F hF a n m1 k.inv (Nat.lt_of_le_of_lt k.mu hμ)
  obtain ⟨m3, h3⟩ := finish_ok q2 F hF a n m hI hμ
  exact ⟨m1, rs, m2, m3, h, hn, (show scriptG a m1 = scriptG a m from k.scr) ▸ h2, h3⟩

end GtModel.Lazy
