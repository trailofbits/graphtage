/-
  The protocol for every machine of the engine.  First for an arbitrary ghost `g` of the sub-machines: `layer F g` is
  the ghost of a machine in terms of `g`, `stepOps q F rec` its methods over the methods `rec` of the sub-machines, and
  `layer_protocol` derives `Protocol (stepOps q F rec) (layer F g)` from `Protocol rec g`, one lemma per class
  (`const_obeys` … `ms_obeys`).  Then for the ghost `G` of LazyBase: `G_succ` says that `G a F (n + 1)` is
  `layer F (G a F n)`, and `engine_protocol_all` follows by induction on the nesting depth.  No machine class is an atom
  (`isAtom` is constantly false) and no ghost function reads the ghost parameter `a`, so `engine_protocol_all` holds for
  every `a` and `AtomHyp` is always true.
-/
import GtModel.Proofs.LazyColl
import GtModel.Proofs.LazyEdTighten
import GtModel.Proofs.LazyMsEdits

namespace GtModel.Lazy

def stepOps (q : Bool) (F : Nat) (rec : Ops) : Ops :=
  { bounds := boundsB rec F, tighten := tightenB rec q F, complete := completeB rec F,
    onDiff := onDiffB rec q F, dump := dumpB (boundsB rec F) rec q F }

theorem mkOps_succ (q : Bool) (F n : Nat) : mkOps q F (n + 1) = stepOps q F (mkOps q F n) := rfl

/-- The ghost of a machine in terms of the ghost `g` of its sub-machines; `F` bounds the loops.  `G` (LazyBase) is the
    same thing by structural recursion over `M`: `M` is a nested inductive, so that recursion needs list-level functions
    of its own (`viewL`, `finLL`, `invLL2` …) and `invG` cannot mention `G`.  `G_succ` below is the one link between the
    two; everything about the methods is proved for `layer`. -/
def layer (F : Nat) (g : Ghost) : Ghost where
  I
    | .const _ _ => True
    | .kvp _ k v => g.I k ∧ g.I v
    | .str _ e => g.I e
    | .fixed _ subs _ => ∀ x ∈ subs, g.I x
    | .ed _ s cells => EdInv g s cells ∧ edMu0 s + muLLg g cells < F
    | .coll _ s p q => CollInv g s p q ∧ collMu0 g s p q < F
    | .ms _ s k w e => MsInv g s k w e ∧ wmFlags w + muLLg g e < F
  Q
    | .const _ _ => True
    | .kvp _ k v => g.Q k ∧ g.Q v
    | .str _ e => g.Q e
    | .fixed _ subs _ => ∀ x ∈ subs, g.Q x
    | .ed _ s _ => edComplete s = true → s.cache.isSome = true
    | .coll .. => True
    | .ms _ _ k _ _ => ∀ x ∈ k, g.Q x
  view
    | .const _ c => Iv.point c
    | .kvp _ k v => (g.view k).add (g.view v)
    | .str _ e => g.view e
    | .fixed _ subs tail => ⟨sumLo g subs + tailCost tail, sumHi g subs + tailCost tail⟩
    | .ed _ s cells => edViewOf s (finM g cells)
    | .coll _ s _ q => collView g s q
    | .ms _ s k w e => msViewOf g s k w e
  fin
    | .const _ c => c
    | .kvp _ k v => g.fin k + g.fin v
    | .str _ e => g.fin e
    | .fixed _ subs tail => sumFin g subs + tailCost tail
    | .ed _ s cells => edFinOf s (finM g cells)
    | .coll _ _ p q => sumFin g q + sumFin g p
    | .ms _ s k w e => msFinOf g s k w e
  μ
    | .const .. => 0
    | .kvp _ k v => g.μ k + g.μ v
    | .str _ e => g.μ e
    | .fixed _ subs _ => sumMu g subs + (sumHi g subs - sumLo g subs)
    | .ed _ s cells => edMu0 s + muLLg g cells
    | .coll _ s p q => collMu0 g s p q + ((collView g s q).hi - (collView g s q).lo)
    | .ms _ s k w e => msMuOf g s k w e
  script
    | .const l c => .mk l.kind l.fi l.ti (Iv.point c) []
    | .kvp l k v => .mk l.kind l.fi l.ti (Iv.point (g.fin k + g.fin v)) [g.script k, g.script v]
    | .str l e => .mk l.kind l.fi l.ti (Iv.point (g.fin e)) (g.script e).subs
    | .fixed l subs tail =>
        .mk l.kind l.fi l.ti (Iv.point (sumFin g subs + tailCost tail)) (subs.map g.script ++ tail.map DScript.ofScript)
    | .ed l s cells => edScriptOf g l s cells
    | .coll l _ p q => .mk l.kind l.fi l.ti (Iv.point (sumFin g q + sumFin g p)) (q.map g.script ++ p.map g.script)
    | .ms l s k w e => msScriptOf g l s k w e

section Layer
variable {rec : Ops} {g : Ghost} {F : Nat} {q : Bool}

theorem kvp_keeps (l : Lbl) {k k' v v' : M} (hk : Keeps g k k') (hv : Keeps g v v') :
    Keeps (layer F g) (.kvp l k v) (.kvp l k' v') := by
  refine ⟨⟨hk.inv, hv.inv⟩, ?_, iv_add_sub hk.sub hv.sub, Nat.add_le_add hk.mu hv.mu, ?_⟩
  · show g.fin k' + g.fin v' = g.fin k + g.fin v
    rw [hk.fin, hv.fin]
  · show DScript.mk _ _ _ (Iv.point (g.fin k' + g.fin v')) [g.script k', g.script v'] = _
    rw [hk.fin, hv.fin, hk.scr, hv.scr]; rfl

theorem str_keeps (l : Lbl) {e e' : M} (he : Keeps g e e') : Keeps (layer F g) (.str l e) (.str l e') := by
  refine ⟨he.inv, he.fin, he.sub, he.mu, ?_⟩
  show DScript.mk _ _ _ (Iv.point (g.fin e')) (g.script e').subs = _
  rw [he.fin, he.scr]; rfl

theorem fixed_keeps (l : Lbl) (t : List Script) {ms ms' : List M} (ag : Agg g ms ms') :
    Keeps (layer F g) (.fixed l ms t) (.fixed l ms' t) := by
  refine ⟨ag.inv, congrArg (· + tailCost t) ag.fin,
    ⟨Nat.add_le_add_right ag.lo _, Nat.add_le_add_right ag.hi _⟩, ?_, ?_⟩
  · exact Nat.add_le_add ag.mu (Nat.le_trans (Nat.sub_le_sub_right ag.hi _) (Nat.sub_le_sub_left ag.lo _))
  · show DScript.mk _ _ _ (Iv.point (sumFin g ms' + tailCost t)) (ms'.map g.script ++ _) = _
    rw [ag.fin, ag.scr]; rfl

theorem fixed_pres (l : Lbl) (t : List Script) {ms ms' : List M} (ag : Agg g ms ms')
    (elo : sumLo g ms' = sumLo g ms) (ehi : sumHi g ms' = sumHi g ms) :
    Pres (layer F g) (.fixed l ms t) (.fixed l ms' t) := by
  refine (fixed_keeps l t ag).pres ?_
  show Iv.mk (sumLo g ms' + _) (sumHi g ms' + _) = _
  rw [elo, ehi]; rfl

theorem coll_keeps {l : Lbl} {s s' : CollSt} {p p' q q' : List M} (hmu : collMu0 g s p q < F)
    (ck : CollKeeps g s p q s' p' q') : Keeps (layer F g) (.coll l s p q) (.coll l s' p' q') := by
  refine ⟨⟨ck.inv, Nat.lt_of_le_of_lt ck.mu hmu⟩, ck.fin, ck.sub, ?_, ?_⟩
  · exact Nat.add_le_add ck.mu (Nat.le_trans (Nat.sub_le_sub_right ck.sub.2 _) (Nat.sub_le_sub_left ck.sub.1 _))
  · have hscr := ck.scr
    simp only [List.map_append] at hscr
    show DScript.mk _ _ _ (Iv.point (sumFin g q' + sumFin g p')) (q'.map g.script ++ p'.map g.script) = _
    rw [ck.fin, hscr]; rfl

theorem ed_keeps {l : Lbl} {s s' : EdSt} {cells cells' : List (List M)} (hmu : edMu0 s + muLLg g cells < F)
    (ek : EdKeeps g s cells s' cells') : Keeps (layer F g) (.ed l s cells) (.ed l s' cells') :=
  ⟨⟨ek.inv, Nat.lt_of_le_of_lt ek.mu0 hmu⟩, ek.fin,
    show _ ≤ (edViewOf s' (finM g cells')).lo ∧ (edViewOf s' (finM g cells')).hi ≤ _ from ek.view ▸ ek.sub, ek.mu0, ek.scr l⟩

theorem ms_keeps {l : Lbl} {s : MsSt} {k k' : List M} {w w' : WmSt} {e e' : List (List M)}
    (hmu : wmFlags w + muLLg g e < F) (mk : MsKeeps g s k w e k' w' e') :
    Keeps (layer F g) (.ms l s k w e) (.ms l s k' w' e') :=
  ⟨⟨mk.inv, Nat.lt_of_le_of_lt mk.fuel hmu⟩, mk.fin, mk.sub, mk.mu, mk.scr l⟩

variable (P : Protocol rec g)

theorem const_obeys (l : Lbl) (c : Nat) : Obeys (stepOps q F rec) (layer F g) (.const l c) :=
  have hm : (layer F g).I (.const l c) := trivial
  ⟨⟨Nat.le_refl c, Nat.le_refl c⟩, ⟨_, rfl, Pres.refl _ _ hm, trivial⟩,
    ⟨_, false, rfl, (Keeps.refl _ _ hm).step (fun h => Bool.noConfusion h) (fun _ => rfl)
      (fun _ h => Bool.noConfusion h)⟩,
    ⟨_, true, rfl, Pres.refl _ _ hm, id⟩, ⟨_, rfl, Keeps.refl _ _ hm⟩, fun _ => ⟨_, rfl, Keeps.refl _ _ hm⟩⟩

include P in
theorem kvp_obeys (l : Lbl) (k v : M) (hk : g.I k) (hv : g.I v) :
    Obeys (stepOps q F rec) (layer F g) (.kvp l k v) := by
  have wk := P.wf k hk
  have wv := P.wf v hv
  obtain ⟨k1, v1, eb, pk, qk, pv, qv⟩ := kvpBounds_ok P l k v hk hv
  have pres : Pres (layer F g) (.kvp l k v) (.kvp l k1 v1) :=
    (kvp_keeps l pk.keeps pv.keeps).pres (by show Iv.add (g.view k1) (g.view v1) = _; rw [pk.view, pv.view]; rfl)
  refine ⟨⟨Nat.add_le_add wk.1 wv.1, Nat.add_le_add wk.2 wv.2⟩, ⟨_, eb, pres, qk, qv⟩, ?tighten,
    Ret.ex₂ (Ret.bind_eq eb (Ret.pure ⟨pres, fun _ => ⟨qk, qv⟩⟩)), ?onDiff, ?dump⟩
  case tighten =>
    obtain ⟨k', v', r, e, hcase⟩ := kvpTighten_ok P l k v hk hv
    refine ⟨.kvp l k' v', r, e, ?_⟩
    rcases hcase with ⟨rfl, sk, hv'⟩ | ⟨sk, sv⟩
    · -- the key edit made progress; the value edit was not touched
      rw [hv']
      have kv := Keeps.refl _ v hv
      exact (kvp_keeps l sk.keeps kv).step (fun _ => Nat.add_lt_add_right (sk.dec rfl) _)
        (fun h => Bool.noConfusion h) (fun hq _ => iv_add_ne sk.sub kv.sub (Or.inl (sk.strict hq.1 rfl)))
    · -- the key edit is exhausted (a single value); the outcome is the value edit's
      exact (kvp_keeps l sk.keeps sv.keeps).step (fun hr => Nat.add_lt_add_of_le_of_lt sk.mu (sv.dec hr))
        (fun hr => iv_add_def (sk.stop rfl) (sv.stop hr))
        (fun hq hr => iv_add_ne sk.sub sv.sub (Or.inr (sv.strict hq.2 hr)))
  case onDiff =>
    exact Ret.bind (P.onDiff k hk) fun _ pk' => Ret.bind (P.onDiff v hv) fun _ pv' => Ret.pure (kvp_keeps l pk' pv')
  case dump =>
    intro hd
    obtain ⟨dk, dv⟩ := iv_def_of_add (Nat.le_trans wk.1 wk.2) (Nat.le_trans wv.1 wv.2) hd
    refine Ret.exv (Ret.bindv (P.dump k hk dk) fun k2 pk2 => Ret.bindv (P.dump v hv dv) fun v2 pv2 => ?_)
    obtain ⟨k3, v3, eb3, pk3, _, pv3, _⟩ := kvpBounds_ok P l k2 v2 pk2.inv pv2.inv
    refine Ret.bind_eq eb3 (Ret.pure ⟨?_, kvp_keeps l (pk2.trans pk3.keeps) (pv2.trans pv3.keeps)⟩)
    show DScript.mk _ _ _ ((g.view k2).add (g.view v2)) _ = DScript.mk _ _ _ (Iv.point (g.fin k + g.fin v)) _
    rw [keeps_def_view P pk2 dk, keeps_def_view P pv2 dv, iv_point_of wk.1 wk.2 dk, iv_point_of wv.1 wv.2 dv]
    rfl

include P in
theorem str_obeys (l : Lbl) (e : M) (he : g.I e) : Obeys (stepOps q F rec) (layer F g) (.str l e) := by
  have pres {e1 : M} (pe : Pres g e e1) : Pres (layer F g) (.str l e) (.str l e1) := (str_keeps l pe.keeps).pres pe.view
  refine ⟨P.wf e he, Ret.exv (Ret.bindv (P.bounds e he) fun _ p => Ret.pure ⟨rfl, pres p.1, p.2⟩),
    Ret.ex₂ (Ret.bind₂ (P.tighten e he) fun _ _ se => Ret.pure ((str_keeps l se.keeps).step se.dec se.stop se.strict)),
    Ret.ex₂ (Ret.bindv (P.bounds e he) fun _ p => Ret.pure ⟨pres p.1, fun _ => p.2⟩),
    ⟨_, rfl, Keeps.refl _ _ he⟩, fun hd => ?dump⟩
  have we := P.wf e he
  refine Ret.exv (Ret.bindv (P.dump e he hd) fun e2 pe2 => ?_)
  obtain ⟨e3, eb3, pe3, _⟩ := P.bounds e2 pe2.inv
  have eb : boundsB rec F (.str l e2) = .ok (.str l e3, g.view e2) := bind_of_eq eb3 rfl
  refine Ret.bind_eq eb (Ret.pure ⟨?_, str_keeps l (pe2.trans pe3.keeps)⟩)
  show DScript.mk _ _ _ (g.view e2) _ = DScript.mk _ _ _ (Iv.point (g.fin e)) (g.script e).subs
  rw [keeps_def_view P pe2 hd, iv_point_of we.1 we.2 hd]
  cases g.script e
  rfl

include P in
theorem fixed_obeys (hF : 0 < F) (l : Lbl) (subs : List M) (tail : List Script) (hs : ∀ x ∈ subs, g.I x) :
    Obeys (stepOps q F rec) (layer F g) (.fixed l subs tail) := by
  have wf := sum_wf P subs hs
  refine ⟨?wf, ?bounds, ?tighten, ?complete, ?onDiff, ?dump⟩
  case wf => exact ⟨Nat.add_le_add_right wf.1 _, Nat.add_le_add_right wf.2 _⟩
  case bounds =>
    obtain ⟨ms', e, ag, elo, ehi, qs⟩ := fixedBounds_ok P l subs tail hs
    exact ⟨.fixed l ms' tail, e, fixed_pres l tail ag elo ehi, qs⟩
  case tighten =>
    obtain ⟨F, rfl⟩ := Nat.exists_eq_succ_of_ne_zero (Nat.ne_of_gt hF)
    obtain ⟨ms', r, e, out⟩ := fixedTighten_ok P l tail F subs hs
    refine ⟨.fixed l ms' tail, r, e, (fixed_keeps l tail out.agg).step out.dec
      (fun hr => congrArg (· + tailCost tail) (out.stop hr)) ?_⟩
    exact fun _ hr => iv_ne_of_lt ((out.strict hr).imp (Nat.add_lt_add_right · _) (Nat.add_lt_add_right · _))
  case complete =>
    exact Ret.ex₂ (Ret.bind₂ (fixedComplete_ok P subs hs) fun _ _ ⟨ag, elo, ehi, qs⟩ =>
      Ret.pure ⟨fixed_pres l tail ag elo ehi, qs⟩)
  case onDiff =>
    exact Ret.bind (mapOnDiff_ok P subs hs) fun _ ag => Ret.pure (fixed_keeps l tail ag)
  case dump =>
    intro hd
    have hsum : sumLo g subs = sumHi g subs := Nat.add_right_cancel hd
    refine Ret.exv (Ret.bindv (dumpList_ok P subs hs (all_definitive P subs hs hsum)) fun ms1 ⟨ag1, elo1, ehi1⟩ => ?_)
    obtain ⟨ms2, e2, ag2, _, _, _⟩ := fixedBounds_ok P l ms1 tail ag1.inv
    refine Ret.bind_eq e2 (Ret.pure ⟨?_, fixed_keeps l tail (ag1.trans ag2)⟩)
    show DScript.mk _ _ _ ⟨sumLo g ms1 + _, sumHi g ms1 + _⟩ _ = DScript.mk _ _ _ (Iv.point (sumFin g subs + _)) _
    have hp : Iv.mk (sumLo g subs) (sumHi g subs) = Iv.point (sumFin g subs) := iv_point_of wf.1 wf.2 hsum
    rw [elo1, ehi1, (Iv.mk.inj hp).1, (Iv.mk.inj hp).2]
    rfl

include P in
theorem ed_obeys (l : Lbl) (s : EdSt) (c : List (List M)) (inv : EdInv g s c) (hmu : edMu0 s + muLLg g c < F) :
    Obeys (stepOps q F rec) (layer F g) (.ed l s c) := by
  have hm : (layer F g).I (.ed l s c) := ⟨inv, hmu⟩
  refine ⟨edView_wf inv, ?bounds, ?tighten, ⟨_, edComplete s, rfl, Pres.refl _ _ hm, id⟩, ?onDiff, ?dump⟩
  case bounds =>
    refine Ret.exv (Ret.bind₂v (edBounds_keeps P F inv (Nat.lt_of_le_of_lt (Nat.le_add_left _ _) hmu))
      fun s' c' ⟨ek, hv, _, hq, _, _⟩ => Ret.pure ⟨rfl, (ed_keeps hmu ek).pres (ek.view.trans hv), hq⟩)
  case tighten =>
    refine Ret.ex₂ (Ret.bind₃ (edTighten_ok P q F inv hmu) fun s' c' r ⟨ek, hdec, hstop, hstrict, _⟩ =>
      Ret.pure ((ed_keeps hmu ek).step hdec (fun hr => ?_) fun hq hr => ?_))
    · show (edViewOf s' (finM g c')).lo = (edViewOf s' (finM g c')).hi; rw [ek.view]; exact hstop hr
    · show edViewOf s' (finM g c') ≠ _; rw [ek.view]; exact hstrict hq hr
  case onDiff =>
    obtain ⟨s', c', ho, ek⟩ := edOnDiff_ok P q F l inv hmu
    exact ⟨.ed l s' c', ho, ed_keeps hmu ek⟩
  case dump =>
    intro _
    obtain ⟨s', c', hdu, ek⟩ := edDump_ok P q F l inv hmu
    exact ⟨.ed l s' c', hdu, ed_keeps hmu ek⟩

include P in
theorem coll_obeys (l : Lbl) (s : CollSt) (p r : List M) (inv : CollInv g s p r) (hmu : collMu0 g s p r < F) :
    Obeys (stepOps q F rec) (layer F g) (.coll l s p r) := by
  obtain ⟨s1, q1, eb, ck1, hv1, _, _, _⟩ := collBounds_keeps P l s p r inv
  have pres : Pres (layer F g) (.coll l s p r) (.coll l s1 p q1) := (coll_keeps hmu ck1).pres hv1
  refine ⟨collView_wf P inv, ⟨_, eb, pres, trivial⟩, ?tighten,
    Ret.ex₂ (Ret.bind_eq eb (Ret.pure ⟨pres, fun _ => trivial⟩)), ?onDiff, ?dump⟩
  case tighten =>
    obtain ⟨s', p', q', rr, e, ck, c1, c2⟩ := collTighten_ok P l F s p r inv hmu
    have kp := coll_keeps (l := l) hmu ck
    have wf' := collView_wf P ck.inv
    exact ⟨.coll l s' p' q', rr, e, kp.step
      (fun hr => base_width_lt ck.mu ck.sub (Nat.le_trans wf'.1 wf'.2) (Or.inr (c1 hr))) c2
      (fun _ hr => iv_ne_of_lt (c1 hr))⟩
  case onDiff =>
    obtain ⟨s', q', ho, ck⟩ := collOnDiff_ok P q F l inv
    exact ⟨.coll l s' [] q', ho, coll_keeps hmu ck⟩
  case dump =>
    intro hd
    obtain ⟨s', q', hdu, ck⟩ := collDump_ok P q F l inv hd
    exact ⟨.coll l s' [] q', hdu, coll_keeps hmu ck⟩

include P in
theorem ms_obeys (l : Lbl) (s : MsSt) (k : List M) (w : WmSt) (e : List (List M)) (inv : MsInv g s k w e)
    (hmu : wmFlags w + muLLg g e < F) : Obeys (stepOps q F rec) (layer F g) (.ms l s k w e) := by
  have hm : (layer F g).I (.ms l s k w e) := ⟨inv, hmu⟩
  refine ⟨msView_wf P inv, ?bounds, ?tighten, ⟨_, w.mtch.isSome, rfl, Pres.refl _ _ hm, id⟩, ?onDiff, ?dump⟩
  case bounds =>
    obtain ⟨k', w', e', hb, _, _, mk, hv, _, _, qk⟩ := msBounds_keeps P l inv
    exact ⟨.ms l s k' w' e', hb, (ms_keeps hmu mk).pres hv, qk⟩
  case tighten =>
    obtain ⟨k', w', e', r, ht, _, mk, hdec, hstop, hstrict⟩ := msTighten_ok P F l inv hmu
    have wf2 := msView_wf P mk.inv
    exact ⟨.ms l s k' w' e', r, ht, (ms_keeps hmu mk).step
      (fun hr => base_width_lt mk.base mk.sub (Nat.le_trans wf2.1 wf2.2) (hdec hr)) hstop hstrict⟩
  case onDiff =>
    obtain ⟨k', w', e', ho, mk⟩ := msOnDiff_ok P q F l inv
    exact ⟨.ms l s k' w' e', ho, ms_keeps hmu mk⟩
  case dump =>
    intro hd
    obtain ⟨k', w', e', hdu, mk⟩ := msDump_ok P q F l inv hd
    exact ⟨.ms l s k' w' e', hdu, ms_keeps hmu mk⟩

include P in
theorem layer_protocol (hF : 0 < F) : Protocol (stepOps q F rec) (layer F g) :=
  Protocol.of_obeys fun m hm =>
    match m, hm with
    | .const l c, _ => const_obeys l c
    | .kvp l k v, hm => kvp_obeys P l k v hm.1 hm.2
    | .str l e, hm => str_obeys P l e hm
    | .fixed l subs tail, hm => fixed_obeys P hF l subs tail hm
    | .ed l s c, hm => ed_obeys P l s c hm.1 hm.2
    | .coll l s p r, hm => coll_obeys P l s p r hm.1 hm.2
    | .ms l s k w e, hm => ms_obeys P l s k w e hm.1 hm.2

end Layer

theorem height_pos (m : M) : 1 ≤ height m := by
  cases m <;> exact Nat.le_add_left 1 _

@[simp] theorem G_view (a : Ghost) (F n : Nat) : (G a F n).view = viewG a := rfl
@[simp] theorem G_fin (a : Ghost) (F n : Nat) : (G a F n).fin = finG a := rfl
@[simp] theorem G_mu (a : Ghost) (F n : Nat) : (G a F n).μ = muG a := rfl
@[simp] theorem G_script (a : Ghost) (F n : Nat) : (G a F n).script = scriptG a := rfl
@[simp] theorem G_Q (a : Ghost) (F n : Nat) : (G a F n).Q = setG a := rfl
theorem G_I (a : Ghost) (F n : Nat) (m : M) : (G a F n).I m ↔ (invG a F m ∧ height m ≤ n) := Iff.rfl

section Lists
variable (a : Ghost) (F n : Nat)

theorem sumLo_G (ms : List M) : sumLo (G a F n) ms = (viewL a ms).lo := by
  induction ms with
  | nil => rfl
  | cons m ms ih => simp only [sumLo, viewL, Iv.add, G_view, ih]

theorem sumHi_G (ms : List M) : sumHi (G a F n) ms = (viewL a ms).hi := by
  induction ms with
  | nil => rfl
  | cons m ms ih => simp only [sumHi, viewL, Iv.add, G_view, ih]

theorem sumFin_G (ms : List M) : sumFin (G a F n) ms = finL a ms := by
  induction ms with
  | nil => rfl
  | cons m ms ih => simp only [sumFin, finL, G_fin, ih]

theorem sumMu_G (ms : List M) : sumMu (G a F n) ms = muL a ms := by
  induction ms with
  | nil => rfl
  | cons m ms ih => simp only [sumMu, muL, G_mu, ih]

theorem script_G (ms : List M) : ms.map (G a F n).script = scriptL a ms :=
  (scriptL_eq_map a ms).symm

variable {a F n}

theorem inv_G (ms : List M) : (∀ m ∈ ms, (G a F n).I m) ↔ (invL a F ms ∧ heightL ms ≤ n) := by
  induction ms with
  | nil => exact ⟨fun _ => ⟨trivial, Nat.zero_le n⟩, fun _ _ h => nomatch h⟩
  | cons m ms ih =>
    rw [List.forall_mem_cons, ih]
    show _ ↔ (invG a F m ∧ invL a F ms) ∧ max (height m) (heightL ms) ≤ n
    rw [Nat.max_le]
    exact and_and_and_comm

theorem set_G (ms : List M) : (∀ m ∈ ms, (G a F n).Q m) ↔ setL a ms := by
  induction ms with
  | nil => exact ⟨fun _ => trivial, fun _ _ h => nomatch h⟩
  | cons m ms ih => rw [List.forall_mem_cons, ih]; rfl

end Lists

theorem height_kvp {l : Lbl} {k v : M} {n : Nat} : height (.kvp l k v) ≤ n + 1 ↔ (height k ≤ n ∧ height v ≤ n) :=
  Nat.succ_le_succ_iff.trans Nat.max_le

theorem height_str {l : Lbl} {e : M} {n : Nat} : height (.str l e) ≤ n + 1 ↔ height e ≤ n :=
  Nat.succ_le_succ_iff

theorem height_fixed {l : Lbl} {subs : List M} {t : List Script} {n : Nat} :
    height (.fixed l subs t) ≤ n + 1 ↔ heightL subs ≤ n :=
  Nat.succ_le_succ_iff

theorem height_coll {l : Lbl} {s : CollSt} {p q : List M} {n : Nat} :
    height (.coll l s p q) ≤ n + 1 ↔ (heightL q ≤ n ∧ heightL p ≤ n) :=
  Nat.succ_le_succ_iff.trans Nat.max_le

theorem HiLe_view {g g' : Ghost} (hv : g.view = g'.view) (q : List M) (is : List Nat) : HiLe g q is ↔ HiLe g' q is := by
  rw [HiLe.iff, HiLe.iff, hv]

section CollG
variable (a : Ghost) (F n : Nat)

theorem decOf_G : ∀ (q : List M) (is : List Nat), decOf (G a F n) q is = decL a q is
  | [], _ => rfl
  | m :: ms, is => by simp only [decOf, decL, G_view, decOf_G ms is.tail]

theorem collView_G (l : Lbl) (s : CollSt) (p q : List M) :
    collView (G a F n) s q = viewG a (.coll l s p q) := by
  simp only [collView, viewG, sumLo_G, sumHi_G, decOf_G]
  cases s.cost <;> rfl

theorem collMu0_G (s : CollSt) (p q : List M) :
    collMu0 (G a F n) s p q = muL a q + muL a p + p.length + (if s.iterDone then 0 else 1) := by
  simp only [collMu0, sumMu_G]

variable {a F n}

theorem coll_I {l : Lbl} {s : CollSt} {p q : List M} :
    (G a F (n + 1)).I (.coll l s p q) ↔ (CollInv (G a F n) s p q ∧ collMu0 (G a F n) s p q < F) := by
  rw [collMu0_G]
  have hl := HiLe_view (g := G a F n) (g' := viewOnly (viewG a)) rfl
  constructor
  · rintro ⟨⟨hmu, iq, ip, hq, hp, ub, dn, memo, ne⟩, hh⟩
    obtain ⟨h1, h2⟩ := height_coll.mp hh
    exact ⟨⟨(inv_G q).mpr ⟨iq, h1⟩, (inv_G p).mpr ⟨ip, h2⟩, (hl q _).mpr hq, (hl p _).mpr hp, ub, dn,
      by rw [sumLo_G, sumHi_G]; exact memo, ne⟩, hmu⟩
  · rintro ⟨inv, hmu⟩
    obtain ⟨iq, h1⟩ := (inv_G q).mp inv.iq
    obtain ⟨ip, h2⟩ := (inv_G p).mp inv.ip
    have memo := inv.memo
    rw [sumLo_G, sumHi_G] at memo
    exact ⟨⟨hmu, iq, ip, (hl q _).mp inv.hq, (hl p _).mp inv.hp, inv.ub, inv.done, memo, inv.ne⟩,
      height_coll.mpr ⟨h1, h2⟩⟩

end CollG

theorem height_ed {l : Lbl} {s : EdSt} {cells : List (List M)} {n : Nat} :
    height (.ed l s cells) ≤ n + 1 ↔ heightLL cells ≤ n :=
  Nat.succ_le_succ_iff

theorem EdInv.congr {g g' : Ghost} (hv : g.view = g'.view) (hf : g.fin = g'.fin) {s : EdSt}
    {cells : List (List M)} (inv : EdInv g s cells) (hI : ∀ row ∈ cells, ∀ m ∈ row, g'.I m) : EdInv g' s cells := by
  have hfm : finM g cells = finM g' cells := by rw [finM, finM, hf]
  exact ⟨inv.nz, inv.pos, inv.shape, hI, hfm ▸ inv.tab, fun r c m hr hc hd hm => hv ▸ inv.defs r c m hr hc hd hm,
    inv.last, inv.jf, inv.jc, hfm ▸ inv.cv, hfm ▸ inv.stat⟩

section EdG
variable (a : Ghost) (F n : Nat)

theorem finM_G (cells : List (List M)) : finM (G a F n) cells = finLL a cells :=
  (finLL_eq_map a cells).symm

theorem muLLg_G : ∀ (cells : List (List M)), muLLg (G a F n) cells = muLL2 a cells
  | [] => rfl
  | r :: rs => by simp only [muLLg, muLL2, sumMu_G, muLLg_G rs]

theorem scrM_G (cells : List (List M)) : scrM (G a F n) cells = scriptLL a cells :=
  (scriptLL_eq_map a cells).symm

variable {a F n}

theorem invLL_G (cells : List (List M)) :
    (∀ row ∈ cells, ∀ m ∈ row, (G a F n).I m) ↔ (invLL2 a F cells ∧ heightLL cells ≤ n) := by
  induction cells with
  | nil => exact ⟨fun _ => ⟨trivial, Nat.zero_le n⟩, fun _ _ h => nomatch h⟩
  | cons r rs ih =>
    rw [List.forall_mem_cons, ih, inv_G]
    show _ ↔ (invL a F r ∧ invLL2 a F rs) ∧ max (heightL r) (heightLL rs) ≤ n
    rw [Nat.max_le]
    exact and_and_and_comm

theorem ed_I {l : Lbl} {s : EdSt} {cells : List (List M)} :
    (G a F (n + 1)).I (.ed l s cells) ↔ (EdInv (G a F n) s cells ∧ edMu0 s + muLLg (G a F n) cells < F) := by
  rw [muLLg_G]
  constructor
  · rintro ⟨⟨hmu, hI, inv⟩, hh⟩
    exact ⟨EdInv.congr (g := ghostOf a) (g' := G a F n) rfl rfl inv ((invLL_G cells).mpr ⟨hI, height_ed.mp hh⟩), hmu⟩
  · rintro ⟨inv, hmu⟩
    obtain ⟨hI, hh⟩ := (invLL_G cells).mp inv.cellsI
    exact ⟨⟨hmu, hI, EdInv.congr (g := G a F n) (g' := ghostOf a) rfl rfl inv (fun _ _ _ _ => trivial)⟩, height_ed.mpr hh⟩


end EdG

theorem height_ms {l : Lbl} {s : MsSt} {k : List M} {w : WmSt} {e : List (List M)} {n : Nat} :
    height (.ms l s k w e) ≤ n + 1 ↔ (heightL k ≤ n ∧ heightLL e ≤ n) :=
  Nat.succ_le_succ_iff.trans Nat.max_le

section MsG
variable (a : Ghost) (F n : Nat)

theorem viewRow_G (r : List M) : r.map (G a F n).view = viewRow a r :=
  map_eq_of_cons rfl (fun _ _ => rfl) r

theorem viewM_G (e : List (List M)) : viewM (G a F n) e = viewLL a e :=
  map_eq_of_cons rfl (fun r _ => congrArg (· :: _) (viewRow_G a F n r).symm) e

theorem msView_G (l : Lbl) (s : MsSt) (k : List M) (w : WmSt) (e : List (List M)) :
    msViewOf (G a F n) s k w e = viewG a (.ms l s k w e) := by
  simp only [msViewOf, viewG, viewM_G, sumLo_G, sumHi_G]
  cases leftIv s w <;> rfl

theorem msFin_G (l : Lbl) (s : MsSt) (k : List M) (w : WmSt) (e : List (List M)) :
    msFinOf (G a F n) s k w e = finG a (.ms l s k w e) := by
  simp only [msFinOf, wmFin, finM_G, sumFin_G, finG]

theorem msScript_G (l : Lbl) (s : MsSt) (k : List M) (w : WmSt) (e : List (List M)) :
    msScriptOf (G a F n) l s k w e = scriptG a (.ms l s k w e) := by
  simp only [msScriptOf, msFin_G a F n l, scrM_G, script_G, scriptG, finG]

theorem msMu_G (l : Lbl) (s : MsSt) (k : List M) (w : WmSt) (e : List (List M)) :
    msMuOf (G a F n) s k w e = muG a (.ms l s k w e) := by
  simp only [msMuOf, msBase, sumMu_G, muLLg_G, msView_G a F n l, muG]

variable {a F n}

theorem ms_I {l : Lbl} {s : MsSt} {k : List M} {w : WmSt} {e : List (List M)} :
    (G a F (n + 1)).I (.ms l s k w e) ↔ (MsInv (G a F n) s k w e ∧ wmFlags w + muLLg (G a F n) e < F) := by
  rw [muLLg_G]
  constructor
  · rintro ⟨⟨hmu, ik, ie, sh, ok, mt, memo, hr, hi⟩, hh⟩
    obtain ⟨h1, h2⟩ := height_ms.mp hh
    exact ⟨⟨⟨sh, (invLL_G e).mpr ⟨ie, h2⟩, ok, mt, by rw [wmFin, finM_G, viewM_G]; exact memo⟩,
      (inv_G k).mpr ⟨ik, h1⟩, hr, hi⟩, hmu⟩
  · rintro ⟨inv, hmu⟩
    obtain ⟨ik, h1⟩ := (inv_G k).mp inv.kI
    obtain ⟨ie, h2⟩ := (invLL_G e).mp inv.wm.edgesI
    have memo := inv.wm.memo
    rw [wmFin, finM_G, viewM_G] at memo
    exact ⟨⟨hmu, ik, ie, inv.wm.shape, inv.wm.ok, inv.wm.mt, memo, inv.rem, inv.ins⟩, height_ms.mpr ⟨h1, h2⟩⟩

end MsG

theorem Ghost.ext_fields {g g' : Ghost} (hI : ∀ m, g.I m ↔ g'.I m) (hQ : ∀ m, g.Q m ↔ g'.Q m) (hv : ∀ m, g.view m = g'.view m)
    (hf : ∀ m, g.fin m = g'.fin m) (hm : ∀ m, g.μ m = g'.μ m) (hs : ∀ m, g.script m = g'.script m) : g = g' := by
  cases g; cases g'
  simp only [Ghost.mk.injEq]
  exact ⟨funext fun m => propext (hI m), funext fun m => propext (hQ m), funext hv, funext hf, funext hm, funext hs⟩

theorem G_succ (a : Ghost) (F n : Nat) : G a F (n + 1) = layer F (G a F n) := by
  refine Ghost.ext_fields ?I ?Q ?view ?fin ?mu ?script
  case I =>
    intro m
    cases m with
    | const l c => exact ⟨fun _ => trivial, fun _ => ⟨trivial, Nat.succ_le_succ (Nat.zero_le n)⟩⟩
    | kvp l k v =>
      exact ⟨fun h => ⟨⟨h.1.1, (height_kvp.mp h.2).1⟩, h.1.2, (height_kvp.mp h.2).2⟩,
        fun h => ⟨⟨h.1.1, h.2.1⟩, height_kvp.mpr ⟨h.1.2, h.2.2⟩⟩⟩
    | str l e => exact ⟨fun h => ⟨h.1, height_str.mp h.2⟩, fun h => ⟨h.1, height_str.mpr h.2⟩⟩
    | fixed l s t =>
      exact ⟨fun h => (inv_G s).mpr ⟨h.1, height_fixed.mp h.2⟩,
        fun h => ⟨((inv_G s).mp h).1, height_fixed.mpr ((inv_G s).mp h).2⟩⟩
    | ed l s c => exact ed_I
    | coll l s p q => exact coll_I
    | ms l s k w e => exact ms_I
  case Q =>
    intro m
    cases m with
    | fixed l s t => exact (set_G s).symm
    | ms l s k w e => exact (set_G k).symm
    | _ => exact Iff.rfl
  case view =>
    intro m
    cases m with
    | fixed l s t => show Iv.mk _ _ = Iv.mk _ _; rw [sumLo_G, sumHi_G]
    | coll l s p q => exact (collView_G a F n l s p q).symm
    | ms l s k w e => exact (msView_G a F n l s k w e).symm
    | ed l s c => show _ = edViewOf s _; rw [finM_G]; rfl
    | _ => rfl
  case fin =>
    intro m
    cases m with
    | fixed l s t => show _ = sumFin _ s + _; rw [sumFin_G]; rfl
    | coll l s p q => show _ = sumFin _ q + sumFin _ p; rw [sumFin_G, sumFin_G]; rfl
    | ms l s k w e => exact (msFin_G a F n l s k w e).symm
    | ed l s c => show _ = edFinOf s _; rw [finM_G]; rfl
    | _ => rfl
  case mu =>
    intro m
    cases m with
    | fixed l s t => show _ = sumMu _ s + (sumHi _ s - sumLo _ s); rw [sumMu_G, sumHi_G, sumLo_G]; rfl
    | coll l s p q =>
      show _ = collMu0 _ s p q + ((collView _ s q).hi - (collView _ s q).lo)
      rw [collMu0_G, collView_G a F n l s p q]; rfl
    | ms l s k w e => exact (msMu_G a F n l s k w e).symm
    | ed l s c => show _ = edMu0 s + muLLg _ c; rw [muLLg_G]; rfl
    | _ => rfl
  case script =>
    intro m
    cases m with
    | fixed l s t => show _ = DScript.mk _ _ _ (Iv.point (sumFin _ s + _)) (s.map _ ++ _); rw [sumFin_G, script_G]; rfl
    | coll l s p q =>
      show _ = DScript.mk _ _ _ (Iv.point (sumFin _ q + sumFin _ p)) (q.map _ ++ p.map _)
      rw [sumFin_G, sumFin_G, script_G, script_G]; rfl
    | ms l s k w e => exact (msScript_G a F n l s k w e).symm
    | ed l s c =>
      show _ = edScriptOf _ l s c
      rw [edScriptOf, finM_G, scrM_G]; rfl
    | _ => rfl

theorem engine_step (q : Bool) (F : Nat) (hF : 0 < F) (a : Ghost) (n : Nat) (P : Protocol (mkOps q F n) (G a F n)) :
    Protocol (mkOps q F (n + 1)) (G a F (n + 1)) := by
  rw [mkOps_succ, G_succ]
  exact layer_protocol P hF

theorem engine_protocol_all (q : Bool) (F : Nat) (hF : 0 < F) (a : Ghost) : ∀ n, Protocol (mkOps q F n) (G a F n)
  | 0 => Protocol.of_obeys fun m hm => absurd hm.2 (Nat.not_le_of_gt (height_pos m))
  | n + 1 => engine_step q F hF a n (engine_protocol_all q F hF a n)

/-- `g` restricted to the machines with `isAtom`: to none, `isAtom` is constantly false -/
def atomsOf (g : Ghost) : Ghost := { g with I := fun m => g.I m ∧ isAtom m = true }

/-- a hypothesis about atoms; there are none, so it is true of every ghost (`atomHyp_trivial`) -/
def AtomHyp (q : Bool) (F : Nat) (a : Ghost) : Prop :=
  ∀ n, Protocol (mkOps q F n) (G a F n) → Protocol (mkOps q F (n + 1)) (atomsOf (G a F (n + 1)))

theorem atomHyp_trivial (q : Bool) (F : Nat) (a : Ghost) : AtomHyp q F a :=
  fun _ _ => Protocol.of_obeys fun _ hm => absurd hm.2 Bool.false_ne_true

end GtModel.Lazy
