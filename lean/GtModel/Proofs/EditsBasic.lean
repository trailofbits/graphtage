/-
  Basic facts about the L2 model `GtModel.edits`: attach-free unfolding equations (one per constructor pair),
  the sub-script tables as functions of (i, j), induction over `Tree` and over the recursion of `edits` (`edits_ind`,
  under a property of trees that children inherit, `TreeInv`), accessor simp lemmas, a Boolean equality test on scripts
  with its soundness (`Script.eq_of_beq`) and a twin of `Tree.eq` for evaluation.
-/
import GtModel.Model.Edits
namespace GtModel
open List

@[simp] theorem Script.kind_mk (k f t c s) : (Script.mk k f t c s).kind = k := rfl
@[simp] theorem Script.fi_mk (k f t c s) : (Script.mk k f t c s).fi = f := rfl
@[simp] theorem Script.ti_mk (k f t c s) : (Script.mk k f t c s).ti = t := rfl
@[simp] theorem Script.cost_mk (k f t c s) : (Script.mk k f t c s).cost = c := rfl
@[simp] theorem Script.subs_mk (k f t c s) : (Script.mk k f t c s).subs = s := rfl
@[simp] theorem Script.relabel_kind (s : Script) (f t) : (s.relabel f t).kind = s.kind := rfl
@[simp] theorem Script.relabel_fi (s : Script) (f t) : (s.relabel f t).fi = f := rfl
@[simp] theorem Script.relabel_ti (s : Script) (f t) : (s.relabel f t).ti = t := rfl
@[simp] theorem Script.relabel_cost (s : Script) (f t) : (s.relabel f t).cost = s.cost := rfl
@[simp] theorem Script.relabel_subs (s : Script) (f t) : (s.relabel f t).subs = s.subs := rfl
@[simp] theorem mkMatch_kind (c) : (mkMatch c).kind = .match_ := rfl
@[simp] theorem mkMatch_cost (c) : (mkMatch c).cost = c := rfl
@[simp] theorem mkMatch_subs (c) : (mkMatch c).subs = [] := rfl
@[simp] theorem mkReplace_kind (a b) : (mkReplace a b).kind = .replace := rfl
@[simp] theorem mkReplace_subs (a b) : (mkReplace a b).subs = [] := rfl
@[simp] theorem mkRemove_kind (i s p) : (mkRemove i s p).kind = .remove := rfl
@[simp] theorem mkRemove_fi (i s p) : (mkRemove i s p).fi = .at i := rfl
@[simp] theorem mkRemove_ti (i s p) : (mkRemove i s p).ti = .none := rfl
@[simp] theorem mkRemove_cost (i s p) : (mkRemove i s p).cost = s + p := rfl
@[simp] theorem mkRemove_subs (i s p) : (mkRemove i s p).subs = [] := rfl
@[simp] theorem mkInsert_kind (i s p) : (mkInsert i s p).kind = .insert := rfl
@[simp] theorem mkInsert_fi (i s p) : (mkInsert i s p).fi = .at i := rfl
@[simp] theorem mkInsert_ti (i s p) : (mkInsert i s p).ti = .none := rfl
@[simp] theorem mkInsert_cost (i s p) : (mkInsert i s p).cost = s + p := rfl
@[simp] theorem mkInsert_subs (i s p) : (mkInsert i s p).subs = [] := rfl
@[simp] theorem mkCompound_kind (k s) : (mkCompound k s).kind = k := rfl
@[simp] theorem mkCompound_cost (k s) : (mkCompound k s).cost = sumCosts s := rfl
@[simp] theorem mkCompound_subs (k s) : (mkCompound k s).subs = s := rfl
@[simp] theorem sumCosts_nil : sumCosts [] = 0 := rfl
@[simp] theorem sumCosts_cons (s : Script) (l) : sumCosts (s :: l) = s.cost + sumCosts l := by simp [sumCosts]
@[simp] theorem sumCosts_append (a b : List Script) : sumCosts (a ++ b) = sumCosts a + sumCosts b := by simp [sumCosts]

mutual
/-- `Script` is nested through `List`, so `deriving DecidableEq` is unavailable; `Script.beq` is what `decide +kernel`
    runs in the concrete examples, for which soundness suffices -/
def Script.beq : Script → Script → Bool
  | .mk k f t c s, .mk k' f' t' c' s' => k == k' && f == f' && t == t' && c == c' && Script.beqL s s'
def Script.beqL : List Script → List Script → Bool
  | [], [] => true
  | a :: as, b :: bs => Script.beq a b && Script.beqL as bs
  | _, _ => false
end

mutual
theorem Script.eq_of_beq : ∀ (a b : Script), Script.beq a b = true → a = b
  | .mk k f t c s, .mk k' f' t' c' s', h => by
    simp only [Script.beq, Bool.and_eq_true, beq_iff_eq] at h
    obtain ⟨⟨⟨⟨rfl, rfl⟩, rfl⟩, rfl⟩, h5⟩ := h
    rw [Script.eqL_of_beqL s s' h5]
theorem Script.eqL_of_beqL : ∀ (a b : List Script), Script.beqL a b = true → a = b
  | [], [], _ => rfl
  | a :: as, b :: bs, h => by
    simp only [Script.beqL, Bool.and_eq_true] at h
    rw [Script.eq_of_beq a b h.1, Script.eqL_of_beqL as bs h.2]
  | [], _ :: _, h => by simp [Script.beqL] at h
  | _ :: _, [], h => by simp [Script.beqL] at h
end

/-! `Tree.eq` is defined by well-founded recursion, so `decide` is stuck on every closed term that mentions it.
  `Tree.eqS` is the same function by structural recursion on its first argument; concrete examples rewrite with
  `Tree.eq_eqS` and evaluate. -/
mutual
def Tree.eqS : Tree → Tree → Bool
  | .leaf a, .leaf b => a.eq b
  | .list as, .list bs => eqLS as bs
  | .dict as, .dict bs => as.length == bs.length && subKVS as bs
  | .fdict as, .fdict bs => as.length == bs.length && subKVS as bs
  | _, _ => false
def eqLS : List Tree → List Tree → Bool
  | [], [] => true
  | a :: as, b :: bs => a.eqS b && eqLS as bs
  | _, _ => false
def subKVS : List (Str × Tree) → List (Str × Tree) → Bool
  | [], _ => true
  | (k, v) :: rest, bs => bs.any (fun kv => k == kv.1 && v.eqS kv.2) && subKVS rest bs
end

theorem attach_zipIdx_map {α β : Type} (l : List α) (g : α → Nat → β) (k : Nat) :
    (l.attach.zipIdx k).map (fun p => g p.1.1 p.2) = (l.zipIdx k).map (fun p => g p.1 p.2) := by
  have h : l.zipIdx k = (l.attach.zipIdx k).map (Prod.map Subtype.val id) := by
    rw [← List.zipIdx_map, List.attach_map_subtype_val]
  rw [h, List.map_map]; rfl

def listTbl (o : Opts) (orc : Oracle) (fp tp : List Nat) (fcs tcs : List Tree) : List (List Script) :=
  fcs.zipIdx.map fun p => tcs.zipIdx.map fun q => edits o orc (fp ++ [p.2]) (tp ++ [q.2]) p.1 q.1

theorem edits_list_list (o : Opts) (orc : Oracle) (fp tp : List Nat) (fcs tcs : List Tree) :
    edits o orc fp tp (.list fcs) (.list tcs) =
      if eqL fcs tcs then mkMatch 0
      else if !o.ale || (fcs.length == tcs.length && (!o.alesl || fcs.length == 1)) then
        fixedScript fcs tcs (listTbl o orc fp tp fcs tcs)
      else edScript fcs tcs (if allLeaves fcs && allLeaves tcs && allPositive fcs && allPositive tcs then 0 else 1)
        (listTbl o orc fp tp fcs tcs) := by
  rw [edits]
  have := attach_zipIdx_map fcs (fun fc c => tcs.zipIdx.map fun q => edits o orc (fp ++ [c]) (tp ++ [q.2]) fc q.1) 0
  simp only [listTbl, this]

def kvTbl (o : Opts) (orc : Oracle) (fp tp : List Nat) (fkv tkv : List (Str × Tree)) : List (List Script) :=
  fkv.zipIdx.map fun p => tkv.zipIdx.map fun q => edits o orc (fp ++ [p.2, 1]) (tp ++ [q.2, 1]) p.1.2 q.1.2

theorem edits_dict_dict (o : Opts) (orc : Oracle) (fp tp : List Nat) (fkv tkv : List (Str × Tree)) :
    edits o orc fp tp (.dict fkv) (.dict tkv) =
      if (fkv.length == tkv.length && subKV fkv tkv) then mkMatch 0
      else msScript o.amk orc fp tp fkv tkv (kvTbl o orc fp tp fkv tkv) := by
  rw [edits]
  have := attach_zipIdx_map fkv (fun kv c => tkv.zipIdx.map fun q => edits o orc (fp ++ [c, 1]) (tp ++ [q.2, 1]) kv.2 q.1.2) 0
  simp only [kvTbl, this]

theorem edits_fdict_fdict (o : Opts) (orc : Oracle) (fp tp : List Nat) (fkv tkv : List (Str × Tree)) :
    edits o orc fp tp (.fdict fkv) (.fdict tkv) =
      if (fkv.length == tkv.length && subKV fkv tkv) then mkMatch 0
      else fkScript fkv tkv (kvTbl o orc fp tp fkv tkv) := by
  rw [edits]
  have := attach_zipIdx_map fkv (fun kv c => tkv.zipIdx.map fun q => edits o orc (fp ++ [c, 1]) (tp ++ [q.2, 1]) kv.2 q.1.2) 0
  simp only [kvTbl, this]

theorem edits_leaf (o : Opts) (orc : Oracle) (fp tp : List Nat) (a : Scalar) (t : Tree) :
    edits o orc fp tp (.leaf a) t = leafEdits a t := by rw [edits]

theorem listTbl_getD (o : Opts) (orc : Oracle) (fp tp : List Nat) (fcs tcs : List Tree) (i j : Nat) (d : Script)
    (hi : i < fcs.length) (hj : j < tcs.length) :
    ((listTbl o orc fp tp fcs tcs).getD i []).getD j d = edits o orc (fp ++ [i]) (tp ++ [j]) fcs[i] tcs[j] := by
  simp [listTbl, List.getD_eq_getElem?_getD, hi, hj]

theorem kvTbl_getD (o : Opts) (orc : Oracle) (fp tp : List Nat) (fkv tkv : List (Str × Tree)) (i j : Nat) (d : Script)
    (hi : i < fkv.length) (hj : j < tkv.length) :
    ((kvTbl o orc fp tp fkv tkv).getD i []).getD j d = edits o orc (fp ++ [i, 1]) (tp ++ [j, 1]) fkv[i].2 tkv[j].2 := by
  simp [kvTbl, List.getD_eq_getElem?_getD, hi, hj]

theorem Tree.ind {P : Tree → Prop} (leaf : ∀ s, P (.leaf s))
    (list : ∀ cs, (∀ c ∈ cs, P c) → P (.list cs))
    (dict : ∀ kvs, (∀ kv ∈ kvs, P kv.2) → P (.dict kvs))
    (fdict : ∀ kvs, (∀ kv ∈ kvs, P kv.2) → P (.fdict kvs)) : ∀ t, P t := by
  intro t
  induction h : sizeOf t using Nat.strongRecOn generalizing t with
  | _ n ih =>
    subst h
    cases t with
    | leaf s => exact leaf s
    | list cs =>
      apply list; intro c hc
      have := List.sizeOf_lt_of_mem hc
      exact ih _ (by simp; omega) c rfl
    | dict kvs =>
      apply dict; intro kv hkv
      have := List.sizeOf_lt_of_mem hkv
      have := sizeOf_snd_lt kv
      exact ih _ (by simp; omega) kv.2 rfl
    | fdict kvs =>
      apply fdict; intro kv hkv
      have := List.sizeOf_lt_of_mem hkv
      have := sizeOf_snd_lt kv
      exact ih _ (by simp; omega) kv.2 rfl

theorem findKV_eq_any (k : Str) (v : Tree) (h : ∀ t, v.eq t = v.eqS t) (bs : List (Str × Tree)) :
    findKV k v bs = bs.any fun kv => k == kv.1 && v.eqS kv.2 := by
  induction bs with
  | nil => rw [findKV]; rfl
  | cons b bs ih => rw [findKV, ih, h, List.any_cons]

theorem subKV_eq_subKVS (as bs : List (Str × Tree)) (h : ∀ kv ∈ as, ∀ t, kv.2.eq t = kv.2.eqS t) :
    subKV as bs = subKVS as bs := by
  induction as with
  | nil => rw [subKV, subKVS]
  | cons a as ih =>
    rw [subKV, subKVS, findKV_eq_any _ _ (h a (List.mem_cons_self ..)), ih fun kv hkv => h kv (List.mem_cons_of_mem _ hkv)]

theorem eqL_eq_eqLS (as : List Tree) (h : ∀ a ∈ as, ∀ t, a.eq t = a.eqS t) : ∀ bs, eqL as bs = eqLS as bs := by
  induction as with
  | nil => intro bs; cases bs <;> simp only [eqL, eqLS]
  | cons a as ih =>
    intro bs
    cases bs with
    | nil => simp only [eqL, eqLS]
    | cons b bs => rw [eqL, eqLS, h a (List.mem_cons_self ..), ih fun c hc => h c (List.mem_cons_of_mem _ hc)]

theorem Tree.eq_eqS (a : Tree) : ∀ b, a.eq b = a.eqS b := by
  induction a using Tree.ind with
  | leaf s => intro b; cases b <;> simp only [Tree.eq, Tree.eqS]
  | list as ih => intro b; cases b <;> simp only [Tree.eq, Tree.eqS, eqL_eq_eqLS as ih]
  | dict as ih => intro b; cases b <;> simp only [Tree.eq, Tree.eqS, subKV_eq_subKVS as _ ih]
  | fdict as ih => intro b; cases b <;> simp only [Tree.eq, Tree.eqS, subKV_eq_subKVS as _ ih]

theorem eqL_eqLS (as bs : List Tree) : eqL as bs = eqLS as bs := eqL_eq_eqLS as (fun a _ => a.eq_eqS) bs

theorem subKV_subKVS (as bs : List (Str × Tree)) : subKV as bs = subKVS as bs :=
  subKV_eq_subKVS as bs fun kv _ => kv.2.eq_eqS

/-- `trimLens` compares trees with `==`, which is `Tree.eq` -/
theorem trimLens_eqS (a b : List Tree) : EditMatrix.trimLens a b = @EditMatrix.trimLens _ ⟨Tree.eqS⟩ a b :=
  congrArg (fun i => @EditMatrix.trimLens _ i a b) (congrArg BEq.mk (funext fun a => funext a.eq_eqS))

theorem edits_list_other (o : Opts) (orc : Oracle) (fp tp : List Nat) (fcs : List Tree) (t : Tree)
    (h : ∀ tcs, t ≠ .list tcs) : edits o orc fp tp (.list fcs) t = mkReplace (sizeL fcs) t.size := by
  cases t with
  | list tcs => exact absurd rfl (h tcs)
  | _ => rw [edits]; simp

theorem edits_dict_other (o : Opts) (orc : Oracle) (fp tp : List Nat) (fkv : List (Str × Tree)) (t : Tree)
    (h : ∀ tkv, t ≠ .dict tkv) : edits o orc fp tp (.dict fkv) t = mkReplace (sizeKV fkv) t.size := by
  cases t with
  | dict tkv => exact absurd rfl (h tkv)
  | _ => rw [edits]; simp

theorem edits_fdict_other (o : Opts) (orc : Oracle) (fp tp : List Nat) (fkv : List (Str × Tree)) (t : Tree)
    (h : ∀ tkv, t ≠ .fdict tkv) : edits o orc fp tp (.fdict fkv) t = mkReplace (sizeKV fkv) t.size := by
  cases t with
  | fdict tkv => exact absurd rfl (h tkv)
  | _ => rw [edits]; simp

/-- a property of trees inherited by children (`KeysDistinct`, "contains no DictNode", `True`, …) -/
structure TreeInv (Inv : Tree → Prop) : Prop where
  leaf : ∀ s, Inv (.leaf s)
  list : ∀ cs, Inv (.list cs) → ∀ c ∈ cs, Inv c
  dict : ∀ kvs, Inv (.dict kvs) → ∀ kv ∈ kvs, Inv kv.2
  fdict : ∀ kvs, Inv (.fdict kvs) → ∀ kv ∈ kvs, Inv kv.2

theorem treeInv_true : TreeInv (fun _ => True) := ⟨fun _ => trivial, fun _ _ _ _ => trivial, fun _ _ _ _ => trivial, fun _ _ _ _ => trivial⟩

def Cells {α β : Type} (P : Tree → Tree → Script → Prop) (fs : List α) (ts : List β) (vf : α → Tree) (vt : β → Tree)
    (tbl : List (List Script)) : Prop :=
  ∀ i j (hi : i < fs.length) (hj : j < ts.length), P (vf fs[i]) (vt ts[j]) ((tbl.getD i []).getD j (mkMatch 0))

theorem cells_listTbl {P : Tree → Tree → Script → Prop} (o : Opts) (orc : Oracle) (fp tp : List Nat) (fcs tcs : List Tree)
    (h : ∀ fc ∈ fcs, ∀ tc ∈ tcs, ∀ fp tp, P fc tc (edits o orc fp tp fc tc)) :
    Cells P fcs tcs id id (listTbl o orc fp tp fcs tcs) := fun i j hi hj => by
  rw [listTbl_getD _ _ _ _ _ _ _ _ _ hi hj]; exact h _ (List.getElem_mem hi) _ (List.getElem_mem hj) _ _

theorem cells_kvTbl {P : Tree → Tree → Script → Prop} (o : Opts) (orc : Oracle) (fp tp : List Nat) (fkv tkv : List (Str × Tree))
    (h : ∀ kv ∈ fkv, ∀ kv' ∈ tkv, ∀ fp tp, P kv.2 kv'.2 (edits o orc fp tp kv.2 kv'.2)) :
    Cells P fkv tkv Prod.snd Prod.snd (kvTbl o orc fp tp fkv tkv) := fun i j hi hj => by
  rw [kvTbl_getD _ _ _ _ _ _ _ _ _ hi hj]; exact h _ (List.getElem_mem hi) _ (List.getElem_mem hj) _ _

theorem Tree.eq_list_list (a b : List Tree) : (Tree.list a).eq (.list b) = eqL a b := by rw [Tree.eq]
theorem Tree.eq_dict_dict (a b : List (Str × Tree)) :
    (Tree.dict a).eq (.dict b) = (a.length == b.length && subKV a b) := by rw [Tree.eq]
theorem Tree.eq_fdict_fdict (a b : List (Str × Tree)) :
    (Tree.fdict a).eq (.fdict b) = (a.length == b.length && subKV a b) := by rw [Tree.eq]

/-- Induction over the recursion of `edits`, for trees under an invariant `Inv` that children inherit.  `same`, `other` and
    the compound cases keep the outcome of `f == t`; `fixed` keeps the option test of `ListNode.edits` (`ed` is not given
    its negation, `other` not the from-size: no user needs them); the hypothesis about the children is given where the
    compound scripts use it, on the cells of their table. -/
theorem edits_ind {Inv : Tree → Prop} (hI : TreeInv Inv) {P : Tree → Tree → Script → Prop} (o : Opts) (orc : Oracle)
    (leaf : ∀ a t, P (.leaf a) t (leafEdits a t))
    (same : ∀ f t, Inv f → Inv t → f.eq t = true → P f t (mkMatch 0))
    (other : ∀ f t n, f.eq t = false → P f t (mkReplace n t.size))
    (fixed : ∀ fp tp fcs tcs, Inv (.list fcs) → Inv (.list tcs) → eqL fcs tcs = false →
      (!o.ale || (fcs.length == tcs.length && (!o.alesl || fcs.length == 1))) = true →
      Cells P fcs tcs id id (listTbl o orc fp tp fcs tcs) →
      P (.list fcs) (.list tcs) (fixedScript fcs tcs (listTbl o orc fp tp fcs tcs)))
    (ed : ∀ fp tp fcs tcs, Inv (.list fcs) → Inv (.list tcs) → eqL fcs tcs = false →
      Cells P fcs tcs id id (listTbl o orc fp tp fcs tcs) →
      P (.list fcs) (.list tcs) (edScript fcs tcs
        (if allLeaves fcs && allLeaves tcs && allPositive fcs && allPositive tcs then 0 else 1)
        (listTbl o orc fp tp fcs tcs)))
    (ms : ∀ fp tp fkv tkv, Inv (.dict fkv) → Inv (.dict tkv) →
      (fkv.length == tkv.length && subKV fkv tkv) = false →
      Cells P fkv tkv Prod.snd Prod.snd (kvTbl o orc fp tp fkv tkv) →
      P (.dict fkv) (.dict tkv) (msScript o.amk orc fp tp fkv tkv (kvTbl o orc fp tp fkv tkv)))
    (fk : ∀ fp tp fkv tkv, Inv (.fdict fkv) → Inv (.fdict tkv) →
      (fkv.length == tkv.length && subKV fkv tkv) = false →
      Cells P fkv tkv Prod.snd Prod.snd (kvTbl o orc fp tp fkv tkv) →
      P (.fdict fkv) (.fdict tkv) (fkScript fkv tkv (kvTbl o orc fp tp fkv tkv))) :
    ∀ f fp tp t, Inv f → Inv t → P f t (edits o orc fp tp f t) := by
  intro f
  induction f using Tree.ind with
  | leaf a => intro fp tp t _ _; rw [edits_leaf]; exact leaf a t
  | list fcs ih =>
    intro fp tp t hf ht
    by_cases hl : ∃ tcs, t = .list tcs
    · obtain ⟨tcs, rfl⟩ := hl
      have hc := cells_listTbl o orc fp tp fcs tcs fun fc h tc h' fp tp =>
        ih fc h fp tp tc (hI.list _ hf _ h) (hI.list _ ht _ h')
      rw [edits_list_list]
      by_cases he : eqL fcs tcs = true
      · rw [if_pos he]; exact same _ _ hf ht ((Tree.eq_list_list ..).trans he)
      · rw [if_neg he]
        by_cases hp : (!o.ale || (fcs.length == tcs.length && (!o.alesl || fcs.length == 1))) = true
        · rw [if_pos hp]; exact fixed fp tp fcs tcs hf ht (Bool.eq_false_iff.2 he) hp hc
        · rw [if_neg hp]; exact ed fp tp fcs tcs hf ht (Bool.eq_false_iff.2 he) hc
    · rw [edits_list_other _ _ _ _ _ _ fun tcs h => hl ⟨tcs, h⟩]
      exact other _ _ _ (by cases t <;> first | exact absurd ⟨_, rfl⟩ hl | simp [Tree.eq])
  | dict fkv ih =>
    intro fp tp t hf ht
    by_cases hl : ∃ tkv, t = .dict tkv
    · obtain ⟨tkv, rfl⟩ := hl
      rw [edits_dict_dict]
      by_cases he : (fkv.length == tkv.length && subKV fkv tkv) = true
      · rw [if_pos he]; exact same _ _ hf ht ((Tree.eq_dict_dict ..).trans he)
      · rw [if_neg he]
        exact ms fp tp fkv tkv hf ht (Bool.eq_false_iff.2 he) (cells_kvTbl o orc fp tp fkv tkv fun kv h kv' h' fp tp =>
          ih kv h fp tp kv'.2 (hI.dict _ hf _ h) (hI.dict _ ht _ h'))
    · rw [edits_dict_other _ _ _ _ _ _ fun tkv h => hl ⟨tkv, h⟩]
      exact other _ _ _ (by cases t <;> first | exact absurd ⟨_, rfl⟩ hl | simp [Tree.eq])
  | fdict fkv ih =>
    intro fp tp t hf ht
    by_cases hl : ∃ tkv, t = .fdict tkv
    · obtain ⟨tkv, rfl⟩ := hl
      rw [edits_fdict_fdict]
      by_cases he : (fkv.length == tkv.length && subKV fkv tkv) = true
      · rw [if_pos he]; exact same _ _ hf ht ((Tree.eq_fdict_fdict ..).trans he)
      · rw [if_neg he]
        exact fk fp tp fkv tkv hf ht (Bool.eq_false_iff.2 he) (cells_kvTbl o orc fp tp fkv tkv fun kv h kv' h' fp tp =>
          ih kv h fp tp kv'.2 (hI.fdict _ hf _ h) (hI.fdict _ ht _ h'))
    · rw [edits_fdict_other _ _ _ _ _ _ fun tkv h => hl ⟨tkv, h⟩]
      exact other _ _ _ (by cases t <;> first | exact absurd ⟨_, rfl⟩ hl | simp [Tree.eq])

theorem sizeL_eq_sum : ∀ (cs : List Tree), sizeL cs = (cs.map fun c => c.size + 1).sum := by
  intro cs; induction cs with
  | nil => simp [sizeL]
  | cons c cs ih => simp [sizeL, ih]

theorem sizeKV_eq_sum : ∀ (kvs : List (Str × Tree)), sizeKV kvs = (kvs.map fun p => kvSize p + 1).sum := by
  intro kvs; induction kvs with
  | nil => simp [sizeKV]
  | cons p kvs ih => obtain ⟨k, v⟩ := p; simp [sizeKV, ih, kvSize]

theorem tbl_all {σ : Type} {P : σ → Prop} (tbl : List (List σ)) (d : σ) (hd : P d)
    (h : ∀ row ∈ tbl, ∀ s ∈ row, P s) (i j : Nat) : P ((tbl.getD i []).getD j d) := by
  simp only [List.getD_eq_getElem?_getD]
  cases hi : tbl[i]? with
  | none => simpa using hd
  | some row =>
    have hrow := List.mem_of_getElem? hi
    cases hj : row[j]? with
    | none => simpa [hj] using hd
    | some s => simpa [hj] using h row hrow s (List.mem_of_getElem? hj)

end GtModel
