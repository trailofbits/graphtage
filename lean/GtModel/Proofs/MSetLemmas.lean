/-
  General multisets (`GtModel.MSet.msGeneral`): counter arithmetic and the accounting of a `MultiSetEdit` BY
  MULTIPLICITY — for every oracle answer, including the answers on which the node-keyed matching dict collides (D21).
-/
import GtModel.Model.MSetEdits
import GtModel.Proofs.EditsIdx
import GtModel.Proofs.EditsParts
namespace GtModel.MSet
open List GtModel

theorem mem_firstOcc (l : List Nat) (x : Nat) : x ∈ firstOcc l ↔ x ∈ l := by
  induction l with
  | nil => simp [firstOcc]
  | cons y ys ih =>
    simp only [firstOcc, List.mem_cons, List.mem_filter, ih, bne_iff_ne, ne_eq]
    constructor
    · rintro (h | ⟨h, _⟩)
      · exact Or.inl h
      · exact Or.inr h
    · rintro (h | h)
      · exact Or.inl h
      · by_cases e : x = y
        · exact Or.inl e
        · exact Or.inr ⟨h, e⟩

theorem firstOcc_nodup (l : List Nat) : (firstOcc l).Nodup := by
  induction l with
  | nil => simp [firstOcc]
  | cons y ys ih =>
    simp only [firstOcc, List.nodup_cons, List.mem_filter, bne_self_eq_false, Bool.false_eq_true, and_false,
      not_false_eq_true, true_and]
    exact ih.filter _

theorem count_replicate_flatMap (keys : List Nat) (cnt : Nat → Nat) (k : Nat) (h : k ∉ keys) :
    (keys.flatMap fun x => List.replicate (cnt x) x).count k = 0 := by
  induction keys with
  | nil => rfl
  | cons y ys ih =>
    simp only [List.mem_cons, not_or] at h
    simp only [List.flatMap_cons, List.count_append, ih h.2, Nat.add_zero]
    rw [List.count_replicate]
    simp [Ne.symm h.1]

/-- `Counter.elements()` holds every key `count` times -/
theorem count_elementsOf (keys : List Nat) (hnd : keys.Nodup) (cnt : Nat → Nat) (k : Nat) :
    (elementsOf keys cnt).count k = if k ∈ keys then cnt k else 0 := by
  unfold elementsOf
  induction keys with
  | nil => rfl
  | cons y ys ih =>
    rw [List.nodup_cons] at hnd
    simp only [List.flatMap_cons, List.count_append, ih hnd.2, List.count_replicate, List.mem_cons]
    by_cases e : y = k
    · subst e
      simp [hnd.1]
    · have e' : ¬ k = y := fun h => e h.symm
      simp [e, e']

theorem count_elementsOf_firstOcc (l : List Nat) (g : Nat → Nat) (k : Nat) (h0 : k ∉ l → g k = 0) :
    (elementsOf (firstOcc l) g).count k = g k := by
  rw [count_elementsOf _ (firstOcc_nodup l)]
  split
  · rfl
  · rename_i h; rw [mem_firstOcc] at h; exact (h0 h).symm

section
variable (fs ts : List Tree) (k : Nat)

theorem count_chF : (parts fs ts).chF.count k = (classesFrom [] fs).count k :=
  count_elementsOf_firstOcc _ _ k fun h => List.count_eq_zero.2 h

theorem count_chT : (parts fs ts).chT.count k = (classesFrom fs ts).count k :=
  count_elementsOf_firstOcc _ _ k fun h => List.count_eq_zero.2 h

theorem count_matE :
    (parts fs ts).matE.count k = Nat.min ((classesFrom [] fs).count k) ((classesFrom fs ts).count k) :=
  count_elementsOf_firstOcc _ _ k fun h => by simp [List.count_eq_zero.2 h]

theorem count_remE : (parts fs ts).remE.count k = (classesFrom [] fs).count k - (classesFrom fs ts).count k :=
  count_elementsOf_firstOcc _ _ k fun h => by simp [List.count_eq_zero.2 h]

theorem count_insE : (parts fs ts).insE.count k = (classesFrom fs ts).count k - (classesFrom [] fs).count k :=
  count_elementsOf_firstOcc _ _ k fun h => by simp [List.count_eq_zero.2 h]

end

theorem collide_keys (remE : List Nat) (pairs : List (Nat × Nat)) :
    (collide remE pairs).map Prod.fst = firstOcc (pairs.map fun p => remE.getD p.1 0) := by
  simp [collide, Function.comp_def]

theorem collide_keys_nodup (remE : List Nat) (pairs : List (Nat × Nat)) : ((collide remE pairs).map Prod.fst).Nodup := by
  rw [collide_keys]; exact firstOcc_nodup _

theorem collide_key_mem (remE : List Nat) (pairs : List (Nat × Nat)) (hr : ∀ p ∈ pairs, p.1 < remE.length)
    (k : Nat) (hk : k ∈ (collide remE pairs).map Prod.fst) : k ∈ remE := by
  rw [collide_keys, mem_firstOcc] at hk
  simp only [List.mem_map] at hk
  obtain ⟨p, hp, rfl⟩ := hk
  have := hr p hp
  simp [List.getD_eq_getElem?_getD, this]

/-- the from-classes a `MultiSetEdit` accounts for: identity matches, keys of the matching dict, removals -/
def fromClasses (p : Parts) (entries : List (Nat × Nat)) : List Nat :=
  p.matE ++ entries.map Prod.fst
    ++ elementsOf (firstOcc p.remE) fun k => p.remE.count k - (if entries.any (·.1 == k) then 1 else 0)

/-- every from-element is accounted exactly as often as it occurs: the classes named by the identity matches, the
    matched pairs and the removals are a permutation of `children()` — whatever the solver answered, collisions of
    equal nodes in the matching dict included -/
theorem fromClasses_perm (fs ts : List Tree) (pairs : List (Nat × Nat))
    (hr : ∀ p ∈ pairs, p.1 < (parts fs ts).remE.length) :
    (fromClasses (parts fs ts) (collide (parts fs ts).remE pairs)).Perm (parts fs ts).chF := by
  -- per class k, with cF / cT its counts on either side: min cF cT + [k is a dict key] + (cF − cT − [k is a dict key]) = cF;
  -- a dict key is a member of `remE`, so for it cF > cT
  rw [List.perm_iff_count]
  intro k
  generalize hent : collide (parts fs ts).remE pairs = entries
  have hnd : (entries.map Prod.fst).Nodup := by rw [← hent]; exact collide_keys_nodup _ _
  have hmem : k ∈ entries.map Prod.fst → k ∈ (parts fs ts).remE := by
    rw [← hent]; exact collide_key_mem _ _ hr k
  simp only [fromClasses, List.count_append]
  rw [count_elementsOf_firstOcc _ _ k (fun h => by simp [List.count_eq_zero.2 h]), count_matE, count_chF,
    hnd.count]
  have hany : (entries.any (·.1 == k)) = decide (k ∈ entries.map Prod.fst) := by
    rw [Bool.eq_iff_iff]; simp only [List.any_eq_true, beq_iff_eq, List.mem_map, decide_eq_true_eq]
  rw [hany, count_remE]
  by_cases hk : k ∈ entries.map Prod.fst
  · have h1 := List.count_pos_iff.2 (hmem hk)
    rw [count_remE] at h1
    simp only [hk, if_true, decide_true]
    have : ∀ a b : Nat, 0 < a - b → Nat.min a b + 1 + (a - b - 1) = a := by
      intro a b h; have : Nat.min a b = b := by simp [Nat.min_def]; omega
      omega
    exact this _ _ h1
  · simp only [hk, if_false, decide_false, Bool.false_eq_true]
    have : ∀ a b : Nat, Nat.min a b + 0 + (a - b - 0) = a := by
      intro a b; simp only [Nat.min_def]; split <;> omega
    exact this _ _

/-- the pairs the model continues from: the recorded solver answer, sanitised and sorted by from-index -/
def msPairs (orc : Oracle) (fp tp : List Nat) (p : Parts) : List (Nat × Nat) :=
  sortPairs (orc.lookup (p.remE.map fun k => fp ++ [p.chF.idxOf k]) (p.insE.map fun k => tp ++ [p.chT.idxOf k]))

theorem msPairs_pinj (orc : Oracle) (fp tp : List Nat) (p : Parts) :
    PInj p.remE.length p.insE.length (msPairs orc fp tp p) := by
  have := sorted_lookup_pinj orc (p.remE.map fun k => fp ++ [p.chF.idxOf k]) (p.insE.map fun k => tp ++ [p.chT.idxOf k])
  simpa [msPairs] using this

theorem msGenScript_fromIdx (orc : Oracle) (fp tp : List Nat) (fs ts : List Tree) (p : Parts)
    (etbl : Nat → Nat → Script) (hT : ∀ a b, (etbl a b).kind.isTop = true) :
    fromIdx (msGenScript orc fp tp fs ts p etbl).subs =
      (fromClasses p (collide p.remE (msPairs orc fp tp p))).map fun k => Ix.at (p.chF.idxOf k) := by
  simp only [msGenScript, Script.subs_mk, fromIdx_append, fromClasses, List.map_append, msPairs]
  rw [fromIdx_map _ _ (fun k => Ix.at (p.chF.idxOf k)) (fun k _ => ⟨by simp, rfl⟩),
    fromIdx_map _ _ (fun e => Ix.at (p.chF.idxOf e.1)) (fun e _ => ⟨by
      have := Kind.isTop_ne (hT (p.remE.idxOf e.1) e.2); simpa using this.1, rfl⟩),
    fromIdx_map _ _ (fun k => Ix.at (p.chF.idxOf k)) (fun k _ => ⟨by simp, rfl⟩),
    fromIdx_map_insert _ _ (fun k _ => rfl)]
  simp only [List.map_map, Function.comp_def, List.append_nil]
  rfl

/-- C01 by multiplicity, from side: the from-indices of the sub-edits of `MultiSetEdit(from, to)` are a permutation
    of `children()` with every child replaced by the first occurrence of its (shared) node object -/
theorem msGenScript_accounts_from (orc : Oracle) (fp tp : List Nat) (fs ts : List Tree)
    (etbl : Nat → Nat → Script) (hT : ∀ a b, (etbl a b).kind.isTop = true) :
    (fromIdx (msGenScript orc fp tp fs ts (parts fs ts) etbl).subs).Perm
      ((parts fs ts).chF.map fun k => Ix.at ((parts fs ts).chF.idxOf k)) := by
  rw [msGenScript_fromIdx orc fp tp fs ts _ etbl hT]
  apply List.Perm.map
  exact fromClasses_perm fs ts _ (fun q hq => ((msPairs_pinj orc fp tp (parts fs ts)).2.2 q hq).1)

theorem nodup_map_on {α β : Type} {f : α → β} {l : List α} (hinj : ∀ a ∈ l, ∀ b ∈ l, f a = f b → a = b)
    (h : l.Nodup) : (l.map f).Nodup := by
  rw [List.nodup_iff_pairwise_ne] at h ⊢
  rw [List.pairwise_map]
  exact h.imp_of_mem (fun ha hb hne e => hne (hinj _ ha _ hb e))

theorem count_map_getD_le (k : Nat) (l bs : List Nat) (hnd : bs.Nodup) (hr : ∀ b ∈ bs, b < l.length) :
    (bs.map (l.getD · 0)).count k ≤ l.count k := by
  have hp := perm_compl bs l.length (fun j => decide (j ∉ bs)) hnd hr fun j _ => by simp
  have := (hp.map (l.getD · 0)).count_eq k
  rw [map_getD_range, List.map_append, List.count_append] at this
  omega

/-- every dict entry stems from a pair: its key is the class of the pair's from-node, its value the pair's to-index -/
theorem collide_entry (remE : List Nat) (pairs : List (Nat × Nat)) (e : Nat × Nat) (he : e ∈ collide remE pairs) :
    ∃ q ∈ pairs, remE.getD q.1 0 = e.1 ∧ q.2 = e.2 := by
  simp only [collide, List.mem_map] at he
  obtain ⟨k, hk, rfl⟩ := he
  rw [mem_firstOcc] at hk
  simp only [List.mem_map] at hk
  obtain ⟨q0, hq0, hkey⟩ := hk
  have hne : (pairs.filter fun q => remE.getD q.1 0 == k) ≠ [] := by
    intro h
    have : q0 ∈ pairs.filter fun q => remE.getD q.1 0 == k := List.mem_filter.2 ⟨hq0, by simpa using hkey⟩
    rw [h] at this; simp at this
  obtain ⟨q, hq⟩ : ∃ q, (pairs.filter fun q => remE.getD q.1 0 == k).getLast? = some q := by
    cases hl : (pairs.filter fun q => remE.getD q.1 0 == k).getLast? with
    | none => exact absurd (List.getLast?_eq_none_iff.1 hl) hne
    | some q => exact ⟨q, rfl⟩
  have hmem := List.mem_of_getLast? hq
  rw [List.mem_filter] at hmem
  exact ⟨q, hmem.1, by simpa using hmem.2, by rw [hq]; rfl⟩

/-- the to-indices of the entries stay distinct: two entries with one to-index stem from the same pair (the pairs'
    to-indices are distinct), hence have the same key, and keys are distinct -/
theorem collide_snd (remE : List Nat) (pairs : List (Nat × Nat)) (nt : Nat)
    (hnd : (pairs.map Prod.snd).Nodup) (hr : ∀ q ∈ pairs, q.2 < nt) :
    ((collide remE pairs).map Prod.snd).Nodup ∧ ∀ b ∈ (collide remE pairs).map Prod.snd, b < nt := by
  constructor
  · have hk := collide_keys_nodup remE pairs
    have hinj : ∀ a ∈ collide remE pairs, ∀ b ∈ collide remE pairs, a.2 = b.2 → a = b := by
      intro a ha b hb hab
      obtain ⟨qa, hqa, ka, sa⟩ := collide_entry remE pairs a ha
      obtain ⟨qb, hqb, kb, sb⟩ := collide_entry remE pairs b hb
      have hq : qa = qb := by
        rw [List.nodup_iff_pairwise_ne, List.pairwise_map] at hnd
        apply Classical.byContradiction
        intro hne
        obtain ⟨i, hi, rfl⟩ := List.getElem_of_mem hqa
        obtain ⟨j, hj, rfl⟩ := List.getElem_of_mem hqb
        have hij : i ≠ j := fun e => hne (by subst e; rfl)
        rcases Nat.lt_or_gt_of_ne hij with h | h
        · exact (List.pairwise_iff_getElem.1 hnd i j hi hj h) (by rw [sa, sb, hab])
        · exact (List.pairwise_iff_getElem.1 hnd j i hj hi h) (by rw [sa, sb, hab])
      subst hq
      exact Prod.ext (ka.symm.trans kb) hab
    exact nodup_map_on hinj (List.Pairwise.of_map _ (fun _ _ hne e => hne (by rw [e])) hk)
  · intro b hb
    simp only [List.mem_map] at hb
    obtain ⟨e, he, rfl⟩ := hb
    obtain ⟨q, hq, _, sq⟩ := collide_entry remE pairs e he
    rw [← sq]; exact hr q hq

/-- the to-classes a `MultiSetEdit` accounts for: identity matches (the equal element of the second multiset),
    the to-nodes of the matching dict, insertions -/
def toClasses (p : Parts) (entries : List (Nat × Nat)) : List Nat :=
  p.matE ++ entries.map (fun e => p.insE.getD e.2 0)
    ++ elementsOf (firstOcc p.insE) fun k => p.insE.count k - (entries.map fun e => p.insE.getD e.2 0).count k

/-- every to-element is accounted exactly as often as it occurs, whatever the solver answered -/
theorem toClasses_perm (fs ts : List Tree) (pairs : List (Nat × Nat))
    (hp : PInj (parts fs ts).remE.length (parts fs ts).insE.length pairs) :
    (toClasses (parts fs ts) (collide (parts fs ts).remE pairs)).Perm (parts fs ts).chT := by
  rw [List.perm_iff_count]
  intro k
  have hs := collide_snd (parts fs ts).remE pairs (parts fs ts).insE.length hp.2.1 (fun q hq => (hp.2.2 q hq).2)
  generalize collide (parts fs ts).remE pairs = entries at hs
  have hle : (entries.map fun e => (parts fs ts).insE.getD e.2 0).count k ≤ (parts fs ts).insE.count k := by
    have := count_map_getD_le k (parts fs ts).insE (entries.map Prod.snd) hs.1 hs.2
    simpa [List.map_map, Function.comp_def] using this
  simp only [toClasses, List.count_append]
  rw [count_elementsOf_firstOcc _ _ k (fun h => by simp [List.count_eq_zero.2 h]), count_matE, count_chT]
  rw [count_insE] at hle ⊢
  generalize (entries.map fun e => (parts fs ts).insE.getD e.2 0).count k = m at hle ⊢
  simp only [Nat.min_def]
  split <;> omega

/-- resolution of the identity matches `Match(n, n, 0)` (`ti = same`): the to-index of the element of the second
    multiset that is equal to the from-child at that index -/
def msResolve (p : Parts) : Ix → Ix
  | .at i => .at (p.chT.idxOf (p.chF.getD i 0))
  | x => x

theorem mem_chF_of_mem_matE (fs ts : List Tree) (k : Nat) (h : k ∈ (parts fs ts).matE) : k ∈ (parts fs ts).chF := by
  have h1 := List.count_pos_iff.2 h
  apply List.count_pos_iff.1
  rw [count_chF]; rw [count_matE] at h1
  have : Nat.min ((classesFrom [] fs).count k) ((classesFrom fs ts).count k) ≤ (classesFrom [] fs).count k :=
    Nat.min_le_left _ _
  omega

theorem getD_idxOf {l : List Nat} {k : Nat} (h : k ∈ l) : l.getD (l.idxOf k) 0 = k := by
  have := List.idxOf_lt_length_of_mem h
  simp [List.getD_eq_getElem?_getD, this]

theorem toIxOf_same (p : Parts) (k : Nat) (hk : k ∈ p.chF) :
    toIxOf (msResolve p) ((mkMatch 0).relabel (.at (p.chF.idxOf k)) .same) = .at (p.chT.idxOf k) := by
  have e := getD_idxOf hk
  simp [toIxOf, msResolve, -List.getD_eq_getElem?_getD, e]

theorem msGenScript_toIdx (orc : Oracle) (fp tp : List Nat) (fs ts : List Tree)
    (etbl : Nat → Nat → Script) (hT : ∀ a b, (etbl a b).kind.isTop = true) :
    toIdx (msResolve (parts fs ts)) (msGenScript orc fp tp fs ts (parts fs ts) etbl).subs =
      (toClasses (parts fs ts) (collide (parts fs ts).remE (msPairs orc fp tp (parts fs ts)))).map
        fun k => Ix.at ((parts fs ts).chT.idxOf k) := by
  generalize hp : parts fs ts = p
  have hmat : ∀ k ∈ p.matE, k ∈ p.chF := by subst hp; exact mem_chF_of_mem_matE fs ts
  simp only [msGenScript, Script.subs_mk, toIdx_append, toClasses, List.map_append, msPairs]
  have h1 := toIdx_map (msResolve p) p.matE (fun k => (mkMatch 0).relabel (.at (p.chF.idxOf k)) .same)
    (fun k => Ix.at (p.chT.idxOf k)) (fun k hk => ⟨by simp, toIxOf_same p k (hmat k hk)⟩)
  have h2 := fun (l : List (Nat × Nat)) => toIdx_map (msResolve p) l
    (fun x => (etbl (p.remE.idxOf x.1) x.2).relabel (.at (p.chF.idxOf x.1)) (.at (p.chT.idxOf (p.insE.getD x.2 0))))
    (fun e => Ix.at (p.chT.idxOf (p.insE.getD e.2 0))) (fun e _ => ⟨by
      have := Kind.isTop_ne (hT (p.remE.idxOf e.1) e.2); simpa using this.2.1,
      toIxOf_relabel_at _ _ _ _ (Kind.isTop_ne (hT (p.remE.idxOf e.1) e.2)).1⟩)
  have h3 := fun (l : List Nat) => toIdx_map_remove (msResolve p) l
    (fun k => mkRemove (p.chF.idxOf k) ((fs.getD (p.fcls.idxOf k) (.leaf .null)).size) 1) (fun k _ => rfl)
  have h4 := fun (l : List Nat) => toIdx_map (msResolve p) l
    (fun k => mkInsert (p.chT.idxOf k) ((ts.getD (p.tcls.idxOf k) (.leaf .null)).size) 1)
    (fun k => Ix.at (p.chT.idxOf k)) (fun k _ => ⟨by simp, by simp [toIxOf]⟩)
  rw [h1, h2, h3, h4]
  simp only [List.map_map, Function.comp_def, List.append_nil]

/-- C01 by multiplicity, to side: the to-indices (identity matches resolved by `msResolve`) of the sub-edits that are not
    Removes are a permutation of the second node's `children()`, every child replaced by the first occurrence of its
    node object -/
theorem msGenScript_accounts_to (orc : Oracle) (fp tp : List Nat) (fs ts : List Tree)
    (etbl : Nat → Nat → Script) (hT : ∀ a b, (etbl a b).kind.isTop = true) :
    (toIdx (msResolve (parts fs ts)) (msGenScript orc fp tp fs ts (parts fs ts) etbl).subs).Perm
      ((parts fs ts).chT.map fun k => Ix.at ((parts fs ts).chT.idxOf k)) := by
  rw [msGenScript_toIdx orc fp tp fs ts etbl hT]
  apply List.Perm.map
  exact toClasses_perm fs ts _ (msPairs_pinj orc fp tp (parts fs ts))

end GtModel.MSet
