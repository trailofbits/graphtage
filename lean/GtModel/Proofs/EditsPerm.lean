/-
  C01, per node, unordered containers: `FixedKeyDictNodeEdit` and `MultiSetEdit` account for every pair of both
  mappings exactly once (as permutations), for every oracle answer.
-/
import GtModel.Proofs.EditsIdx
import GtModel.Proofs.EditsParts
namespace GtModel
open List

attribute [-simp] List.getD_eq_getElem?_getD

/-- How `MultiSetEdit` goes through one side's `n` positions: `A` first (the pairs matched by key); what that leaves
    is split into `M` (identity matches) and `R` (handed to the matcher); of `R`, the positions `Q` the matcher pairs,
    then the positions it leaves.  Every position occurs once. -/
theorem perm_stages (n : Nat) (A M R Q : List Nat) (pA pQ : Nat → Bool)
    (hA : A.Nodup) (hAn : ∀ x ∈ A, x < n) (hpA : ∀ j, j < n → (pA j = true ↔ j ∉ A))
    (hMR : (M ++ R).Perm ((List.range n).filter pA))
    (hQ : Q.Nodup) (hQn : ∀ a ∈ Q, a < R.length) (hpQ : ∀ a, a < R.length → (pQ a = true ↔ a ∉ Q)) :
    (M ++ A ++ Q.map (R.getD · 0) ++ ((List.range R.length).filter pQ).map (R.getD · 0)).Perm (List.range n) := by
  have h1 := (perm_compl Q R.length pQ hQ hQn hpQ).map (R.getD · 0)
  rw [map_getD_range, List.map_append] at h1
  rw [List.append_assoc]
  refine (List.Perm.append_left _ h1).trans (.trans ?_ (perm_compl A n pA hA hAn hpA))
  refine .trans ?_ (List.Perm.append_left _ hMR)
  rw [List.append_assoc]
  exact List.perm_append_comm_assoc _ _ _

theorem ite_relabel_kind (c : Bool) (a b : Script) (f t : Ix) :
    (if c then a.relabel f t else b.relabel f t) = (if c then a else b).relabel f t := by
  cases c <;> rfl

theorem fkScript_fromIdx (fkv tkv : List (Str × Tree)) (vtbl : List (List Script)) :
    (fromIdx (fkScript fkv tkv vtbl).subs).Perm (ixRange fkv.length) := by
  rw [fkScript_subs]
  simp only [fromIdx_append]
  rw [fromIdx_map _ _ Ix.at, fromIdx_map _ _ Ix.at, fromIdx_map_insert, List.append_nil, ← List.map_append]
  · exact (List.filter_append_perm _ _).map _
  · intro a _; rfl
  · intro a _; exact ⟨by simp, rfl⟩
  · intro a _
    split <;> simp [kvpScript]

/-- the to-indices the key-matched pairs hit -/
def fkHits (fkv tkv : List (Str × Tree)) : List Nat :=
  (List.range fkv.length).filterMap fun i => findKey (fkv.getD i dkv).1 tkv 0

theorem hits_nodup (fkv tkv : List (Str × Tree)) (hdf : (keys fkv).Nodup) (L : List Nat) (hL : L.Nodup)
    (hlt : ∀ i ∈ L, i < fkv.length) : (L.filterMap fun i => findKey (fkv.getD i dkv).1 tkv 0).Nodup := by
  unfold List.Nodup
  rw [List.pairwise_filterMap]
  refine List.Pairwise.imp_of_mem ?_ hL
  intro a b ha hb hab j hj j' hj' e
  subst e
  have h1 := findKey_key hj
  have h2 := findKey_key hj'
  rw [getD_key (hlt a ha)] at h1
  rw [getD_key (hlt b hb)] at h2
  exact hab (keys_inj hdf (hlt a ha) (hlt b hb) (h1.symm.trans h2 |>.symm ▸ rfl))

theorem fkHits_nodup (fkv tkv : List (Str × Tree)) (hdf : (keys fkv).Nodup) : (fkHits fkv tkv).Nodup :=
  hits_nodup fkv tkv hdf _ List.nodup_range fun _ hi => List.mem_range.1 hi

theorem mem_fkHits (fkv tkv : List (Str × Tree)) (hdt : (keys tkv).Nodup) (j : Nat) (hj : j < tkv.length) :
    j ∈ fkHits fkv tkv ↔ tkv[j].1 ∈ keys fkv := by
  simp only [fkHits, List.mem_filterMap, List.mem_range, mem_keys_iff]
  constructor
  · rintro ⟨i, hi, h⟩
    refine ⟨i, hi, ?_⟩
    obtain ⟨_, h3⟩ := (findKey_iff hdt).1 h
    rw [getD_key hi] at h3
    exact h3.symm
  · rintro ⟨i, hi, h⟩
    refine ⟨i, hi, ?_⟩
    rw [getD_key hi, h]
    exact (findKey_iff hdt).2 ⟨hj, rfl⟩

theorem fkScript_toIdx (r : Ix → Ix) (fkv tkv : List (Str × Tree)) (vtbl : List (List Script))
    (hdf : (keys fkv).Nodup) (hdt : (keys tkv).Nodup) :
    (toIdx r (fkScript fkv tkv vtbl).subs).Perm (ixRange tkv.length) := by
  rw [fkScript_subs]
  simp only [toIdx_append]
  rw [toIdx_map r _ _ (fun i => Ix.at ((findKey (fkv.getD i dkv).1 tkv 0).getD 0)), toIdx_map_remove,
    toIdx_map r _ _ Ix.at, List.append_nil]
  · have h1 : (List.filter (fun i => (findKey (fkv.getD i dkv).1 tkv 0).isSome) (List.range fkv.length)).map
        (fun i => Ix.at ((findKey (fkv.getD i dkv).1 tkv 0).getD 0)) = (fkHits fkv tkv).map Ix.at := by
      rw [fkHits, filterMap_eq_map_filter _ 0, List.map_map]; rfl
    rw [h1, ← List.map_append]
    refine (perm_compl _ _ _ (fkHits_nodup fkv tkv hdf) ?_ ?_).map _
    · intro j hj
      simp only [fkHits, List.mem_filterMap] at hj
      obtain ⟨i, _, h⟩ := hj
      exact findKey_lt h
    · intro j hj
      rw [mem_fkHits fkv tkv hdt j hj, ← findKey_none (s := 0), getD_key hj]
      cases findKey tkv[j].1 fkv 0 <;> simp
  · intro a _; exact ⟨by simp, by simp [toIxOf]⟩
  · intro a _; rfl
  · intro a _
    split <;> simp [kvpScript, toIxOf]

theorem msAuto_snd (amk : Bool) (fkv tkv : List (Str × Tree)) :
    (msAuto amk fkv tkv).map Prod.snd = if amk then fkHits fkv tkv else [] := by
  unfold msAuto fkHits
  cases amk
  · simp
  · simp only [if_true, List.map_filterMap]
    congr 1; funext i
    cases findKey (fkv.getD i dkv).1 tkv 0 <;> simp

theorem msKvE_kind (fkv tkv : List (Str × Tree)) (vtbl : List (List Script)) (i j : Nat) :
    (msKvE fkv tkv vtbl i j).kind = .kvp := rfl

theorem msKvE_fi (fkv tkv : List (Str × Tree)) (vtbl : List (List Script)) (i j : Nat) :
    (msKvE fkv tkv vtbl i j).fi = .at i := rfl

theorem toIxOf_msKvE (r : Ix → Ix) (fkv tkv : List (Str × Tree)) (vtbl : List (List Script)) (i j : Nat) :
    toIxOf r (msKvE fkv tkv vtbl i j) = .at j := by
  simp [msKvE, kvpScript, toIxOf]

theorem msScript_fromIdx (amk : Bool) (orc : Oracle) (fp tp : List Nat) (fkv tkv : List (Str × Tree))
    (vtbl : List (List Script)) :
    (fromIdx (msScript amk orc fp tp fkv tkv vtbl).subs).Perm (ixRange fkv.length) := by
  rw [msScript_subs]
  simp only [fromIdx_append]
  rw [fromIdx_map _ _ Ix.at (fun i _ => ⟨by simp, rfl⟩),
    fromIdx_map (msAuto amk fkv tkv) _ (fun p => Ix.at p.1) (fun p _ => ⟨by simp [msKvE_kind fkv tkv vtbl _ _], msKvE_fi fkv tkv vtbl _ _⟩),
    fromIdx_map (msPairs amk orc fp tp fkv tkv) _ (fun p => Ix.at ((msToRemove amk fkv tkv).getD p.1 0))
      (fun p _ => ⟨by simp [msKvE_kind fkv tkv vtbl _ _], msKvE_fi fkv tkv vtbl _ _⟩),
    fromIdx_map _ _ (fun a => Ix.at ((msToRemove amk fkv tkv).getD a 0)) (fun a _ => ⟨by simp, rfl⟩),
    fromIdx_map_insert _ _ (fun _ _ => rfl), List.append_nil]
  have hP := msPairs_pinj amk orc fp tp fkv tkv
  have := (perm_stages fkv.length ((msAuto amk fkv tkv).map Prod.fst) (msToMatch amk fkv tkv) (msToRemove amk fkv tkv)
    ((msPairs amk orc fp tp fkv tkv).map Prod.fst) _ _
    (by rw [msAuto_fst]; exact List.Nodup.sublist List.filter_sublist List.nodup_range)
    (fun x hx => by rw [msAuto_fst] at hx; exact List.mem_range.1 (List.mem_filter.1 hx).1)
    (fun j _ => any_fst_iff _ j) (List.filter_append_perm _ _) hP.1
    (fun x hx => by obtain ⟨p, hp, rfl⟩ := List.mem_map.1 hx; exact (hP.2.2 p hp).1) (fun j _ => any_fst_iff _ j)).map Ix.at
  simpa only [List.map_append, List.map_map, Function.comp_def, ixRange] using this

/-- the to-index of an identity match `Match(n, n, 0)` of `MultiSetEdit`: the pair with the same key -/
def keyResolve (fkv tkv : List (Str × Tree)) : Ix → Ix
  | .at i => match fkv[i]? with
    | some kv => (match findKey kv.1 tkv 0 with | some j => .at j | none => .none)
    | none => .none
  | _ => .none

theorem kvEq_key {x y : Str × Tree} (h : kvEq x y = true) : x.1 = y.1 := by
  simp only [kvEq, Bool.and_eq_true, beq_iff_eq] at h; exact h.1

theorem hasEqIn_iff (x : Str × Tree) (idxs : List Nat) (l : List (Str × Tree)) :
    hasEqIn x idxs l = true ↔ ∃ j ∈ idxs, kvEq x (l.getD j dkv) = true := by
  simp [hasEqIn]

theorem msToMatch_kvEq {amk : Bool} {fkv tkv : List (Str × Tree)} (hdt : (keys tkv).Nodup) {i j : Nat}
    (hi : i ∈ msToMatch amk fkv tkv) (hres : keyResolve fkv tkv (.at i) = .at j) :
    kvEq (fkv.getD i dkv) (tkv.getD j dkv) = true := by
  simp only [msToMatch, List.mem_filter] at hi
  have hil := (fLeft_mem hi.1).1
  obtain ⟨j0, hjt, hkv⟩ := (hasEqIn_iff _ _ _).1 hi.2
  have hjl := tLeft_mem hjt
  have hkey := kvEq_key hkv
  rw [getD_eq_getElem _ _ hil, getD_eq_getElem _ _ hjl] at hkey
  have hfind : findKey fkv[i].1 tkv 0 = some j0 := (findKey_iff hdt).2 ⟨hjl, hkey.symm⟩
  have : keyResolve fkv tkv (.at i) = .at j0 := by simp [keyResolve, List.getElem?_eq_getElem hil, hfind]
  cases this.symm.trans hres
  exact hkv

/-- symmetric pair equality between the two mappings (a consequence of symmetric node equality) -/
def KvSymm (fkv tkv : List (Str × Tree)) : Prop :=
  ∀ i j, i < fkv.length → j < tkv.length → kvEq (fkv.getD i dkv) (tkv.getD j dkv) = kvEq (tkv.getD j dkv) (fkv.getD i dkv)

/-- the to-pairs that have an equal from-pair among the unmatched ones are exactly the resolved identity matches -/
theorem ms_same_perm (amk : Bool) (fkv tkv : List (Str × Tree)) (hdf : (keys fkv).Nodup) (hdt : (keys tkv).Nodup)
    (hsym : KvSymm fkv tkv) :
    ((msToMatch amk fkv tkv).map fun i => keyResolve fkv tkv (.at i)).Perm
      (((msTLeft amk fkv tkv).filter fun j => hasEqIn (tkv.getD j dkv) (msFLeft amk fkv tkv) fkv).map Ix.at) := by
  cases amk
  · -- no automatic key matching: everything is still unmatched
    have hF : msFLeft false fkv tkv = List.range fkv.length := by simp [msFLeft, msAuto]
    have hT : msTLeft false fkv tkv = List.range tkv.length := by simp [msTLeft, msAuto]
    have hres : ∀ i ∈ msToMatch false fkv tkv,
        keyResolve fkv tkv (.at i) = Ix.at ((findKey (fkv.getD i dkv).1 tkv 0).getD 0) ∧
          (findKey (fkv.getD i dkv).1 tkv 0).isSome = true := by
      intro i hi
      simp only [msToMatch, hF, hT, List.mem_filter, List.mem_range, hasEqIn_iff] at hi
      obtain ⟨hi, j, hj, he⟩ := hi
      have hk := kvEq_key he
      rw [getD_key hj] at hk
      have hf : findKey (fkv.getD i dkv).1 tkv 0 = some j := by rw [hk]; exact (findKey_iff hdt).2 ⟨hj, rfl⟩
      simp only [keyResolve, List.getElem?_eq_getElem hi]
      rw [getD_key hi] at hf
      simp [getD_key hi, hf]
    have e1 : (msToMatch false fkv tkv).map (fun i => keyResolve fkv tkv (.at i)) =
        ((msToMatch false fkv tkv).filterMap fun i => findKey (fkv.getD i dkv).1 tkv 0).map Ix.at := by
      rw [filterMap_eq_map_filter _ 0, List.map_map]
      have : (msToMatch false fkv tkv).filter (fun i => (findKey (fkv.getD i dkv).1 tkv 0).isSome) = msToMatch false fkv tkv :=
        List.filter_eq_self.2 (fun i hi => (hres i hi).2)
      rw [this]
      exact List.map_congr_left (fun i hi => (hres i hi).1)
    rw [e1]
    refine List.Perm.map _ ?_
    have hnd : (msToMatch false fkv tkv).Nodup := by
      simp only [msToMatch, hF]
      exact List.Nodup.sublist List.filter_sublist List.nodup_range
    rw [List.perm_ext_iff_of_nodup (hits_nodup fkv tkv hdf _ hnd (fun i hi => by
        simp only [msToMatch, hF, List.mem_filter, List.mem_range] at hi; exact hi.1))
      (List.Nodup.sublist List.filter_sublist (by rw [hT]; exact List.nodup_range))]
    intro j
    simp only [List.mem_filterMap, msToMatch, hF, hT, List.mem_filter, List.mem_range, hasEqIn_iff]
    constructor
    · rintro ⟨i, ⟨hi, j', hj', he⟩, hf⟩
      obtain ⟨hj, hkj⟩ := (findKey_iff hdt).1 hf
      have hk := kvEq_key he
      rw [getD_key hj'] at hk
      have : j' = j := keys_inj hdt hj' hj (hk.symm.trans hkj.symm)
      subst this
      exact ⟨hj', i, hi, by rw [← hsym i j' hi hj']; exact he⟩
    · rintro ⟨hj, i, hi, he⟩
      have he' : kvEq (fkv.getD i dkv) (tkv.getD j dkv) = true := by rw [hsym i j hi hj]; exact he
      refine ⟨i, ⟨hi, j, hj, he'⟩, ?_⟩
      have hk := kvEq_key he'
      rw [getD_key hj] at hk
      rw [hk]; exact (findKey_iff hdt).2 ⟨hj, rfl⟩
  · -- automatic key matching took every shared key: nothing is left to identify
    have key : ∀ i ∈ msFLeft true fkv tkv, ∀ j ∈ msTLeft true fkv tkv, (fkv.getD i dkv).1 ≠ (tkv.getD j dkv).1 :=
      fun i hi j hj e => (fLeft_mem hi).2 rfl
        (by rw [e, getD_key (tLeft_mem hj)]; exact List.mem_map_of_mem (List.getElem_mem _))
    have h1 : msToMatch true fkv tkv = [] := by
      simp only [msToMatch, List.filter_eq_nil_iff, hasEqIn_iff, not_exists, not_and]
      exact fun i hi j hj he => key i hi j hj (kvEq_key he)
    have h2 : ((msTLeft true fkv tkv).filter fun j => hasEqIn (tkv.getD j dkv) (msFLeft true fkv tkv) fkv) = [] := by
      simp only [List.filter_eq_nil_iff, hasEqIn_iff, not_exists, not_and]
      exact fun j hj i hi he => key i hi j hj (kvEq_key he).symm
    rw [h1, h2]; exact List.Perm.refl _

theorem msScript_toIdx (amk : Bool) (orc : Oracle) (fp tp : List Nat) (fkv tkv : List (Str × Tree))
    (vtbl : List (List Script)) (hdf : (keys fkv).Nodup) (hdt : (keys tkv).Nodup) (hsym : KvSymm fkv tkv) :
    (toIdx (keyResolve fkv tkv) (msScript amk orc fp tp fkv tkv vtbl).subs).Perm (ixRange tkv.length) := by
  rw [msScript_subs]
  simp only [toIdx_append]
  rw [toIdx_map _ _ _ (fun i => keyResolve fkv tkv (.at i)) (fun i _ => ⟨by simp, by simp [toIxOf]⟩),
    toIdx_map _ (msAuto amk fkv tkv) _ (fun p => Ix.at p.2)
      (fun p _ => ⟨by simp [msKvE_kind fkv tkv vtbl _ _], toIxOf_msKvE _ fkv tkv vtbl _ _⟩),
    toIdx_map _ (msPairs amk orc fp tp fkv tkv) _ (fun p => Ix.at ((msToInsert amk fkv tkv).getD p.2 0))
      (fun p _ => ⟨by simp [msKvE_kind fkv tkv vtbl _ _], toIxOf_msKvE _ fkv tkv vtbl _ _⟩),
    toIdx_map_remove _ _ _ (fun _ _ => rfl),
    toIdx_map _ _ _ (fun b => Ix.at ((msToInsert amk fkv tkv).getD b 0)) (fun b _ => ⟨by simp, by simp [toIxOf]⟩),
    List.append_nil]
  have hP := msPairs_pinj amk orc fp tp fkv tkv
  have := (perm_stages tkv.length ((msAuto amk fkv tkv).map Prod.snd)
    ((msTLeft amk fkv tkv).filter fun j => hasEqIn (tkv.getD j dkv) (msFLeft amk fkv tkv) fkv) (msToInsert amk fkv tkv)
    ((msPairs amk orc fp tp fkv tkv).map Prod.snd) _ _
    (by rw [msAuto_snd]; split
        · exact fkHits_nodup fkv tkv hdf
        · simp)
    (fun x hx => by obtain ⟨p, hp, rfl⟩ := List.mem_map.1 hx; exact findKey_lt (msAuto_mem hp).2.2)
    (fun j _ => any_snd_iff _ j) (List.filter_append_perm _ _) hP.2.1
    (fun x hx => by obtain ⟨p, hp, rfl⟩ := List.mem_map.1 hx; exact (hP.2.2 p hp).2) (fun j _ => any_snd_iff _ j)).map Ix.at
  simp only [List.map_append, List.map_map, Function.comp_def] at this
  refine .trans (List.Perm.append_right _ (List.Perm.append_right _ (List.Perm.append_right _ ?_))) this
  exact ms_same_perm amk fkv tkv hdf hdt hsym

end GtModel
