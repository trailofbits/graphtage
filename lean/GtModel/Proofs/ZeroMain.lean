/-
  Well-formed trees (distinct keys within every mapping) and the main induction:
  the fully refined script of `from.edits(to)` has cost 0 exactly when `from == to`; on such trees `==` is symmetric.
-/
import GtModel.Proofs.ZeroDict

namespace GtModel

mutual
/-- keys are distinct within every mapping (what `build_tree` produces from parsed documents) -/
def Tree.WF : Tree → Bool
  | .leaf _ => true
  | .list cs => wfL cs
  | .dict kvs => decide ((kvs.map Prod.fst).Nodup) && wfKV kvs
  | .fdict kvs => decide ((kvs.map Prod.fst).Nodup) && wfKV kvs
def wfL : List Tree → Bool
  | [] => true
  | c :: cs => c.WF && wfL cs
def wfKV : List (Str × Tree) → Bool
  | [] => true
  | (_, v) :: rest => v.WF && wfKV rest
end

theorem wfL_iff : ∀ (cs : List Tree), wfL cs = true ↔ ∀ c ∈ cs, c.WF = true := by
  intro cs
  induction cs with
  | nil => simp [wfL]
  | cons c cs ih => simp [wfL, ih]

theorem wfKV_iff : ∀ (kvs : List (Str × Tree)), wfKV kvs = true ↔ ∀ p ∈ kvs, p.2.WF = true := by
  intro kvs
  induction kvs with
  | nil => simp [wfKV]
  | cons p kvs ih => obtain ⟨k, v⟩ := p; simp [wfKV, ih]

theorem Tree.wf_list (cs : List Tree) : (Tree.list cs).WF = true ↔ ∀ c ∈ cs, c.WF = true := by
  rw [Tree.WF, wfL_iff]

theorem Tree.wf_dict (kvs : List (Str × Tree)) :
    (Tree.dict kvs).WF = true ↔ (kvs.map Prod.fst).Nodup ∧ ∀ p ∈ kvs, p.2.WF = true := by
  rw [Tree.WF, Bool.and_eq_true, decide_eq_true_eq, wfKV_iff]

theorem Tree.wf_fdict (kvs : List (Str × Tree)) :
    (Tree.fdict kvs).WF = true ↔ (kvs.map Prod.fst).Nodup ∧ ∀ p ∈ kvs, p.2.WF = true := by
  rw [Tree.WF, Bool.and_eq_true, decide_eq_true_eq, wfKV_iff]

/-- the penalty `ListNode.edits` hands to `EditDistance` is 0 only when every child has positive size -/
theorem listPen_pos (fcs tcs : List Tree) :
    (∀ c ∈ fcs, 0 < c.size + if allLeaves fcs && allLeaves tcs && allPositive fcs && allPositive tcs then 0 else 1) ∧
    (∀ c ∈ tcs, 0 < c.size + if allLeaves fcs && allLeaves tcs && allPositive fcs && allPositive tcs then 0 else 1) := by
  split
  · rename_i hp
    simp only [Bool.and_eq_true, allPositive, List.all_eq_true, decide_eq_true_eq] at hp
    exact ⟨fun c hc => Nat.add_pos_left (hp.1.2 c hc) 0, fun c hc => Nat.add_pos_left (hp.2 c hc) 0⟩
  · exact ⟨fun _ _ => Nat.succ_pos _, fun _ _ => Nat.succ_pos _⟩

theorem treeInv_wf : TreeInv (fun t => t.WF = true) :=
  ⟨fun _ => rfl, fun cs h => (Tree.wf_list cs).1 h, fun kvs h => ((Tree.wf_dict kvs).1 h).2,
    fun kvs h => ((Tree.wf_fdict kvs).1 h).2⟩

theorem cost_zero_imp_eq (o : Opts) (orc : Oracle) (f : Tree) : ∀ (fp tp : List Nat) (t : Tree),
    f.WF = true → t.WF = true → (edits o orc fp tp f t).cost = 0 → f.eq t = true := by
  refine edits_ind treeInv_wf (P := fun f t s => s.cost = 0 → f.eq t = true) o orc
    (fun a t => (leafEdits_cost_zero_iff a t).1) (fun _ _ _ _ h _ => h)
    (fun _ _ _ _ h => absurd h (Nat.ne_of_gt (mkReplace_pos _ _))) ?_ ?_ ?_ ?_ f
  · intro fp tp fcs tcs _ _ _ _ hc h
    rw [Tree.eq_list_list]
    exact fixedScript_cost_zero fcs tcs _ hc h
  · intro fp tp fcs tcs _ _ _ hc h
    rw [Tree.eq_list_list]
    exact edScript_cost_zero fcs tcs _ _ (listPen_pos fcs tcs).1 (listPen_pos fcs tcs).2 hc h
  · intro fp tp fkv tkv hF hT _ hc h
    rw [dict_eq_iff]
    exact msScript_cost_zero hc o.amk orc fp tp ((Tree.wf_dict _).1 hF).1 ((Tree.wf_dict _).1 hT).1 h
  · intro fp tp fkv tkv hF hT _ hc h
    rw [fdict_eq_iff]
    exact fkScript_cost_zero hc ((Tree.wf_fdict _).1 hF).1 ((Tree.wf_fdict _).1 hT).1 h

/-- `from == to`: every node class answers `Match(from, to, 0)`; no hypothesis on the trees -/
theorem edits_of_eq (o : Opts) (orc : Oracle) (fp tp : List Nat) (f t : Tree) (h : f.eq t = true) :
    edits o orc fp tp f t = mkMatch 0 := by
  revert h
  exact edits_ind treeInv_true (P := fun f t s => f.eq t = true → s = mkMatch 0) o orc
    leafEdits_of_eq (fun _ _ _ _ _ _ => rfl) (fun _ _ _ hne h => by simp [hne] at h)
    (fun _ _ _ _ _ _ hne _ _ h => by simp [Tree.eq_list_list, hne] at h)
    (fun _ _ _ _ _ _ hne _ h => by simp [Tree.eq_list_list, hne] at h)
    (fun _ _ _ _ _ _ hne _ h => by simp [Tree.eq_dict_dict, hne] at h)
    (fun _ _ _ _ _ _ hne _ h => by simp [Tree.eq_fdict_fdict, hne] at h) f fp tp t trivial trivial

theorem eq_imp_cost_zero (o : Opts) (orc : Oracle) (fp tp : List Nat) (f t : Tree) (h : f.eq t = true) :
    (edits o orc fp tp f t).cost = 0 := by
  rw [edits_of_eq o orc fp tp f t h]; rfl

/-- on trees with distinct keys a free script is the bare Match (used by `C06.marks_iff`) -/
theorem cost_zero_iff_match (o : Opts) (orc : Oracle) (fp tp : List Nat) (f t : Tree) (hf : f.WF = true)
    (ht : t.WF = true) : (edits o orc fp tp f t).cost = 0 ↔ edits o orc fp tp f t = mkMatch 0 :=
  ⟨fun h => edits_of_eq o orc fp tp f t (cost_zero_imp_eq o orc f fp tp t hf ht h), fun h => by rw [h]; rfl⟩

theorem Tree.eq_refl (t : Tree) : t.eq t = true := by
  induction t using Tree.ind with
  | leaf s => rw [Tree.eq]; exact Scalar.eq_refl s
  | list cs ih => rw [Tree.eq, eqL_iff_forall₂]; exact .same ih
  | dict kvs ih => rw [dict_eq_iff]; exact kvRel_refl ih
  | fdict kvs ih => rw [fdict_eq_iff]; exact kvRel_refl ih

theorem scalarEq_symm (a b : Scalar) : a.eq b = b.eq a := by
  rw [Bool.eq_iff_iff, Scalar.eq_iff, Scalar.eq_iff]; exact eq_comm

theorem eqL_comm_of (as bs : List Tree) (h : ∀ a ∈ as, ∀ b ∈ bs, a.eq b = b.eq a) : eqL as bs = eqL bs as := by
  rw [eqL_eq_all₂, eqL_eq_all₂, all₂_comm_of h]

theorem treeEq_symm (f : Tree) : ∀ t : Tree, f.WF = true → t.WF = true → f.eq t = t.eq f := by
  induction f using Tree.ind with
  | leaf a => intro t _ _; cases t <;> simp [Tree.eq, scalarEq_symm]
  | list as ih =>
    intro t hf ht
    cases t with
    | list bs =>
      rw [Tree.wf_list] at hf ht
      rw [Tree.eq, Tree.eq]
      exact eqL_comm_of as bs fun a ha b hb => ih a ha b (hf a ha) (ht b hb)
    | _ => simp [Tree.eq]
  | dict as ih =>
    intro t hf ht
    cases t with
    | dict bs =>
      rw [Tree.wf_dict] at hf ht
      rw [Bool.eq_iff_iff, dict_eq_iff, dict_eq_iff]
      exact kvRel_comm hf.1 ht.1 fun p hp q hq => ih p hp q.2 (hf.2 p hp) (ht.2 q hq)
    | _ => simp [Tree.eq]
  | fdict as ih =>
    intro t hf ht
    cases t with
    | fdict bs =>
      rw [Tree.wf_fdict] at hf ht
      rw [Bool.eq_iff_iff, fdict_eq_iff, fdict_eq_iff]
      exact kvRel_comm hf.1 ht.1 fun p hp q hq => ih p hp q.2 (hf.2 p hp) (ht.2 q hq)
    | _ => simp [Tree.eq]

end GtModel
