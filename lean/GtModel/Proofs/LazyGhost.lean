/-
  Proof infrastructure for the L3 model: the `Protocol` every machine obeys, stated for an arbitrary record of
  methods `ops` and the ghost data `g` of the machines; before it the lemmas about intervals (`iv_*`).
-/
import GtModel.Model.Lazy

namespace GtModel.Lazy

def Iv.width (a : Iv) : Nat := a.hi - a.lo

/-- the interval is a single value ("definitive" in graphtage's words) -/
abbrev Iv.Single (v : Iv) : Prop := v.lo = v.hi

theorem Iv.contains_iff (a b : Iv) : a.contains b = true ↔ a.lo ≤ b.lo ∧ b.hi ≤ a.hi := by
  simp [Iv.contains]

theorem Iv.definitive_iff (a : Iv) : a.definitive = true ↔ a.lo = a.hi := by
  simp [Iv.definitive]

theorem iv_ne_of_sub {a b : Iv} (hs : a.lo ≤ b.lo ∧ b.hi ≤ a.hi) (hne : b ≠ a) : a.lo < b.lo ∨ b.hi < a.hi := by
  rcases a with ⟨al, ah⟩
  rcases b with ⟨bl, bh⟩
  simp only [ne_eq, Iv.mk.injEq] at hne
  simp only at hs ⊢
  omega

theorem iv_ne_of_lt {a b : Iv} (h : a.lo < b.lo ∨ b.hi < a.hi) : b ≠ a := by
  rintro rfl
  omega

theorem iv_sub_antisymm {a b : Iv} (h1 : a.lo ≤ b.lo ∧ b.hi ≤ a.hi) (h2 : b.lo ≤ a.lo ∧ a.hi ≤ b.hi) : a = b := by
  cases a
  cases b
  simp only [Iv.mk.injEq] at *
  omega

theorem iv_point_of {v : Iv} {f : Nat} (h1 : v.lo ≤ f) (h2 : f ≤ v.hi) (hd : v.lo = v.hi) : v = Iv.point f := by
  cases v
  simp only [Iv.point, Iv.mk.injEq] at *
  omega

theorem mk?_ok (lo hi : Nat) (h : lo ≤ hi) : Iv.mk? lo hi = .ok ⟨lo, hi⟩ := by
  have : ¬ hi < lo := by omega
  simp [Iv.mk?, this, pure, Except.pure]

theorem iv_sub_refl (a : Iv) : a.lo ≤ a.lo ∧ a.hi ≤ a.hi := ⟨Nat.le_refl _, Nat.le_refl _⟩

theorem iv_sub_trans {a b c : Iv} (h1 : a.lo ≤ b.lo ∧ b.hi ≤ a.hi) (h2 : b.lo ≤ c.lo ∧ c.hi ≤ b.hi) :
    a.lo ≤ c.lo ∧ c.hi ≤ a.hi :=
  ⟨Nat.le_trans h1.1 h2.1, Nat.le_trans h2.2 h1.2⟩

theorem iv_add_sub {x x' y y' : Iv} (hx : x.lo ≤ x'.lo ∧ x'.hi ≤ x.hi) (hy : y.lo ≤ y'.lo ∧ y'.hi ≤ y.hi) :
    (x.add y).lo ≤ (x'.add y').lo ∧ (x'.add y').hi ≤ (x.add y).hi :=
  ⟨Nat.add_le_add hx.1 hy.1, Nat.add_le_add hx.2 hy.2⟩

theorem iv_add_mem {x y : Iv} {a b : Nat} (hx : x.lo ≤ a ∧ a ≤ x.hi) (hy : y.lo ≤ b ∧ b ≤ y.hi) :
    (x.add y).lo ≤ a + b ∧ a + b ≤ (x.add y).hi :=
  ⟨Nat.add_le_add hx.1 hy.1, Nat.add_le_add hx.2 hy.2⟩

theorem iv_add_def {x y : Iv} (hx : x.lo = x.hi) (hy : y.lo = y.hi) : (x.add y).lo = (x.add y).hi := by
  show x.lo + y.lo = x.hi + y.hi
  rw [hx, hy]

theorem iv_def_of_add {x y : Iv} (wx : x.lo ≤ x.hi) (wy : y.lo ≤ y.hi) (h : (x.add y).lo = (x.add y).hi) :
    x.lo = x.hi ∧ y.lo = y.hi := by
  have h' : x.lo + y.lo = x.hi + y.hi := h
  omega

theorem iv_add_ne {x x' y y' : Iv} (hx : x.lo ≤ x'.lo ∧ x'.hi ≤ x.hi) (hy : y.lo ≤ y'.lo ∧ y'.hi ≤ y.hi)
    (h : x' ≠ x ∨ y' ≠ y) : x'.add y' ≠ x.add y := by
  have : (x.lo < x'.lo ∨ x'.hi < x.hi) ∨ (y.lo < y'.lo ∨ y'.hi < y.hi) :=
    h.imp (iv_ne_of_sub hx) (iv_ne_of_sub hy)
  intro he
  have h1 : x'.lo + y'.lo = x.lo + y.lo := congrArg Iv.lo he
  have h2 : x'.hi + y'.hi = x.hi + y.hi := congrArg Iv.hi he
  omega

theorem iv_def_of_sub {v v' : Iv} (hs : v.lo ≤ v'.lo ∧ v'.hi ≤ v.hi) (hw : v'.lo ≤ v'.hi) (hd : v.lo = v.hi) :
    v'.lo = v'.hi := by
  omega

theorem base_width_lt {b b' : Nat} {v v' : Iv} (hb : b' ≤ b) (hs : v.lo ≤ v'.lo ∧ v'.hi ≤ v.hi) (hw : v'.lo ≤ v'.hi)
    (h : b' < b ∨ v.lo < v'.lo ∨ v'.hi < v.hi) : b' + (v'.hi - v'.lo) < b + (v.hi - v.lo) := by
  omega

/-- Ghost data of a family of machines: invariant, settledness (the state right after a `bounds()` call), the
    interval `bounds()` would return, the final cost, a termination measure, and the script the dump prints once the
    interval is a single value. -/
structure Ghost where
  I : M → Prop
  Q : M → Prop
  view : M → Iv
  fin : M → Nat
  μ : M → Nat
  script : M → DScript

/-- `m'` is `m` after an operation that does not refine -/
structure Pres (g : Ghost) (m m' : M) : Prop where
  inv : g.I m'
  view : g.view m' = g.view m
  fin : g.fin m' = g.fin m
  mu : g.μ m' ≤ g.μ m
  scr : g.script m' = g.script m

/-- `m'` is `m` after a `tighten_bounds()` that returned `r` -/
structure Step (g : Ghost) (m m' : M) (r : Bool) : Prop where
  inv : g.I m'
  fin : g.fin m' = g.fin m
  sub : (g.view m).lo ≤ (g.view m').lo ∧ (g.view m').hi ≤ (g.view m).hi
  mu : g.μ m' ≤ g.μ m
  dec : r = true → g.μ m' < g.μ m
  stop : r = false → (g.view m').lo = (g.view m').hi
  strict : g.Q m → r = true → g.view m' ≠ g.view m
  scr : g.script m' = g.script m

/-- `m'` is `m` after any public operation -/
structure Keeps (g : Ghost) (m m' : M) : Prop where
  inv : g.I m'
  fin : g.fin m' = g.fin m
  sub : (g.view m).lo ≤ (g.view m').lo ∧ (g.view m').hi ≤ (g.view m).hi
  mu : g.μ m' ≤ g.μ m
  scr : g.script m' = g.script m

theorem Keeps.refl (g : Ghost) (m : M) (h : g.I m) : Keeps g m m :=
  ⟨h, rfl, iv_sub_refl _, Nat.le_refl _, rfl⟩

theorem Keeps.trans {g : Ghost} {a b c : M} (h1 : Keeps g a b) (h2 : Keeps g b c) : Keeps g a c :=
  ⟨h2.inv, h2.fin.trans h1.fin, iv_sub_trans h1.sub h2.sub,
    Nat.le_trans h2.mu h1.mu, h2.scr.trans h1.scr⟩

structure Protocol (ops : Ops) (g : Ghost) : Prop where
  wf : ∀ m, g.I m → (g.view m).lo ≤ g.fin m ∧ g.fin m ≤ (g.view m).hi
  bounds : ∀ m, g.I m → ∃ m', ops.bounds m = .ok (m', g.view m) ∧ Pres g m m' ∧ g.Q m'
  tighten : ∀ m, g.I m → ∃ m' r, ops.tighten m = .ok (m', r) ∧ Step g m m' r
  complete : ∀ m, g.I m → ∃ m' c, ops.complete m = .ok (m', c) ∧ Pres g m m' ∧ (g.Q m → g.Q m')
  onDiff : ∀ m, g.I m → ∃ m', ops.onDiff m = .ok m' ∧ Keeps g m m'
  dump : ∀ m, g.I m → (g.view m).lo = (g.view m).hi → ∃ m', ops.dump m = .ok (m', g.script m) ∧ Keeps g m m'

theorem Pres.refl (g : Ghost) (m : M) (h : g.I m) : Pres g m m := ⟨h, rfl, rfl, Nat.le_refl _, rfl⟩

theorem Pres.trans {g : Ghost} {a b c : M} (h1 : Pres g a b) (h2 : Pres g b c) : Pres g a c :=
  ⟨h2.inv, h2.view.trans h1.view, h2.fin.trans h1.fin, Nat.le_trans h2.mu h1.mu, h2.scr.trans h1.scr⟩

theorem Pres.keeps {g : Ghost} {m m' : M} (h : Pres g m m') : Keeps g m m' :=
  ⟨h.inv, h.fin, by rw [h.view]; exact iv_sub_refl _, h.mu, h.scr⟩

theorem Step.keeps {g : Ghost} {m m' : M} {r : Bool} (h : Step g m m' r) : Keeps g m m' :=
  ⟨h.inv, h.fin, h.sub, h.mu, h.scr⟩

section
variable {rec : Ops} {g : Ghost}

theorem keeps_def_view (h : Protocol rec g) {m m' : M} (k : Keeps g m m')
    (hd : (g.view m).lo = (g.view m).hi) : g.view m' = g.view m := by
  have w := h.wf m' k.inv
  have := k.sub
  cases hv : g.view m with
  | mk lo hi =>
    cases hv' : g.view m' with
    | mk lo' hi' => rw [hv] at hd this; rw [hv'] at w this; simp only at *; simp only [Iv.mk.injEq]; omega

abbrev Single (g : Ghost) (m : M) : Prop := (g.view m).Single

theorem Keeps.single (h : Protocol rec g) {m m' : M} (k : Keeps g m m') (hd : Single g m) : Single g m' :=
  iv_def_of_sub k.sub (Nat.le_trans (h.wf m' k.inv).1 (h.wf m' k.inv).2) hd

theorem def_is_fin (h : Protocol rec g) {m : M} (hI : g.I m) (hd : (g.view m).lo = (g.view m).hi) :
    (g.view m).hi = g.fin m ∧ (g.view m).definitive = true := by
  have w := h.wf m hI
  exact ⟨by omega, by simp [Iv.definitive, hd]⟩

end

theorem Keeps.pres {g : Ghost} {m m' : M} (k : Keeps g m m') (hv : g.view m' = g.view m) : Pres g m m' :=
  ⟨k.inv, hv, k.fin, k.mu, k.scr⟩

theorem Keeps.step {g : Ghost} {m m' : M} {r : Bool} (k : Keeps g m m') (dec : r = true → g.μ m' < g.μ m)
    (stop : r = false → (g.view m').lo = (g.view m').hi) (strict : g.Q m → r = true → g.view m' ≠ g.view m) :
    Step g m m' r :=
  ⟨k.inv, k.fin, k.sub, k.mu, dec, stop, strict, k.scr⟩

/-- the protocol at one machine `m` -/
structure Obeys (ops : Ops) (g : Ghost) (m : M) : Prop where
  wf : (g.view m).lo ≤ g.fin m ∧ g.fin m ≤ (g.view m).hi
  bounds : ∃ m', ops.bounds m = .ok (m', g.view m) ∧ Pres g m m' ∧ g.Q m'
  tighten : ∃ m' r, ops.tighten m = .ok (m', r) ∧ Step g m m' r
  complete : ∃ m' c, ops.complete m = .ok (m', c) ∧ Pres g m m' ∧ (g.Q m → g.Q m')
  onDiff : ∃ m', ops.onDiff m = .ok m' ∧ Keeps g m m'
  dump : (g.view m).lo = (g.view m).hi → ∃ m', ops.dump m = .ok (m', g.script m) ∧ Keeps g m m'

theorem Protocol.of_obeys {ops : Ops} {g : Ghost} (h : ∀ m, g.I m → Obeys ops g m) : Protocol ops g :=
  ⟨fun m hm => (h m hm).wf, fun m hm => (h m hm).bounds, fun m hm => (h m hm).tighten,
    fun m hm => (h m hm).complete, fun m hm => (h m hm).onDiff, fun m hm => (h m hm).dump⟩

end GtModel.Lazy
