/-
  The sums of the k smallest / k largest entries of a list (`ksm`, `klg`, over the model's insertion sort): any k
  entries lie between them, both are attained by a sublist and monotone under entry-wise comparison; strictly
  increasing index lists select sublists; the greedy matrix' corner costs at least |nf - nt| entries of the longer
  side.
-/
import GtModel.Proofs.LazyDefsMs

namespace GtModel.Lazy
open GtModel.EditMatrix (Cell Move step spec goLeft goUp goDiag cellAt origin spec_induction)

theorem insertNat_perm (x : Nat) : ∀ l : List Nat, (insertNat x l).Perm (x :: l)
  | [] => .refl _
  | y :: ys => by
      simp only [insertNat]
      split
      · exact .refl _
      · exact ((insertNat_perm x ys).cons y).trans (.swap x y ys)

theorem sortNat_perm : ∀ l : List Nat, (sortNat l).Perm l
  | [] => .refl _
  | x :: xs => (insertNat_perm x _).trans ((sortNat_perm xs).cons x)

theorem sortNat_length (l : List Nat) : (sortNat l).length = l.length := (sortNat_perm l).length_eq

theorem sortNat_sum (l : List Nat) : (sortNat l).sum = l.sum := (sortNat_perm l).sum_nat

theorem insertNat_sorted (x : Nat) (l : List Nat) (h : l.Pairwise (· ≤ ·)) : (insertNat x l).Pairwise (· ≤ ·) := by
  induction l with
  | nil => simp [insertNat]
  | cons z zs ih =>
    simp only [insertNat]
    have hz := List.pairwise_cons.mp h
    split
    · rename_i hx
      refine List.pairwise_cons.mpr ⟨?_, h⟩
      intro a ha
      rcases List.mem_cons.mp ha with rfl | ha
      · exact hx
      · exact Nat.le_trans hx (hz.1 a ha)
    · rename_i hx
      refine List.pairwise_cons.mpr ⟨?_, ih hz.2⟩
      intro a ha
      rcases List.mem_cons.mp ((insertNat_perm x zs).mem_iff.mp ha) with rfl | ha
      · omega
      · exact hz.1 a ha

theorem sortNat_sorted : ∀ l : List Nat, (sortNat l).Pairwise (· ≤ ·)
  | [] => .nil
  | x :: xs => insertNat_sorted x _ (sortNat_sorted xs)

theorem sublist_take_sum (s : List Nat) (k : Nat) : (s.take k).Sublist s ∧ (s.take k).sum ≤ s.sum :=
  ⟨List.take_sublist k s, take_sum_le_sum s k⟩

theorem ksm_zero (l : List Nat) : ksm 0 l = 0 := rfl

theorem klg_zero (l : List Nat) : klg 0 l = 0 := rfl

theorem ksm_le_sum (k : Nat) (l : List Nat) : ksm k l ≤ l.sum := by
  have := take_sum_le_sum (sortNat l) k
  rw [sortNat_sum] at this; exact this

theorem klg_eq_drop (k : Nat) (l : List Nat) : klg k l = ((sortNat l).drop (l.length - k)).sum := by
  simp only [klg, List.take_reverse, List.sum_reverse, sortNat_length]

theorem klg_add_ksm (k : Nat) (l : List Nat) : klg k l + ksm (l.length - k) l = l.sum := by
  rw [klg_eq_drop, ksm]
  have := take_add_drop_sum (sortNat l) (l.length - k)
  rw [sortNat_sum] at this
  omega

theorem sorted_shift (y : Nat) (ys : List Nat) (h : (y :: ys).Pairwise (· ≤ ·)) (k : Nat) (hk : k ≤ ys.length) :
    ((y :: ys).take k).sum ≤ (ys.take k).sum := by
  induction ys generalizing y k with
  | nil => cases k with
    | zero => simp
    | succ k => simp at hk
  | cons z zs ih =>
    cases k with
    | zero => simp
    | succ k =>
      have hy := List.pairwise_cons.mp h
      have := ih z hy.2 k (by simpa using hk)
      have hyz : y ≤ z := hy.1 z List.mem_cons_self
      simp only [List.take_succ_cons, List.sum_cons] at this ⊢
      omega

theorem sorted_take_le_sublist {l s : List Nat} (hl : l.Pairwise (· ≤ ·)) (h : s.Sublist l) :
    (l.take s.length).sum ≤ s.sum := by
  induction h with
  | slnil => exact Nat.le_refl _
  | @cons s l x hs ih =>
    exact Nat.le_trans (sorted_shift x l hl _ hs.length_le) (ih (List.pairwise_cons.mp hl).2)
  | @cons_cons s l x hs ih =>
    have := ih (List.pairwise_cons.mp hl).2
    simp only [List.length_cons, List.take_succ_cons, List.sum_cons]
    omega

theorem ksm_le_sublist (l s : List Nat) (h : s.Sublist l) : ksm s.length l ≤ s.sum := by
  obtain ⟨s', hp, hs⟩ := List.exists_perm_sublist h (sortNat_perm l).symm
  rw [← hp.sum_nat, ← hp.length_eq]
  exact sorted_take_le_sublist (sortNat_sorted l) hs

theorem sublist_compl {l s : List Nat} (h : s.Sublist l) :
    ∃ c : List Nat, c.Sublist l ∧ c.length + s.length = l.length ∧ c.sum + s.sum = l.sum := by
  induction h with
  | slnil => exact ⟨[], List.Sublist.refl _, rfl, rfl⟩
  | @cons s l x _ ih =>
    obtain ⟨c, h1, h2, h3⟩ := ih
    exact ⟨x :: c, h1.cons_cons x, by simp only [List.length_cons]; omega, by simp only [List.sum_cons]; omega⟩
  | @cons_cons s l x _ ih =>
    obtain ⟨c, h1, h2, h3⟩ := ih
    exact ⟨c, h1.cons x, by simp only [List.length_cons]; omega, by simp only [List.sum_cons]; omega⟩

/-- the others are at least the smallest that many -/
theorem sublist_le_klg (l s : List Nat) (h : s.Sublist l) : s.sum ≤ klg s.length l := by
  obtain ⟨c, hc, hl, hsum⟩ := sublist_compl h
  have h1 := ksm_le_sublist l c hc
  have h2 := klg_add_ksm s.length l
  rw [show l.length - s.length = c.length by omega] at h2
  omega

theorem ksm_le_klg (k : Nat) (l : List Nat) (h : k ≤ l.length) : ksm k l ≤ klg k l := by
  have h1 := ksm_le_sublist l (l.take k) (List.take_sublist k l)
  have h2 := sublist_le_klg l (l.take k) (List.take_sublist k l)
  have e : (l.take k).length = k := by rw [List.length_take]; omega
  rw [e] at h1 h2
  omega

/-- a rearrangement of the sorted prefix -/
theorem ksm_attained (l : List Nat) (k : Nat) (h : k ≤ l.length) :
    ∃ s : List Nat, s.Sublist l ∧ s.length = k ∧ s.sum ≤ ksm k l := by
  obtain ⟨s, hp, hs⟩ := List.exists_perm_sublist (List.take_sublist k (sortNat l)) (sortNat_perm l)
  exact ⟨s, hs, by rw [hp.length_eq, List.length_take, sortNat_length]; omega, Nat.le_of_eq hp.sum_nat⟩

theorem klg_attained (l : List Nat) (k : Nat) (h : k ≤ l.length) :
    ∃ s : List Nat, s.Sublist l ∧ s.length = k ∧ klg k l ≤ s.sum := by
  obtain ⟨s0, hs0, hl0, hsum0⟩ := ksm_attained l (l.length - k) (by omega)
  obtain ⟨c, hc, hcl, hcs⟩ := sublist_compl hs0
  have := klg_add_ksm k l
  exact ⟨c, hc, by omega, by omega⟩

def PW : List Nat → List Nat → Prop
  | [], [] => True
  | x :: xs, y :: ys => x ≤ y ∧ PW xs ys
  | _, _ => False

theorem PW.iff {a b : List Nat} : PW a b ↔ Forall2 (· ≤ ·) a b := Builder.Forall2.iff_of_rec trivial Iff.rfl id id

theorem PW.length : ∀ {a b : List Nat}, PW a b → a.length = b.length :=
  fun h => (PW.iff.1 h).length_eq

theorem PW.refl : ∀ (a : List Nat), PW a a :=
  fun _ => PW.iff.2 (.same fun _ _ => Nat.le_refl _)

theorem PW.sum_le : ∀ {a b : List Nat}, PW a b → a.sum ≤ b.sum
  | [], [], _ => Nat.le_refl _
  | _ :: _, _ :: _, h => by have := PW.sum_le h.2; have := h.1; simp only [List.sum_cons]; omega
  | [], _ :: _, h => h.elim
  | _ :: _, [], h => h.elim

theorem PW.sublist_down {a b : List Nat} (h : PW a b) {s : List Nat} (hs : s.Sublist b) :
    ∃ s' : List Nat, s'.Sublist a ∧ PW s' s :=
  let ⟨s', h1, h2⟩ := (PW.iff.1 h).sublist hs
  ⟨s', h1, PW.iff.2 h2⟩

theorem PW.sublist_up {a b : List Nat} (h : PW a b) {s : List Nat} (hs : s.Sublist a) :
    ∃ s' : List Nat, s'.Sublist b ∧ PW s s' :=
  let ⟨s', h1, h2⟩ := (PW.iff.1 h).flip.sublist hs
  ⟨s', h1, PW.iff.2 h2.flip⟩

theorem ksm_mono {a b : List Nat} (h : PW a b) (k : Nat) (hk : k ≤ a.length) : ksm k a ≤ ksm k b := by
  obtain ⟨s, hs, hl, hsum⟩ := ksm_attained b k (by rw [← h.length]; exact hk)
  obtain ⟨s', h1, h2⟩ := h.sublist_down hs
  have := ksm_le_sublist a s' h1
  have := h2.sum_le
  rw [h2.length, hl] at *
  omega

theorem klg_mono {a b : List Nat} (h : PW a b) (k : Nat) (hk : k ≤ a.length) : klg k a ≤ klg k b := by
  obtain ⟨s, hs, hl, hsum⟩ := klg_attained a k hk
  obtain ⟨s', h1, h2⟩ := h.sublist_up hs
  have := sublist_le_klg b s' h1
  have := h2.sum_le
  rw [← h2.length, hl] at *
  omega

theorem idx_sublist {α : Type} (d : α) (l : List α) (idx : List Nat) (hp : idx.Pairwise (· < ·))
    (hr : ∀ i ∈ idx, i < l.length) : (idx.map fun i => l.getD i d).Sublist l := by
  have h := List.map_getElem_sublist (l := l) (is := idx.pmap Fin.mk hr) (hp.pmap hr fun _ _ _ _ h => h)
  rw [List.map_pmap] at h
  rwa [List.pmap_congr_left (q := (· < l.length)) (g := fun i _ => l.getD i d) (H₂ := hr) idx
    (fun i _ hi _ => by simp [hi]), List.pmap_eq_map] at h

/-- what `spec_lower` carries from cell to cell; at the corner it puts a fresh EditDistance's `lb0` below its cost -/
def Low (l : List Nat) (n k v : Nat) : Prop := ∃ s : List Nat, s.Sublist (l.take n) ∧ s.length = k ∧ s.sum ≤ v

theorem Low.zero (l : List Nat) (n v : Nat) : Low l n 0 v := ⟨[], List.nil_sublist _, rfl, Nat.zero_le _⟩

theorem Low.mono {l : List Nat} {n k v n' k' v' : Nat} (h : Low l n k v) (hn : n ≤ n') (hk : k' ≤ k) (hv : v ≤ v') :
    Low l n' k' v' := by
  obtain ⟨s, hs, hl, hsum⟩ := h
  exact ⟨s.take k', (List.take_sublist _ _).trans (hs.trans (List.take_sublist_take_left hn)),
    by rw [List.length_take]; omega, Nat.le_trans (take_sum_le_sum s k') (Nat.le_trans hsum hv)⟩

theorem Low.step {l : List Nat} {n k v : Nat} (h : Low l n k v) (hn : n < l.length) :
    Low l (n + 1) (k + 1) (v + l.getD n 0) := by
  obtain ⟨s, hs, hl, hsum⟩ := h
  have e : l.take (n + 1) = l.take n ++ [l.getD n 0] := by
    rw [List.take_add_one]
    simp [List.getD, List.getElem?_eq_getElem hn]
  exact ⟨s ++ [l.getD n 0], e ▸ hs.append (List.Sublist.refl _), by simp [hl], by simp; omega⟩

/-! With `k = n - m`: how `n - m` of the first `n` entries fare when `n`, `m` or both advance. -/

theorem Low.pay {l : List Nat} {n m v : Nat} (h : Low l n (n - m) v) (hn : n < l.length) :
    Low l (n + 1) (n + 1 - m) (v + l.getD n 0) :=
  (h.step hn).mono (Nat.le_refl _) (by omega) (Nat.le_refl _)

theorem Low.skip {l : List Nat} {n m v : Nat} (h : Low l n (n - m) v) (x : Nat) : Low l n (n - (m + 1)) (v + x) :=
  h.mono (Nat.le_refl _) (by omega) (Nat.le_add_right _ _)

theorem Low.both {l : List Nat} {n m v : Nat} (h : Low l n (n - m) v) (x : Nat) :
    Low l (n + 1) (n + 1 - (m + 1)) (v + x) :=
  h.mono (Nat.le_succ _) (by omega) (Nat.le_add_right _ _)

/-- cell (r, c) of the greedy matrix costs at least `c - r` of the first `c` removals and `r - c` of the first `r`
    insertions: a step to the right pays the next removal, a step down the next insertion, a diagonal step keeps
    the difference -/
theorem spec_lower (rem ins : List Nat) (cells : List (List Nat)) (r c : Nat) (hr : r ≤ ins.length)
    (hc : c ≤ rem.length) :
    Low rem c (c - r) (spec rem ins cells r c).cost ∧ Low ins r (r - c) (spec rem ins cells r c).cost := by
  refine spec_induction rem ins cells
    (fun r c p => r ≤ ins.length → c ≤ rem.length → Low rem c (c - r) p.cost ∧ Low ins r (r - c) p.cost)
    (fun _ _ => ⟨Low.zero .., Low.zero ..⟩) ?_ ?_ ?_ r c hr hc
  · intro r c p ih hr hc
    obtain ⟨h1, h2⟩ := ih hr (Nat.le_of_succ_le hc)
    exact ⟨h1.pay hc, h2.skip _⟩
  · intro r c p ih hr hc
    obtain ⟨h1, h2⟩ := ih (Nat.le_of_succ_le hr) hc
    exact ⟨h1.skip _, h2.pay hr⟩
  · intro r c p ih _ _ hr hc
    obtain ⟨h1, h2⟩ := ih (Nat.le_of_succ_le hr) (Nat.le_of_succ_le hc)
    exact ⟨h1.both _, h2.both _⟩

end GtModel.Lazy
