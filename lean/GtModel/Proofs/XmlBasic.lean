/-
  Basic facts about the XML layer `GtModel.Xml.xmlEdits`: accessor simp lemmas, the attach-free unfolding equation,
  the table of child scripts as a function of (c, r), induction principle for `XTree`, what a sub-edit of the edit over
  two child tuples can be.
-/
import GtModel.Model.XmlEdits
import GtModel.Proofs.EditMatrix
import GtModel.Proofs.EditsBasic
namespace GtModel.Xml
open GtModel
open GtModel.EditMatrix

@[simp] theorem XScript.cost_mk (k f t c s) : (XScript.mk k f t c s).cost = c := rfl
@[simp] theorem XScript.cost_emb (s) : (XScript.emb s).cost = s.cost := rfl
@[simp] theorem XScript.fi_mk (k f t c s) : (XScript.mk k f t c s).fi = f := rfl
@[simp] theorem XScript.fi_emb (s) : (XScript.emb s).fi = s.fi := rfl
@[simp] theorem XScript.ti_mk (k f t c s) : (XScript.mk k f t c s).ti = t := rfl
@[simp] theorem XScript.ti_emb (s) : (XScript.emb s).ti = s.ti := rfl
@[simp] theorem XScript.subs_mk (k f t c s) : (XScript.mk k f t c s).subs = s := rfl
@[simp] theorem XScript.subs_emb (s) : (XScript.emb s).subs = [] := rfl
@[simp] theorem XScript.isInsert_mk (k f t c s) : (XScript.mk k f t c s).isInsert = (k == .insert) := rfl
@[simp] theorem XScript.isInsert_emb (s) : (XScript.emb s).isInsert = (s.kind == .insert) := rfl
@[simp] theorem XScript.isRemove_mk (k f t c s) : (XScript.mk k f t c s).isRemove = (k == .remove) := rfl
@[simp] theorem XScript.isRemove_emb (s) : (XScript.emb s).isRemove = (s.kind == .remove) := rfl
@[simp] theorem XScript.relabel_cost (s : XScript) (f t) : (s.relabel f t).cost = s.cost := by cases s <;> rfl
@[simp] theorem XScript.relabel_fi (s : XScript) (f t) : (s.relabel f t).fi = f := by cases s <;> rfl
@[simp] theorem XScript.relabel_ti (s : XScript) (f t) : (s.relabel f t).ti = t := by cases s <;> rfl
@[simp] theorem XScript.relabel_subs (s : XScript) (f t) : (s.relabel f t).subs = s.subs := by cases s <;> rfl
@[simp] theorem XScript.relabel_isInsert (s : XScript) (f t) : (s.relabel f t).isInsert = s.isInsert := by cases s <;> rfl
@[simp] theorem XScript.relabel_isRemove (s : XScript) (f t) : (s.relabel f t).isRemove = s.isRemove := by cases s <;> rfl
@[simp] theorem XScript.relabel_emb (s : Script) (f t) : (XScript.emb s).relabel f t = .emb (s.relabel f t) := rfl
@[simp] theorem XScript.relabel_mk (k f0 t0 c s f t) : (XScript.mk k f0 t0 c s).relabel f t = .mk k f t c s := rfl

@[simp] theorem xMatch_cost (c) : (xMatch c).cost = c := rfl
@[simp] theorem xMatch_subs (c) : (xMatch c).subs = [] := rfl
@[simp] theorem xRemove_cost (i s p) : (xRemove i s p).cost = s + p := rfl
@[simp] theorem xInsert_cost (i s p) : (xInsert i s p).cost = s + p := rfl
@[simp] theorem xCompound_cost (k s) : (xCompound k s).cost = xsum s := rfl
@[simp] theorem xCompound_subs (k s) : (xCompound k s).subs = s := rfl
@[simp] theorem xsum_nil : xsum [] = 0 := rfl
@[simp] theorem xsum_cons (s : XScript) (l) : xsum (s :: l) = s.cost + xsum l := by simp [xsum]
@[simp] theorem xsum_append (a b : List XScript) : xsum (a ++ b) = xsum a + xsum b := by simp [xsum]

/-- `tbl[c][r]` = script of `from_children[c].edits(to_children[r])`; `kf`/`kt` = index of `_children` in the two
    elements' `children()` -/
def kidsTbl (o : Opts) (orc : Oracle) (fp tp : List Nat) (kf kt : Nat) (fcs tcs : List XTree) : List (List XScript) :=
  fcs.zipIdx.map fun p => tcs.zipIdx.map fun q => xmlEdits o orc (fp ++ [kf, p.2]) (tp ++ [kt, q.2]) p.1 q.1

theorem xmlEdits_eq (o : Opts) (orc : Oracle) (fp tp : List Nat) (ftag : Str) (fattr : Tree) (ftext : Option Str)
    (fcs : List XTree) (ttag : Str) (tattr : Tree) (ttext : Option Str) (tcs : List XTree) :
    xmlEdits o orc fp tp (.mk ftag fattr ftext fcs) (.mk ttag tattr ttext tcs) =
      if XTree.eq (.mk ftag fattr ftext fcs) (.mk ttag tattr ttext tcs) then xMatch 0
      else elemScript (strEdits ftag ttag) (edits o orc (fp ++ [1]) (tp ++ [1]) fattr tattr) (textEdit ftext ttext)
        (kidsIx ftext) (kidsIx ttext)
        (kidsScript o fcs tcs (kidsTbl o orc fp tp (kidsIx ftext) (kidsIx ttext) fcs tcs)) := by
  rw [xmlEdits]
  have := attach_zipIdx_map fcs (fun fc c => tcs.zipIdx.map fun q =>
    xmlEdits o orc (fp ++ [kidsIx ftext, c]) (tp ++ [kidsIx ttext, q.2]) fc q.1) 0
  simp only [kidsTbl, this]

theorem elemScript_cost (tagE attrE : Script) (textE : Option Script) (kf kt : Nat) (kidsE : XScript) :
    (elemScript tagE attrE textE kf kt kidsE).cost =
      tagE.cost + attrE.cost + (match textE with | some e => e.cost | none => 0) + kidsE.cost := by
  cases textE <;> simp [elemScript, Nat.add_assoc]

theorem kidsTbl_getD (o : Opts) (orc : Oracle) (fp tp : List Nat) (kf kt : Nat) (fcs tcs : List XTree) (i j : Nat)
    (d : XScript) (hi : i < fcs.length) (hj : j < tcs.length) :
    ((kidsTbl o orc fp tp kf kt fcs tcs).getD i []).getD j d =
      xmlEdits o orc (fp ++ [kf, i]) (tp ++ [kt, j]) fcs[i] tcs[j] := by
  simp [kidsTbl, List.getD_eq_getElem?_getD, hi, hj]

/-- kinds that carry sub-edits: XMLElementEdit, FixedLengthSequenceEdit, EditDistance -/
def XKind.hasSubs : XKind → Bool
  | .elem | .fixed | .ed => true
  | _ => false

/-- Match, Remove or Insert of a whole element -/
def XScript.Flat : XScript → Prop
  | .mk k _ _ _ subs => k.hasSubs = false ∧ subs = []
  | .emb _ => False

/-- What a sub-edit of an edit over two child tuples can be (the XML counterpart of `SubForm`). -/
inductive XSubForm (n m : Nat) (tbl : List (List XScript)) : XScript → Prop
  | flat {s : XScript} : s.Flat → XSubForm n m tbl s
  | cell {i j : Nat} : i < n → j < m → XSubForm n m tbl (((tbl.getD i []).getD j (xMatch 0)).relabel (.at i) (.at j))

theorem xsubForm_kidsEd {fcs tcs : List XTree} {pen : Nat} {tbl : List (List XScript)} {s : XScript}
    (h : s ∈ (kidsEd fcs tcs pen tbl).subs) : XSubForm fcs.length tcs.length tbl s := by
  simp only [kidsEd, XScript.subs_mk, List.mem_append, List.mem_map] at h
  rcases h with (⟨k, _, rfl⟩ | ⟨⟨m, r, c⟩, hm, rfl⟩) | ⟨k, _, rfl⟩
  · exact .flat ⟨rfl, rfl⟩
  · have hr := solve_located_inRange _ _ _ _ hm
    have hl := trimLens_le fcs tcs
    simp only [List.length_map, middle_length] at hr
    cases m
    · have h1 := hr.1 Move.noConfusion
      have h2 := hr.2 Move.noConfusion
      exact .cell (i := c + (trimLens fcs tcs).1) (j := r + (trimLens fcs tcs).1) (by omega) (by omega)
    · exact .flat ⟨rfl, rfl⟩
    · exact .flat ⟨rfl, rfl⟩
  · exact .flat ⟨rfl, rfl⟩

theorem xsubForm_kidsFixed {fcs tcs : List XTree} {tbl : List (List XScript)} {s : XScript}
    (h : s ∈ (kidsFixed fcs tcs tbl).subs) : XSubForm fcs.length tcs.length tbl s := by
  simp only [kidsFixed, xCompound_subs, List.mem_append, List.mem_map, List.mem_range] at h
  rcases h with (⟨k, hk, rfl⟩ | ⟨k, _, rfl⟩) | ⟨k, _, rfl⟩
  · exact .cell (Nat.lt_of_lt_of_le hk (Nat.min_le_left ..)) (Nat.lt_of_lt_of_le hk (Nat.min_le_right ..))
  · exact .flat ⟨rfl, rfl⟩
  · exact .flat ⟨rfl, rfl⟩

theorem xsubForm_kidsScript {o : Opts} {fcs tcs : List XTree} {tbl : List (List XScript)} {s : XScript}
    (h : s ∈ (kidsScript o fcs tcs tbl).subs) : XSubForm fcs.length tcs.length tbl s := by
  unfold kidsScript at h
  split at h
  · cases h
  · split at h
    · exact xsubForm_kidsFixed h
    · exact xsubForm_kidsEd h

theorem XTree.sizeOf_lt_of_mem {tag : Str} {a : Tree} {x : Option Str} {cs : List XTree} {c : XTree} (h : c ∈ cs) :
    sizeOf c < sizeOf (XTree.mk tag a x cs) := by
  have := List.sizeOf_lt_of_mem h
  simp; omega

theorem XTree.ind {P : XTree → Prop}
    (mk : ∀ tag a x cs, (∀ c ∈ cs, P c) → P (.mk tag a x cs)) : ∀ t, P t := by
  intro t
  induction h : sizeOf t using Nat.strongRecOn generalizing t with
  | _ n ih =>
    subst h
    cases t with
    | mk tag a x cs =>
      apply mk; intro c hc
      exact ih _ (XTree.sizeOf_lt_of_mem hc) c rfl

theorem kidsTbl_all {P : XScript → Prop} (o : Opts) (orc : Oracle) (fp tp : List Nat) (kf kt : Nat)
    (fcs tcs : List XTree) (h : ∀ fc ∈ fcs, ∀ tc fp tp, P (xmlEdits o orc fp tp fc tc)) :
    ∀ row ∈ kidsTbl o orc fp tp kf kt fcs tcs, ∀ s ∈ row, P s := by
  intro row hrow s hs
  simp only [kidsTbl, List.mem_map] at hrow
  obtain ⟨p, hp, rfl⟩ := hrow
  simp only [List.mem_map] at hs
  obtain ⟨q, _, rfl⟩ := hs
  exact h p.1 (by have := List.mem_zipIdx hp; simp_all) _ _ _

theorem XTree.eq_mk (stag : Str) (sattr : Tree) (stext : Option Str) (scs : List XTree)
    (otag : Str) (oattr : Tree) (otext : Option Str) (ocs : List XTree) :
    XTree.eq (.mk stag sattr stext scs) (.mk otag oattr otext ocs) =
      (otag == stag && oattr.eq sattr && eqText otext == eqText stext && xeqL ocs scs) := by
  rw [XTree.eq]

@[simp] theorem xeqL_nil_nil : xeqL [] [] = true := by rw [xeqL]
@[simp] theorem xeqL_cons_cons (a b : XTree) (as bs : List XTree) :
    xeqL (a :: as) (b :: bs) = (a.eq b && xeqL as bs) := by rw [xeqL]
@[simp] theorem xeqL_nil_cons (b : XTree) (bs : List XTree) : xeqL [] (b :: bs) = false := by rw [xeqL] <;> simp
@[simp] theorem xeqL_cons_nil (a : XTree) (as : List XTree) : xeqL (a :: as) [] = false := by rw [xeqL] <;> simp

theorem xeqL_eq_all₂ : ∀ (as bs : List XTree), xeqL as bs = all₂ XTree.eq as bs :=
  eq_all₂_of_rec xeqL_nil_nil xeqL_cons_cons xeqL_nil_cons xeqL_cons_nil

theorem xeqL_iff_forall₂ {as bs : List XTree} : xeqL as bs = true ↔ Forall2 (fun a b => a.eq b = true) as bs := by
  rw [xeqL_eq_all₂, all₂_iff]

theorem xeqL_iff (as bs : List XTree) : xeqL as bs = true ↔
    as.length = bs.length ∧ ∀ i, i < as.length → (as.getD i dX).eq (bs.getD i dX) = true :=
  xeqL_iff_forall₂.trans (Builder.Forall2.iff_getD dX dX)

end GtModel.Xml
