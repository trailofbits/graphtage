/-
  `json.build_tree` on values: its documented domain `JsonLike`, every list-level function as a `List.mapM`
  (`jsonItem` = one dict entry), and, for scalars of standard classes (`JsonStd`), agreement with the value-level
  builder `buildVal` (`json_eq_buildVal`).
  Declared in `GtModel.C18`: `JsonLike` and `JsonStd` are the words of the property statements.
-/
import GtModel.Proofs.BuilderValue

namespace GtModel.C18
open GtModel.Builder

def numOrStr (mro : List String) : Bool :=
  mro.contains "bool" || mro.contains "int" || mro.contains "float" || mro.contains "str"

/-- scalars of `json.build_tree`'s domain: bool / int / float / str (and subclasses), or None -/
def JsonScalar (mro : List String) (s : Scalar) : Prop :=
  numOrStr mro = true ∨ (mro.contains "bytes" = false ∧ s = Scalar.none)

def JsonKey : PyVal → Prop
  | .scalar mro _ => numOrStr mro = true
  | _ => False

def keyEqc : PyVal → String
  | .scalar _ s => s.eqc
  | _ => ""

/-- Python guarantees this for every dict: no two keys are `==` -/
def DistinctKeys (kvs : List (PyVal × PyVal)) : Prop := (kvs.map (fun p => keyEqc p.1)).Pairwise (· ≠ ·)

mutual
/-- the documented domain of `json.build_tree`: lists / tuples / dicts with scalar (non-None, non-bytes) keys /
bool, int, float, str, None -/
def JsonLike : PyVal → Prop
  | .scalar mro s => JsonScalar mro s
  | .list _ xs => JsonLikeList xs
  | .tuple _ xs => JsonLikeList xs
  | .dict _ kvs => JsonLikePairs kvs ∧ DistinctKeys kvs
  | .set _ _ => False
  | .custom _ _ _ => False
def JsonLikeList : List PyVal → Prop
  | [] => True
  | x :: xs => JsonLike x ∧ JsonLikeList xs
def JsonLikePairs : List (PyVal × PyVal) → Prop
  | [] => True
  | (k, v) :: rest => JsonKey k ∧ JsonLike v ∧ JsonLikePairs rest
end

theorem jsonLeaf_numOrStr (mro : List String) (s : Scalar) (h : numOrStr mro = true) :
    ∃ c, c ≠ LeafCls.null ∧ jsonLeaf mro (some s) = some (.ok (.leaf c s true)) := by
  unfold jsonLeaf
  simp only [numOrStr, List.contains_eq_mem, Bool.or_eq_true, decide_eq_true_eq] at h ⊢
  by_cases h1 : "bool" ∈ mro
  · exact ⟨.bool, by simp, by simp [h1, pure, Except.pure]⟩
  by_cases h2 : "int" ∈ mro
  · exact ⟨.integer, by simp, by simp [h1, h2, pure, Except.pure]⟩
  by_cases h3 : "float" ∈ mro
  · exact ⟨.float, by simp, by simp [h1, h2, h3, pure, Except.pure]⟩
  by_cases h4 : "str" ∈ mro
  · exact ⟨.string, by simp, by simp [h1, h2, h3, h4, pure, Except.pure]⟩
  simp [h1, h2, h3, h4] at h

theorem jsonLeaf_nobytes (mro : List String) (s : Scalar) (hb : mro.contains "bytes" = false) :
    ∀ r, jsonLeaf mro (some s) = some r → ∃ c, r = .ok (.leaf c s true) := by
  intro r h
  by_cases hn : numOrStr mro = true
  · obtain ⟨c, _, hl⟩ := jsonLeaf_numOrStr mro s hn
    rw [hl] at h
    cases h
    exact ⟨c, rfl⟩
  · simp only [numOrStr, List.contains_eq_mem, Bool.or_eq_true, decide_eq_true_eq, not_or] at hn
    simp only [List.contains_eq_mem, decide_eq_false_iff_not] at hb
    simp [jsonLeaf, hn.1.1.1, hn.1.1.2, hn.1.2, hn.2, hb] at h

theorem jsonBuild_scalar (o : Opts) {mro : List String} {s : Scalar} (h : JsonScalar mro s) :
    ∃ c, jsonBuild o (.scalar mro s) = .ok (.leaf c s true) := by
  rw [jsonBuild]
  rcases h with h | ⟨hby, rfl⟩
  · obtain ⟨c, _, hl⟩ := jsonLeaf_numOrStr mro s h
    rw [hl]
    exact ⟨c, rfl⟩
  · cases hl : jsonLeaf mro (some Scalar.none) with
    | some r =>
      -- a numeric / str class wrapping None cannot occur, but the result is a leaf of the same scalar anyway
      obtain ⟨c, rfl⟩ := jsonLeaf_nobytes mro _ hby r hl
      exact ⟨c, rfl⟩
    | none => exact ⟨.null, rfl⟩

theorem jsonLikeList_iff {xs : List PyVal} : JsonLikeList xs ↔ ∀ x ∈ xs, JsonLike x :=
  forall_mem_of_rec trivial fun _ _ => Iff.rfl

theorem jsonLikePairs_iff {kvs : List (PyVal × PyVal)} : JsonLikePairs kvs ↔ ∀ p ∈ kvs, JsonKey p.1 ∧ JsonLike p.2 :=
  forall_mem_of_rec trivial fun _ _ => and_assoc.symm

theorem JsonKey.eq_scalar {k : PyVal} (h : JsonKey k) : ∃ mro s, k = .scalar mro s ∧ numOrStr mro = true := by
  cases k with
  | scalar mro s => exact ⟨mro, s, rfl, h⟩
  | _ => exact h.elim

theorem keyEqc_eq : keyEqc = valEqc := by
  funext v
  cases v <;> rfl

theorem jsonBuildList_eq_mapM (o : Opts) (xs : List PyVal) : jsonBuildList o xs = xs.mapM (jsonBuild o) := by
  induction xs with
  | nil => rfl
  | cons x xs ih => rw [jsonBuildList, ih, List.mapM_cons]

/-- what `json.build_tree` makes of one dict entry: `build_tree(k, force_leaf_node=True)` and the value's tree -/
def jsonItem (o : Opts) (p : PyVal × PyVal) : Except BErr (Tree × Tree) := do
  let kt ← (match jsonLeaf p.1.mro p.1.scalar? with
            | some r => r
            | Option.none => throw .valueError)
  let vt ← jsonBuild o p.2
  pure (kt, vt)

theorem jsonBuildPairs_eq_mapM (o : Opts) (kvs : List (PyVal × PyVal)) :
    jsonBuildPairs o kvs = kvs.mapM (jsonItem o) := by
  induction kvs with
  | nil => rfl
  | cons p kvs ih =>
    obtain ⟨k, v⟩ := p
    rw [jsonBuildPairs, ih, List.mapM_cons, jsonItem]
    simp only [bind_assoc, pure_bind]
    rfl

theorem jsonItem_ok {o : Opts} {p : PyVal × PyVal} {it : Tree × Tree} (h : jsonItem o p = .ok it) :
    (match jsonLeaf p.1.mro p.1.scalar? with
      | some r => r
      | Option.none => throw BErr.valueError) = .ok it.1 ∧ jsonBuild o p.2 = .ok it.2 := by
  obtain ⟨kt, hk, h⟩ := bind_ok.1 h
  obtain ⟨vt, hv, h⟩ := bind_ok.1 h
  cases h
  exact ⟨hk, hv⟩

theorem jsonItems_read (o : Opts) {kvs : List (PyVal × PyVal)} (hk : ∀ p ∈ kvs, JsonKey p.1)
    (hv : ∀ p ∈ kvs, ∃ t y, jsonBuild o p.2 = .ok t ∧ toObj t = .ok y ∧ ObjEquiv y (normalise p.2)) :
    ∃ items, kvs.mapM (jsonItem o) = .ok items ∧ Forall2 ItemOf items kvs := by
  obtain ⟨items, hitems, hq⟩ := mapM_ok_of_forall_exists (f := jsonItem o) (Q := fun p it => ItemOf it p)
    fun p hp => by
      obtain ⟨k, v⟩ := p
      obtain ⟨mro, s, rfl, hn⟩ := (hk _ hp).eq_scalar
      obtain ⟨c, hc, hl⟩ := jsonLeaf_numOrStr mro s hn
      obtain ⟨vt, y, hvt, hy, he⟩ := hv _ hp
      refine ⟨(.leaf c s true, vt), ?_, ⟨⟨c, s, true, rfl, fun h => absurd h hc⟩, rfl, s, rfl, rfl⟩, y, hy, he⟩
      simp only [jsonItem, PyVal.mro, PyVal.scalar?, hl, hvt]
      rfl
  exact ⟨items, hitems, hq.flip⟩

/-- the class of a scalar is the standard one for its kind (what `isinstance` answers in `json.build_tree`) -/
def StdScalarMro (mro : List String) (s : Scalar) : Prop :=
  match s.kind with
  | .int => "bool" ∉ mro ∧ "int" ∈ mro
  | .bool => "bool" ∈ mro
  | .float => "bool" ∉ mro ∧ "int" ∉ mro ∧ "float" ∈ mro
  | .str => "bool" ∉ mro ∧ "int" ∉ mro ∧ "float" ∉ mro ∧ "str" ∈ mro
  | .bytes => False
  | .none => "bool" ∉ mro ∧ "int" ∉ mro ∧ "float" ∉ mro ∧ "str" ∉ mro ∧ "bytes" ∉ mro

mutual
def JsonStd : PyVal → Prop
  | .scalar mro s => StdScalarMro mro s
  | .list _ xs => JsonStdList xs
  | .tuple _ xs => JsonStdList xs
  | .dict _ kvs => JsonStdPairs kvs
  | .set _ _ => True
  | .custom _ _ _ => True
def JsonStdList : List PyVal → Prop
  | [] => True
  | x :: xs => JsonStd x ∧ JsonStdList xs
def JsonStdPairs : List (PyVal × PyVal) → Prop
  | [] => True
  | (k, v) :: rest => JsonStd k ∧ JsonStd v ∧ JsonStdPairs rest
end

theorem jsonLeaf_std (mro : List String) (s : Scalar) (h : StdScalarMro mro s) (hk : s.kind ≠ .none) :
    jsonLeaf mro (some s) = some (.ok (scalarLeaf s)) := by
  unfold StdScalarMro at h
  unfold jsonLeaf scalarLeaf
  cases hkind : s.kind with
  | int => rw [hkind] at h; simp only at h; simp [h.1, h.2, pure, Except.pure]
  | bool => rw [hkind] at h; simp only at h; simp [h, pure, Except.pure]
  | float => rw [hkind] at h; simp only at h; simp [h.1, h.2.1, h.2.2, pure, Except.pure]
  | str => rw [hkind] at h; simp only at h; simp [h.1, h.2.1, h.2.2.1, h.2.2.2, pure, Except.pure]
  | bytes => rw [hkind] at h; exact h.elim
  | none => exact absurd hkind hk

theorem jsonBuild_scalar_std (o : Opts) (mro : List String) (s : Scalar) (h : StdScalarMro mro s) :
    jsonBuild o (.scalar mro s) = .ok (scalarLeaf s) := by
  by_cases hk : s.kind = .none
  · unfold StdScalarMro at h
    rw [hk] at h
    simp only at h
    simp only [jsonBuild]
    have : jsonLeaf mro (some s) = none := by
      unfold jsonLeaf
      simp [h.1, h.2.1, h.2.2.1, h.2.2.2.1, h.2.2.2.2]
    rw [this]
    simp [hk, scalarLeaf, pure, Except.pure]
  · simp only [jsonBuild, jsonLeaf_std mro s h hk]

theorem jsonStdList_iff {xs : List PyVal} : JsonStdList xs ↔ ∀ x ∈ xs, JsonStd x :=
  forall_mem_of_rec trivial fun _ _ => Iff.rfl

theorem jsonStdPairs_iff {kvs : List (PyVal × PyVal)} : JsonStdPairs kvs ↔ ∀ p ∈ kvs, JsonStd p.1 ∧ JsonStd p.2 :=
  forall_mem_of_rec trivial fun _ _ => and_assoc.symm

theorem jsonItems_eq_buildVal {o : Opts} {kvs : List (PyVal × PyVal)} {items : List (Tree × Tree)}
    (hitems : kvs.mapM (jsonItem o) = .ok items) (hk : ∀ p ∈ kvs, JsonKey p.1 ∧ JsonStd p.1)
    (hv : ∀ p ∈ kvs, ∀ t, jsonBuild o p.2 = .ok t → buildVal o p.2 = .ok t) :
    buildValKeys o kvs = .ok (items.map Prod.fst) ∧ buildValVals o kvs = .ok (items.map Prod.snd) := by
  have hf := mapM_ok_iff.1 hitems
  rw [buildValKeys_eq_mapM, buildValVals_eq_mapM]
  refine ⟨mapM_ok_iff.2 (Forall2.map_right _ (hf.imp fun p hp it _ h => ?_)),
    mapM_ok_iff.2 (Forall2.map_right _ (hf.imp fun p hp it _ h => hv p hp _ (jsonItem_ok h).2))⟩
  obtain ⟨k, v⟩ := p
  obtain ⟨mro, s, rfl, hn⟩ := (hk _ hp).1.eq_scalar
  have hstd : StdScalarMro mro s := (hk _ hp).2
  have hkind : s.kind ≠ .none := by
    intro hk0
    have h0 := hstd
    unfold StdScalarMro at h0
    rw [hk0] at h0
    simp [numOrStr, h0.1, h0.2.1, h0.2.2.1, h0.2.2.2.1] at hn
  have h1 := (jsonItem_ok h).1
  simp only [PyVal.mro, PyVal.scalar?, jsonLeaf_std mro s hstd hkind] at h1
  exact h1

theorem json_eq_buildVal (o : Opts) (v : PyVal) (hj : JsonLike v) (hs : JsonStd v) (t : Tree)
    (hb : jsonBuild o v = .ok t) : buildVal o v = .ok t := by
  induction v using PyVal.induct generalizing t with
  | scalar mro s => rw [jsonBuild_scalar_std o mro s hs] at hb; exact hb
  | list m xs ih =>
    rw [jsonBuild, jsonBuildList_eq_mapM] at hb
    obtain ⟨ts, hts, hb⟩ := bind_ok.1 hb
    rw [buildVal, buildValList_eq_mapM, mapM_ok_iff.2 ((mapM_ok_iff.1 hts).imp fun x hx t' _ h =>
      ih x hx (jsonLikeList_iff.1 hj x hx) (jsonStdList_iff.1 hs x hx) t' h)]
    exact hb
  | tuple m xs hl => exact hl hj hs t hb
  | dict m kvs ih =>
    rw [jsonBuild, jsonBuildPairs_eq_mapM] at hb
    obtain ⟨items, hitems, hb⟩ := bind_ok.1 hb
    have hjp := jsonLikePairs_iff.1 hj.1
    have hsp := jsonStdPairs_iff.1 hs
    obtain ⟨h1, h2⟩ := jsonItems_eq_buildVal hitems (fun p hp => ⟨(hjp p hp).1, (hsp p hp).1⟩)
      fun p hp => (ih p hp).2 (hjp p hp).2 (hsp p hp).2
    rw [buildVal, h1, h2]
    show buildDict o (items.map Prod.fst ++ items.map Prod.snd) = _
    rw [buildDict_append o (by rw [List.length_map, List.length_map]), ← List.unzip_fst, ← List.unzip_snd, List.zip_unzip]
    exact hb
  | set m xs _ => exact hj.elim
  | custom m cls attrs _ => exact hj.elim

end GtModel.C18
