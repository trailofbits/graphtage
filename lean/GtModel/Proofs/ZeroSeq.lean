/-
  Strings, leaves and sequences: `strEdits`, `leafEdits`, `fixedScript`, `edScript` have cost 0 only for equal
  operands (the table of child scripts is abstract: only "cell cost 0 ⇒ the two children are equal" is assumed).
-/
import GtModel.Proofs.EditsParts
import GtModel.Proofs.ZeroBasic
import GtModel.Proofs.ZeroLev

namespace GtModel
open GtModel.EditMatrix (sharedPrefixLen trimLens middle solve cellAt charCells ones solve_zero)

theorem strSubs_cost_zero (a b : Str) (h : (strSubs a b).2 = 0) : a = b := by
  simp only [strSubs] at h
  obtain ⟨hl, -, hc⟩ := solve_zero _ _ (charCells (middle a (trimLens a b)) (middle b (trimLens a b)))
    (EditMatrix.ones_pos _) (EditMatrix.ones_pos _) h
  simp only [ones, List.length_map] at hl hc
  refine (trim_forall₂ (fun _ _ e => by simpa using e) a b (.of_get hl.symm fun i h1 h2 => ?_)).eq
  have := hc i h1
  rw [EditMatrix.cellAt_charCells _ _ i i h2 h1] at this
  simpa [h1, h2] using this

theorem strEdits_cost_zero_iff (a b : Str) : (strEdits a b).cost = 0 ↔ a = b := by
  unfold strEdits
  by_cases h : a = b
  · simp [h]
  · have hb : (a == b) = false := by simpa using h
    simp only [hb, Bool.false_eq_true, if_false, h, iff_false]
    split
    · simp
    · simp only [Script.cost_mk]
      exact fun h0 => h (strSubs_cost_zero a b h0)

theorem leafLeaf_cost_zero_iff (a b : Scalar) : (leafLeaf a b).cost = 0 ↔ a.eq b = true := by
  simp only [leafLeaf, mkMatch_cost]
  constructor
  · intro h
    split at h
    · omega
    · rename_i hc
      simp only [h, beq_self_eq_true, Bool.true_and, Bool.not_eq_true'] at hc h
      simpa using hc
  · intro h
    have e : a = b := (Scalar.eq_iff a b).1 h
    subst e
    simp [lev_self, Scalar.eq_refl]

theorem leafEdits_cost_zero_iff (a : Scalar) (t : Tree) : (leafEdits a t).cost = 0 ↔ (Tree.leaf a).eq t = true := by
  cases t with
  | leaf b =>
    cases a <;> cases b <;>
      simp [leafEdits, Tree.eq, leafLeaf_cost_zero_iff, strEdits_cost_zero_iff, Scalar.eq]
  | _ => cases a <;> simp [leafEdits, Tree.eq]

theorem leafEdits_of_eq (a : Scalar) (t : Tree) (h : (Tree.leaf a).eq t = true) : leafEdits a t = mkMatch 0 := by
  cases t with
  | leaf b =>
    cases (Scalar.eq_iff a b).1 (by simpa only [Tree.eq] using h)
    cases a <;> simp [leafEdits, strEdits, leafLeaf, lev_self, Scalar.eq_refl]
  | _ => simp [Tree.eq] at h

theorem cellAt_tab (f : Nat → Nat → Nat) (m n r c : Nat) (hr : r < m) (hc : c < n) :
    cellAt ((List.range m).map fun r => (List.range n).map fun c => f r c) r c = f r c := by
  simp [cellAt, List.getD_eq_getElem?_getD, hr, hc]

/-- `FixedLengthSequenceEdit`, the costs only: positional pairs, then the surplus of the longer side, of which
    every member costs something -/
theorem fixed_sums_zero {m n : Nat} {pair rem ins : Nat → Nat}
    (h : ((List.range (Nat.min m n)).map pair).sum + ((List.range (m - Nat.min m n)).map rem).sum +
      ((List.range (n - Nat.min m n)).map ins).sum = 0)
    (hrem : ∀ k, 0 < rem k) (hins : ∀ k, 0 < ins k) : m = n ∧ ∀ i, i < m → pair i = 0 := by
  simp only [Nat.add_eq_zero_iff, List.sum_eq_zero_iff_forall_eq_nat, List.mem_map, List.mem_range,
    forall_exists_index, and_imp] at h
  obtain ⟨⟨hp, hr⟩, hi⟩ := h
  have hmin : Nat.min m n = min m n := rfl
  have h1 : ¬ 0 < m - Nat.min m n := fun h0 => Nat.ne_of_gt (hrem 0) (hr _ 0 h0 rfl)
  have h2 : ¬ 0 < n - Nat.min m n := fun h0 => Nat.ne_of_gt (hins 0) (hi _ 0 h0 rfl)
  rw [hmin] at h1 h2 hp
  exact ⟨by omega, fun i hi' => hp _ i (by omega) rfl⟩

/-- `EditDistance` over two sequences, trimmed as `solveTrimmed` does, with an abstract table of cell costs indexed
    by the untrimmed positions -/
theorem solve_trimmed_zero {α : Type} [BEq α] (d : α) (a b : List α) (rem ins : α → Nat) (cell : Nat → Nat → Nat)
    (hrem : ∀ x ∈ a, 0 < rem x) (hins : ∀ x ∈ b, 0 < ins x)
    (H : ∀ i j, i < a.length → j < b.length → cell i j = 0 → (a.getD i d == b.getD j d) = true)
    (h : (solve ((middle a (trimLens a b)).map rem) ((middle b (trimLens a b)).map ins)
      ((List.range (middle b (trimLens a b)).length).map fun r =>
        (List.range (middle a (trimLens a b)).length).map fun c =>
          cell (c + (trimLens a b).1) (r + (trimLens a b).1))).1 = 0) :
    a.length = b.length ∧ ∀ i, i < a.length → (a.getD i d == b.getD i d) = true := by
  obtain ⟨hl, -, hc⟩ := solve_zero _ _ _
    (fun x hx => by obtain ⟨c, hc, rfl⟩ := List.mem_map.1 hx; exact hrem c (mem_middle hc))
    (fun x hx => by obtain ⟨c, hc, rfl⟩ := List.mem_map.1 hx; exact hins c (mem_middle hc)) h
  simp only [List.length_map] at hl hc
  have la := trim_le_left a b
  have lb := trim_le_right a b
  refine trim_all d a b hl.symm fun i hi => ?_
  have hi2 : i < (middle b (trimLens a b)).length := hl ▸ hi
  have h0 := hc i hi
  rw [cellAt_tab (fun r c => cell (c + (trimLens a b).1) (r + (trimLens a b).1)) _ _ i i hi2 hi] at h0
  rw [middle_length] at hi hi2
  rw [middle_getD d a _ i hi, middle_getD d b _ i hi2]
  exact H _ _ (by omega) (by omega) h0

abbrev ZeroCells {α : Type} (fs ts : List α) (v : α → Tree) (tbl : List (List Script)) : Prop :=
  Cells (fun f t s => s.cost = 0 → f.eq t = true) fs ts v v tbl

theorem ZeroCells.getD {fcs tcs : List Tree} {tbl : List (List Script)} (H : ZeroCells fcs tcs id tbl) (i j : Nat)
    (hi : i < fcs.length) (hj : j < tcs.length) (hz : ((tbl.getD i []).getD j (mkMatch 0)).cost = 0) :
    (fcs.getD i dT).eq (tcs.getD j dT) = true := by
  rw [getD_eq_getElem _ _ hi, getD_eq_getElem _ _ hj]; exact H i j hi hj hz

theorem fixedScript_cost_zero (fcs tcs : List Tree) (tbl : List (List Script)) (H : ZeroCells fcs tcs id tbl)
    (h : (fixedScript fcs tcs tbl).cost = 0) : eqL fcs tcs = true := by
  simp only [fixedScript, mkCompound_cost, sumCosts_append] at h
  simp only [sumCosts, List.map_map] at h
  obtain ⟨hl, hp⟩ := fixed_sums_zero h (fun _ => Nat.succ_pos _) (fun _ => Nat.succ_pos _)
  exact (eqL_iff _ _).2 ⟨hl, fun i hi => H.getD i i hi (hl ▸ hi) (hp i hi)⟩

theorem edScript_cost_zero (fcs tcs : List Tree) (pen : Nat) (tbl : List (List Script))
    (hpf : ∀ c ∈ fcs, 0 < c.size + pen) (hpt : ∀ c ∈ tcs, 0 < c.size + pen) (H : ZeroCells fcs tcs id tbl)
    (h : (edScript fcs tcs pen tbl).cost = 0) : eqL fcs tcs = true :=
  (eqL_iff _ _).2 (solve_trimmed_zero dT fcs tcs _ _ (fun i j => ((tbl.getD i []).getD j (mkMatch 0)).cost) hpf hpt H.getD h)

end GtModel
