/- `IterativeTighteningSearch`: every piece of `tighten_bounds()` keeps the invariant and does not widen `bounds()`;
   the state `search()` ends in; states reachable by `tighten_bounds()` calls. -/
import GtModel.Proofs.SearchLemmas
import GtModel.Proofs.SearchBounds

namespace GtModel.Bounded
open GtModel

variable {fs : List Int} {s s' : SS}

/-- the relation between the states before and after a piece of `tighten_bounds()`; `Step.mono` turns it into
"`bounds()` did not widen" -/
structure Step (fs : List Int) (s s' : SS) : Prop where
  inv : SInv fs s'
  unproc : s'.unproc = s.unproc
  lb : LbUp s s'
  hi : HiDown s s'

theorem Step.refl (h : SInv fs s) : Step fs s s := ⟨h, rfl, .refl s, .refl s⟩

theorem Step.trans {a b c : SS} (h1 : Step fs a b) (h2 : Step fs b c) : Step fs a c :=
  ⟨h2.inv, h2.unproc.trans h1.unproc, h1.lb.trans h2.lb, h1.hi.trans h2.hi⟩

theorem Step.mono (h : SInv fs s) (st : Step fs s s') : Mono s s' :=
  mono_of h st.inv (fun h0 => st.unproc.trans h0) st.lb st.hi

/-- how the pieces that tighten the item of `_untightened`'s minimum establish `Step` -/
theorem Step.of_min (h : SInv fs s) (inv' : SInv fs s') (hun : s'.unproc = s.unproc)
    {node : HEntry} {a a' : Item} (hm : s.u.min = some node) (tt : Tightened s.σ node a a')
    (hnodes : ∀ e', Node s' e' → Node s e' ∨ e'.key = a'.cur) (ht : ∀ e ∈ s.t.es, e ∈ s'.t.es)
    (hcand : CandBelow s' a'.cur.hi) : Step fs s s' := by
  refine ⟨inv', hun, fun e' he' => ?_, ?_⟩
  · rcases hnodes e' he' with h' | h'
    · exact ⟨e', h', Bound.le_refl _⟩
    · exact ⟨node, .inl (h.uHeap.min_mem hm), h' ▸ tt.keyLo⟩
  · rintro m am (hmu | hmt) ham'
    · rw [hm] at hmu; cases hmu; rw [tt.old] at ham'; cases ham'
      exact hcand.mono tt.hi
    · -- a tightened candidate: its node is still there, and bounds the new minimum of `_tightened`
      obtain ⟨memt, _⟩ := h.tHeap.isMin m hmt
      obtain ⟨a0, ha0, _, hk⟩ := h.tOK m memt
      rw [ham'] at ha0; cases ha0
      exact hk ▸ node_cand inv'.toSCore (.inr (ht m memt))

/-- the node stays with its stale key: possible as long as the item is not finished -/
theorem keep_step (h : SInv fs s) {node : HEntry} {a a' : Item} (hm : s.u.min = some node)
    (tt : Tightened s.σ node a a') (hdef : ¬ a'.cur.definitive = true) :
    Step fs s { s with σ := (tightenAt s.σ node.item).2 } := by
  obtain ⟨n', _, va'⟩ := (h.valid.tightenAt node.item).get tt.new
  have c1 : SCore fs { s with σ := (tightenAt s.σ node.item).2 } :=
    h.tighten node.item rfl rfl rfl rfl h.uHeap h.tHeap (List.Sublist.refl _) (fun _ h => h) fun e he hx => by
      by_cases hen : e = node
      · rw [hen]; exact ⟨a', tt.new, fun hr => hdef (va'.definitive_iff.mpr hr), tt.keyLo, tt.keyHi⟩
      · exact absurd hx (erase_item_ne h.uNodup (h.uHeap.min_mem hm) e ((List.mem_erase_of_ne hen).mpr he))
  exact Step.of_min h (h.of_core c1 fun i ho hal => ⟨i, ho, hal⟩) rfl hm tt (fun _ he => .inl he) (fun _ he => he)
    ⟨node, a', .inl hm, tt.new, Bound.le_refl _⟩

/-- `s3` is `s` with the item of `node` tightened and the node taken out of `_untightened` -/
structure Removed (s s3 : SS) (node : HEntry) : Prop where
  u : s3.u.es = s.u.es.erase node
  uHeap : HeapOK s3.u
  t : s3.t = s.t
  σ : s3.σ = (tightenAt s.σ node.item).2
  unproc : s3.unproc = s.unproc
  ib : s3.ib = s.ib
  unsupported : s3.unsupported = s.unsupported

theorem popNode_removed (sel : Sel) (s : SS) (node : HEntry) :
    Removed s (popNode sel { s with σ := (tightenAt s.σ node.item).2 } false node) node :=
  ⟨rfl, newMinOf_ok _ _, rfl, rfl, rfl, rfl, rfl⟩

theorem Removed.core {s s3 : SS} {node : HEntry} (rm : Removed s s3 node) (hc : SCore fs s)
    (mem : node ∈ s.u.es) : SCore fs s3 :=
  hc.tighten node.item rm.σ rm.unproc rm.ib rm.unsupported rm.uHeap (rm.t ▸ hc.tHeap) (rm.u ▸ List.erase_sublist)
    (fun _ he => rm.t ▸ he) fun e he hx => absurd hx (erase_item_ne hc.uNodup mem e (rm.u ▸ he))

theorem Removed.node {s s3 : SS} {node e : HEntry} (rm : Removed s s3 node) (he : Node s3 e) : Node s e :=
  he.imp (fun h => List.mem_of_mem_erase (rm.u ▸ h)) fun h => rm.t ▸ h

theorem Removed.alive {s s3 : SS} {node : HEntry} (rm : Removed s s3 node) {i : Nat} (hi : i ≠ node.item)
    (hal : AliveIdx s i) : AliveIdx s3 i := by
  rcases hal with hl | ⟨e, he | he, hei⟩
  · exact .inl (rm.unproc ▸ hl)
  · exact .inr ⟨e, .inl (rm.u ▸ (List.mem_erase_of_ne fun h0 => hi (by rw [← hei, h0])).mpr he), hei⟩
  · exact .inr ⟨e, .inr (rm.t ▸ he), hei⟩

/-- the tightened item is filed again, as a node `enew` with a fresh key -/
theorem move_step {s s3 s4 : SS} (h : SInv fs s) {node enew : HEntry} {a a' : Item} (hm : s.u.min = some node)
    (tt : Tightened s.σ node a a') (rm : Removed s s3 node) (c4 : SCore fs s4) (hun : s4.unproc = s3.unproc)
    (hi : enew.item = node.item) (hk : enew.key = a'.cur) (hnodes : ∀ e, Node s4 e ↔ Node s3 e ∨ e = enew)
    (ht : ∀ e ∈ s3.t.es, e ∈ s4.t.es) : Step fs s s4 := by
  have hnew : Node s4 enew := (hnodes enew).mpr (.inr rfl)
  refine Step.of_min h (h.of_core c4 fun i ho hal => ⟨i, ho, ?_⟩) (hun.trans rm.unproc) hm tt (fun e' he' => ?_)
    (fun e he => ht e (rm.t ▸ he)) (hk ▸ node_cand c4 hnew)
  · by_cases hin : i = node.item
    · exact .inr ⟨enew, hnew, hin ▸ hi⟩
    · exact (rm.alive hin hal).imp (fun ⟨l, hl, hil⟩ => ⟨l, hun ▸ hl, hil⟩)
        fun ⟨e, he, hei⟩ => ⟨e, (hnodes e).mpr (.inl he), hei⟩
  · exact ((hnodes e').mp he').imp rm.node fun h => by rw [h, hk]

/-- the item became definitive: its node moves to `_tightened` -/
theorem moveT_step {s s3 : SS} (h : SInv fs s) {node : HEntry} {a a' : Item} (hm : s.u.min = some node)
    (tt : Tightened s.σ node a a') (rm : Removed s s3 node) (hdef : a'.cur.definitive = true) :
    Step fs s (pushT s3 node.item) := by
  obtain ⟨n', _, va'⟩ := (h.valid.tightenAt node.item).get tt.new
  have ha3 : s3.σ[node.item]? = some a' := rm.σ ▸ tt.new
  have c4 := (rm.core h.toSCore (h.uHeap.min_mem hm)).pushT ha3 (va'.definitive hdef).2
  rw [pushT_eq (curAt_of_get ha3)] at c4 ⊢
  exact move_step (enew := ⟨s3.next, node.item, a'.cur⟩) h hm tt rm c4 rfl rfl rfl
    (fun e => (or_congr_right mem_push).trans or_assoc.symm)
    fun e he => mem_push.mpr (.inl he)

/-- the lower bound increased: the item is pushed to `_untightened` again, with a fresh key -/
theorem moveU_step {s s3 : SS} (h : SInv fs s) {node : HEntry} {a a' : Item} (hm : s.u.min = some node)
    (tt : Tightened s.σ node a a') (rm : Removed s s3 node) (hdef : ¬ a'.cur.definitive = true) :
    Step fs s (pushU s3 node.item) := by
  have mem := h.uHeap.min_mem hm
  obtain ⟨n', _, va'⟩ := (h.valid.tightenAt node.item).get tt.new
  have ha3 : s3.σ[node.item]? = some a' := rm.σ ▸ tt.new
  have c4 := (rm.core h.toSCore mem).pushU ha3 (fun hr => hdef (va'.definitive_iff.mpr hr))
    (fun e he => erase_item_ne h.uNodup mem e (rm.u ▸ he))
    (fun l hl hk => ((h.pend l (rm.unproc ▸ hl)).2 _ hk).2 node mem rfl)
  rw [pushU_eq (curAt_of_get ha3)] at c4 ⊢
  exact move_step (enew := ⟨s3.next, node.item, a'.cur⟩) h hm tt rm c4 rfl rfl rfl
    (fun e => (or_congr_left mem_push).trans or_right_comm) fun _ he => he

theorem intake_inv (h : SInv fs s) : (intake s).1 = none ∧ SInv fs (intake s).2 := by
  unfold intake
  split
  · exact ⟨rfl, h⟩
  · rename_i hun
    refine ⟨rfl, h.of_core { h.toSCore with pend := fun l hl => nomatch hl } fun i ho hal =>
      ⟨i, ho, hal.imp (fun ⟨l, hl, hi⟩ => ?_) id⟩⟩
    rw [hun] at hl; cases hl; cases hi
  · rename_i k ks hun
    obtain ⟨nd, rest⟩ := h.pend _ hun
    obtain ⟨hk, hku⟩ := rest k (List.mem_cons_self ..)
    have gk := List.getElem?_eq_getElem hk
    have nd' := List.nodup_cons.mp nd
    rw [curAt_of_get gk]
    dsimp only
    rw [show (Bound.lt .negInf s.ib.lo && Bound.le s.σ[k].cur.hi s.ib.lo) = false by rw [h.ib]; rfl]
    rw [if_neg Bool.false_ne_true]
    have core0 : SCore fs { s with unproc := some ks } :=
      { h.toSCore with pend := fun l hl => by cases hl; exact ⟨nd'.2, fun k' hk' => rest k' (List.mem_cons_of_mem _ hk')⟩ }
    obtain ⟨c, keep, shape⟩ := core0.pushByDef gk hku (fun l hl => by cases hl; exact nd'.1)
    have sm := pushByDef_same { s with unproc := some ks } k
    refine ⟨rfl, h.of_core c fun i ho hal => ⟨i, ho, ?_⟩⟩
    rcases hal with ⟨l, hl, hi⟩ | ⟨e, he, hi⟩
    · rw [hun] at hl; cases hl
      rcases List.mem_cons.mp hi with rfl | hi
      · refine .inr ⟨⟨s.next, i, s.σ[i].cur⟩, ?_, rfl⟩
        rcases shape with ⟨_, e, _⟩ | ⟨_, e, _⟩
        · exact .inr (e ▸ List.mem_append_right _ (List.mem_singleton_self _))
        · exact .inl (e ▸ List.mem_append_right _ (List.mem_singleton_self _))
      · exact .inl ⟨ks, sm.2, hi⟩
    · exact .inr ⟨e, keep e he, hi⟩

theorem lenOne_step (h : SInv fs s) : Step fs s (lenOne s) := by
  unfold lenOne
  refine ite_ind (P := Step fs s) (fun hlen => ?_) fun _ => Step.refl h
  obtain ⟨m, hes⟩ := List.length_eq_one_iff.mp (by simpa using hlen)
  have mem : m ∈ s.u.es := by rw [hes]; exact List.mem_singleton_self m
  have hmin : s.u.min = some m := by
    cases hmin : s.u.min with
    | none => rw [h.uHeap.es_nil hmin] at mem; cases mem
    | some m' => have := h.uHeap.min_mem hmin; rw [hes, List.mem_singleton] at this; rw [this]
  obtain ⟨a, a', tt⟩ := (h.uOK m mem).tightenAt_self h.valid
  rw [peek_eq, hmin]
  dsimp only [Option.map_some]
  rw [curAt_of_get tt.new]
  simp only [tt.ok, Bool.true_and]
  exact ite_ind (P := Step fs s)
    (moveT_step h hmin tt ⟨by rw [hes, List.erase_cons_head]; rfl, HeapOK.empty, rfl, rfl, rfl, rfl, rfl⟩)
    (keep_step h hmin tt)

/-- the goal branch: everything but the best match is dropped, the best match is tightened once and re-pushed -/
theorem goal_step {s1 : SS} (h : SInv fs s1) (hg : goalTest s1 = true) {best : Nat}
    (hb : bestMatch s1 = some best) :
    Step fs s1 (pushByDef { s1 with σ := (tightenAt s1.σ best).2, u := Heap.empty, t := Heap.empty } best) ∧
    s1.unproc = none ∧
    ((tightenAt s1.σ best).1 = false →
      (pushByDef { s1 with σ := (tightenAt s1.σ best).2, u := Heap.empty, t := Heap.empty } best).u.es = []) := by
  obtain ⟨best', bb, hun, hb', hbb, hd⟩ := goalTest_facts hg
  rw [hb] at hb'; cases hb'
  have hopt := goal_opt h hun hb hbb hd
  obtain ⟨_, m0, hm0, _⟩ := bestMatch_cand h.uHeap h.tHeap hb
  obtain ⟨mb, ab, cmb, hbm, hab, hA⟩ := best_hi h.toSCore hun hm0
  rw [hb, Option.some.injEq] at hbm
  subst hbm
  obtain ⟨a', ha', r1, r2⟩ := tightenAt_rel_any h.valid hab
  obtain ⟨_, _, hab2, _, _, _, klo⟩ := h.node_final (cmb.node h.toSCore)
  rw [hab] at hab2; cases hab2
  have c0 : SCore fs { s1 with σ := (tightenAt s1.σ mb.item).2, u := Heap.empty, t := Heap.empty } :=
    h.tighten mb.item rfl rfl rfl rfl HeapOK.empty HeapOK.empty (List.nil_sublist _) (fun _ h => nomatch h)
      (fun _ h => nomatch h)
  obtain ⟨c1, _, shape⟩ := c0.pushByDef ha' (fun _ h => nomatch h)
    (fun l hl => by rw [show s1.unproc = none from hun] at hl; cases hl)
  have sm := pushByDef_same { s1 with σ := (tightenAt s1.σ mb.item).2, u := Heap.empty, t := Heap.empty } mb.item
  generalize pushByDef { s1 with σ := (tightenAt s1.σ mb.item).2, u := Heap.empty, t := Heap.empty } mb.item = s'
    at *
  -- the re-pushed best match is the only node
  have nodes : Node s' ⟨s1.next, mb.item, a'.cur⟩ ∧ ∀ e, Node s' e → e = ⟨s1.next, mb.item, a'.cur⟩ := by
    rcases shape with ⟨eu, et, _⟩ | ⟨et, eu, _⟩ <;> unfold Node <;> rw [eu, et]
    · exact ⟨.inr (List.mem_singleton_self _), fun e he => he.elim (fun h => nomatch h) List.mem_singleton.mp⟩
    · exact ⟨.inl (List.mem_singleton_self _), fun e he => he.elim List.mem_singleton.mp fun h => nomatch h⟩
  refine ⟨⟨h.of_core c1 fun _ _ _ => ⟨mb.item, hopt, .inr ⟨_, nodes.1, rfl⟩⟩, sm.2, ?_, ?_⟩, hun, fun hf => ?_⟩
  · intro e' he'
    rw [nodes.2 e' he']
    exact ⟨mb, cmb.node h.toSCore, Bound.le_trans klo r2⟩
  · intro m am hm ham
    exact (node_cand c1 nodes.1).mono (Bound.le_trans r1 (hA m am hm ham))
  · obtain ⟨_, ha'', hr', _⟩ := rest_nil_tightenAt mb.item hab (tightenAt_false_rest hab hf)
    rw [ha'] at ha''; cases ha''
    rcases shape with ⟨eu, _, _⟩ | ⟨_, _, hr⟩
    · exact eu
    · exact absurd hr' hr

theorem forloop_step (sel : Sel) {s1 : SS} (h : SInv fs s1) {node : HEntry}
    (hm : s1.u.min = some node) :
    (tightenAt s1.σ node.item).1 = true ∧
    Step fs s1 (updateBounds sel { s1 with σ := (tightenAt s1.σ node.item).2 } node) := by
  have mem := h.uHeap.min_mem hm
  obtain ⟨a, a', tt⟩ := (h.uOK node mem).tightenAt_self h.valid
  refine ⟨tt.ok, ?_⟩
  have valid' := h.valid.tightenAt node.item
  obtain ⟨n', hn', va'⟩ := valid'.get tt.new
  have rm := popNode_removed sel s1 node
  unfold updateBounds
  rw [show curAt ({ s1 with σ := (tightenAt s1.σ node.item).2 } : SS).σ node.item = some a'.cur from
    curAt_of_get tt.new]
  dsimp only
  generalize popNode sel { s1 with σ := (tightenAt s1.σ node.item).2 } false node = s3 at rm ⊢
  have c3 := rm.core h.toSCore mem
  have t3 : ∀ e ∈ s1.t.es, e ∈ s3.t.es := fun e he => rm.t ▸ he
  refine ite_ind (P := Step fs s1) (fun hdom => ?_) fun _ => ite_ind (fun hib => ?_) fun _ =>
    ite_ind (moveT_step h hm tt rm) fun hdef => ite_ind (fun _ => moveU_step h hm tt rm hdef) fun _ =>
      keep_step h hm tt hdef
  · -- dominated by the best match, which is the minimum of `_tightened`: the node is deleted
    obtain ⟨bm, bb, hbm, hbne, hbb, hbd⟩ := dominatedByBest_facts hdom
    obtain ⟨_, m2, hm2, hmi⟩ :=
      bestMatch_cand (s := { s1 with σ := (tightenAt s1.σ node.item).2 }) h.uHeap h.tHeap hbm
    have hmt : s1.t.min = some m2 := hm2.resolve_left fun hmu => by
      rw [show s1.u.min = some m2 from hmu] at hm; cases hm; exact hbne hmi.symm
    obtain ⟨memt, _⟩ := h.tHeap.isMin m2 hmt
    obtain ⟨am, ham2, _, _⟩ := (h.tOK m2 memt).tightenAt node.item
    obtain ⟨nm, hnm, vam⟩ := valid'.get ham2
    rw [hmi] at ham2 hnm
    rw [curAt_of_get ham2] at hbb; cases hbb
    refine Step.of_min h (h.of_core c3 fun i ho hal => ?_) rm.unproc hm tt (fun e' he' => .inl (rm.node he')) t3
      ⟨m2, am, .inr (rm.t ▸ hmt), by rw [rm.σ, hmi]; exact ham2,
        Bound.le_trans hbd (Bound.le_trans va'.contains.1 va'.contains.2)⟩
    by_cases hi : i = node.item
    · -- the deleted node was optimal: then so is the best match, which stays
      obtain ⟨ni, hni, hmin⟩ := ho
      rw [hi, hn'] at hni; cases hni
      exact ⟨bm, ⟨nm, hnm, fun k nk hk => Int.le_trans (dom_final vam va' hbd) (hmin k nk hk)⟩,
        .inr ⟨m2, .inr (t3 m2 memt), hmi⟩⟩
    · exact ⟨i, ho, rm.alive hi hal⟩
  · -- `initial_bounds.dominates`: impossible with the default bounds
    rw [show ({ s1 with σ := (tightenAt s1.σ node.item).2 } : SS).ib = ⟨.negInf, .posInf⟩ from h.ib] at hib
    cases Bound.le_trans hib va'.contains.1

theorem final_facts (h : SInv fs s) (hun : s.unproc = none) (hu : s.u.es = [])
    (hne : fs ≠ []) :
    ∃ m nm, s.t.min = some m ∧ bestMatch s = some m.item ∧ fs[m.item]? = some nm ∧ OptIdx fs m.item ∧
      boundsOf s = Range.point nm ∧ goalTest s = true := by
  obtain ⟨i, ⟨ni, hni, hmin⟩, hal⟩ := h.alive hne
  obtain ⟨ei, hei, heii⟩ := hal.node hun
  have hei : ei ∈ s.t.es := hei.resolve_left fun h0 => by rw [hu] at h0; cases h0
  cases hmt : s.t.min with
  | none => rw [h.tHeap.es_nil hmt] at hei; cases hei
  | some m =>
    obtain ⟨memt, mn⟩ := h.tHeap.isMin m hmt
    -- every tightened node's key is the final point of its item
    have pt : ∀ e ∈ s.t.es, ∃ a n, s.σ[e.item]? = some a ∧ fs[e.item]? = some n ∧ e.key = Range.point n ∧
        a.cur = Range.point n := fun e he => by
      obtain ⟨a, hae, hr, hk⟩ := h.tOK e he
      obtain ⟨n, hn, va⟩ := h.valid.get hae
      exact ⟨a, n, hae, hn, hk ▸ va.last hr, va.last hr⟩
    obtain ⟨am, nm, ham, hnm, hkm, hcm⟩ := pt m memt
    have below : ∀ e ∈ s.t.es, ∀ n, fs[e.item]? = some n → nm ≤ n := fun e he n hn => by
      obtain ⟨_, n2, _, hn2, hk2, _⟩ := pt e he
      rw [hn] at hn2; cases hn2
      have := Range.hi_le_of_not_lt (mn e he)
      rw [hkm, hk2] at this
      exact Bound.fin_le_fin.mp this
    have hopt : OptIdx fs m.item :=
      ⟨nm, hnm, fun k nk hk => Int.le_trans (below ei hei ni (heii ▸ hni)) (hmin k nk hk)⟩
    have hbm : bestMatch s = some m.item := by
      rw [bestMatch_eq h.uHeap h.tHeap hun, hmt]
      cases hmu : s.u.min with
      | none => rfl
      | some mu => have := h.uHeap.min_mem hmu; rw [hu] at this; cases this
    have hlb : lbOf s = .fin nm := by
      rw [h.lb_eq (.inr memt), staleLb_eq, hu, List.nil_append]
      obtain ⟨_, f2, f4⟩ := foldLb_spec s.t.es .posInf
      refine Bound.le_antisymm (by have := f2 m memt; rwa [hkm] at this) (f4 (.fin nm) (Bound.le_posInf _) fun e he => ?_)
      obtain ⟨_, n2, _, hn2, hk2, _⟩ := pt e he
      rw [hk2]
      exact Bound.fin_le_fin.mpr (below e he n2 hn2)
    have hb : boundsOf s = Range.point nm := by
      rw [boundsOf_some hbm ham, hlb, hcm]
      simp [Range.point, Bound.min', Bound.lt_irrefl]
    refine ⟨m, nm, rfl, hbm, hnm, hopt, hb, ?_⟩
    unfold goalTest
    rw [hun, hbm]
    simp only [Option.isSome_none, Bool.false_eq_true, ↓reduceIte]
    rw [curAt_of_get ham, hb, hcm]
    exact Bound.le_refl _

theorem tbFin_st (start : Range) (s : SS) (tg : Bool) : (tbFin start s tg).st = s := by
  rcases tbFin_cases start s tg with ⟨_, e⟩ | ⟨_, _, _, e⟩ | ⟨_, _, e⟩ <;> rw [e] <;> rfl

theorem tbFin_false {start : Range} {tg : Bool} (h : tbFin start s tg = .ret false s') :
    s' = s ∧ s.unproc = none ∧ tg = false := by
  rcases tbFin_cases start s tg with ⟨_, e⟩ | ⟨_, hu, ht, e⟩ | ⟨_, _, e⟩ <;> rw [e] at h <;> cases h
  exact ⟨rfl, hu, ht⟩

theorem tbBody_step (sel : Sel) (start : Range) (h : SInv fs s) :
    Step fs s (tbBody sel start s).st ∧
    (∀ s', tbBody sel start s = .ret false s' → s'.unproc = none ∧ s'.u.es = []) := by
  rcases tbBody_cases sel start s with ⟨hemp, e⟩ | ⟨s1, hemp, hs1, hcase⟩
  · rw [e, tbFin_st]
    refine ⟨Step.refl h, fun s' hs' => ?_⟩
    obtain ⟨rfl, hun, _⟩ := tbFin_false hs'
    exact ⟨hun, List.isEmpty_iff.mp hemp⟩
  · have st1 : Step fs s s1 := by
      rw [← hs1]; split
      · exact lenOne_step h
      · exact Step.refl h
    rcases hcase with ⟨best, hgoal, hb, e⟩ | ⟨node, _, hm, _, e⟩ | ⟨hgoal, hb, _⟩ | ⟨hgoal, hm, _⟩ | ⟨node, _, hm, ht, _⟩
    · rw [e]
      obtain ⟨g1, g2, g3⟩ := goal_step st1.inv (Bool.and_eq_true _ _ ▸ hgoal).2 hb
      refine ⟨st1.trans g1, fun s' hs' => ?_⟩
      simp only [StepRes.ret.injEq] at hs'
      obtain ⟨hf, rfl⟩ := hs'
      exact ⟨g1.unproc.trans g2, g3 hf⟩
    · rw [e, tbFin_st]
      exact ⟨st1.trans (forloop_step sel st1.inv hm).2, fun s' hs' => nomatch (tbFin_false hs').2.2⟩
    · obtain ⟨_, _, _, hb', _, _⟩ := goalTest_facts (Bool.and_eq_true _ _ ▸ hgoal).2
      rw [hb] at hb'; cases hb'
    · -- `_untightened` cannot have become empty: the goal test would hold
      exfalso
      have hu1 : s1.u.es = [] := st1.inv.uHeap.es_nil hm
      have hun : s.unproc = none := by
        cases hu : s.unproc with
        | none => rfl
        | some l =>
          simp only [hu, Option.isNone_some, Bool.false_eq_true, ↓reduceIte] at hs1; subst hs1
          exact absurd (h.uHeap.isEmpty_iff.mpr hm) hemp
      have hne : fs ≠ [] := fun h0 => by
        cases hes : s.u.es with
        | nil => exact hemp (List.isEmpty_iff.mpr hes)
        | cons e0 _ =>
          obtain ⟨a, ha, _⟩ := h.uOK e0 (hes ▸ List.mem_cons_self ..)
          obtain ⟨n, hn, _⟩ := h.valid.get ha
          rw [h0] at hn; cases hn
      obtain ⟨_, _, _, _, _, _, _, hg⟩ := final_facts st1.inv (st1.unproc.trans hun) hu1 hne
      exact hgoal (by rw [hun, hg]; rfl)
    · exact absurd (forloop_step sel st1.inv hm).1 ht

theorem tbIter_step (sel : Sel) (start : Range) (h : SInv fs s) :
    SInv fs (tbIter sel start s).st ∧ Mono s (tbIter sel start s).st ∧
    (∀ s', tbIter sel start s = .ret false s' → s'.unproc = none ∧ s'.u.es = []) := by
  obtain ⟨i1, i2⟩ := intake_inv h
  have e : tbIter sel start s = tbBody sel start (intake s).2 := by
    unfold tbIter
    generalize intake s = p at i1
    obtain ⟨ob, s1⟩ := p
    cases i1; rfl
  rw [e]
  obtain ⟨st, hf⟩ := tbBody_step sel start i2
  refine ⟨st.inv, ?_, hf⟩
  cases hu : s.unproc with
  | some l => exact mono_of_no_best h.toSCore (bestMatch_pending hu) _
  | none => rw [intake_none hu] at st ⊢; exact st.mono h

theorem tbLoop_step (sel : Sel) (start : Range) : ∀ (f : Nat) (s : SS) (b : Bool) (s' : SS),
    SInv fs s → tbLoop sel start f s = some (b, s') →
    SInv fs s' ∧ Mono s s' ∧ (b = false → s'.unproc = none ∧ s'.u.es = [])
  | 0, _, _, _, _, h => nomatch h
  | f + 1, s, b, s', inv, h => by
    obtain ⟨a1, a2, a3⟩ := tbIter_step sel start inv
    unfold tbLoop at h
    cases hres : tbIter sel start s with
    | ret b1 s1 =>
      rw [hres] at h a1 a2
      cases h
      exact ⟨a1, a2, fun hb => a3 _ (hb ▸ hres)⟩
    | cont s1 =>
      rw [hres] at h a1 a2
      obtain ⟨b1, b2, b3⟩ := tbLoop_step sel start f s1 b s' a1 h
      exact ⟨b1, a2.trans b2, b3⟩

theorem tightenBounds_step (sel : Sel) {b : Bool} {s' : SS} (h : SInv fs s)
    (ht : tightenBounds sel s = some (b, s')) :
    SInv fs s' ∧ Mono s s' ∧ (b = false → s'.unproc = none ∧ s'.u.es = []) :=
  tbLoop_step sel _ _ s b s' h ht

theorem searchLoop_inv (sel : Sel) (f : Nat) (s s' : SS) (inv : SInv fs s) (h : searchLoop sel f s = some s') :
    SInv fs s' ∧ s'.unproc = none ∧ s'.u.es = [] :=
  searchLoop_ind (P := fun s s' => SInv fs s → SInv fs s' ∧ s'.unproc = none ∧ s'.u.es = [])
    (fun ht inv => let ⟨inv1, _, hf⟩ := tightenBounds_step sel inv ht; ⟨inv1, hf rfl⟩)
    (fun ht ih inv => ih (tightenBounds_step sel inv ht).1) f s s' h inv

theorem search_result {σ : St} (hv : ValidSt σ fs) (sel : Sel) {s' : SS}
    (h : search sel (SS.init σ ⟨.negInf, .posInf⟩) = some s') :
    SInv fs s' ∧ s'.unproc = none ∧ s'.u.es = [] :=
  searchLoop_inv sel _ _ s' (SInv.init hv) h

/-- nothing to search: no heap ever gets a node -/
theorem bestMatch_none_of_nil (h : SInv fs s) (hfs : fs = []) : bestMatch s = none := by
  cases hb : bestMatch s with
  | none => rfl
  | some b =>
    obtain ⟨_, m, hm, _⟩ := bestMatch_cand h.uHeap h.tHeap hb
    obtain ⟨_, n, _, hn, _⟩ := h.node_final (hm.node h.toSCore)
    rw [hfs] at hn; cases hn

inductive SReach (sel : Sel) : SS → SS → Prop
  | refl (s : SS) : SReach sel s s
  | step {s s1 s' : SS} {b : Bool} : tightenBounds sel s = some (b, s1) → SReach sel s1 s' → SReach sel s s'

theorem SReach.inv {sel : Sel} (hr : SReach sel s s') (h : SInv fs s) : SInv fs s' := by
  induction hr with
  | refl => exact h
  | step ht _ ih => exact ih (tightenBounds_step sel h ht).1

theorem SReach.mono {sel : Sel} (hr : SReach sel s s') (h : SInv fs s) : Mono s s' := by
  induction hr with
  | refl => exact Mono.refl _
  | step ht _ ih =>
    obtain ⟨h1, m, _⟩ := tightenBounds_step sel h ht
    exact m.trans (ih h1)

theorem searchLoop_reach (sel : Sel) : ∀ (f : Nat) (s s' : SS), searchLoop sel f s = some s' → SReach sel s s' :=
  searchLoop_ind (fun ht => .step ht (.refl _)) fun ht ih => .step ht ih

end GtModel.Bounded
