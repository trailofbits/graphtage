/-
  `print_StringEdit`: the projections of a rendered string edit are the quoted, escaped characters the script keeps
  on that side.
-/
import GtModel.Proofs.RenderPlain

namespace GtModel.Render
open GtModel

theorem escStr_append (a b : Str) : escStr (a ++ b) = escStr a ++ escStr b := by simp [escStr]
theorem escStr_single (c : Nat) : escStr [c] = escChar c := by simp [escStr]
theorem escStr_nil : escStr [] = [] := rfl

/-- the character a sub-edit contributes to the first (`side = true`) / second string -/
def CharEd.side (side : Bool) : CharEd → Option Nat
  | .keep c => some c
  | .sub r d => some (if side then r else d)
  | .rem r => if side then some r else none
  | .ins d => if side then none else some d

/-- what this side reads of the state once the pending buffers are flushed (`proj_flushSt`) -/
def stVal (side : Bool) (st : StrSt) : Str :=
  proj (keepS side) st.out ++ escStr (if side then st.remSeq else st.addSeq)

theorem proj_flushSt (side : Bool) (st : StrSt) : proj (keepS side) (flushSt st) = stVal side st := by
  cases side <;> simp [flushSt, stVal, proj_append, proj_mk, keepS, keepFrom, keepTo]

theorem stVal_step (side : Bool) (st : StrSt) (e : CharEd) :
    stVal side (strStepC st e) = stVal side st ++ escStr (e.side side).toList := by
  cases e <;> cases side <;>
    simp [strStepC, stVal, proj_append, proj_flushSt, proj_mk, CharEd.side, escStr_append, escStr_single, escStr_nil]

/-- every sub-edit of the string edit names existing characters -/
def StrResolved (a b : Str) (subs : List Script) : Prop := ∀ s ∈ subs, ∃ e, classifyChar a b s = some e

/-- the characters one side keeps, in script order -/
def sideChars (side : Bool) (a b : Str) (subs : List Script) : Str :=
  subs.filterMap fun s => (classifyChar a b s).bind (CharEd.side side)

theorem foldl_strStep (a b : Str) (subs : List Script) (h : StrResolved a b subs) (st : StrSt) :
    subs.foldl (strStep a b) (some st) = some ((subs.filterMap (classifyChar a b)).foldl strStepC st) := by
  induction subs generalizing st with
  | nil => rfl
  | cons s rest ih =>
    obtain ⟨e, he⟩ := h s (by simp)
    simp only [List.foldl_cons, strStep, he, List.filterMap_cons]
    exact ih (fun s hs => h s (by simp [hs])) _

theorem stVal_foldl (side : Bool) (es : List CharEd) (st : StrSt) :
    stVal side (es.foldl strStepC st) = stVal side st ++ escStr (es.filterMap (CharEd.side side)) := by
  induction es generalizing st with
  | nil => simp [escStr_nil]
  | cons e es ih =>
    rw [List.foldl_cons, ih, stVal_step]
    cases hs : e.side side <;> simp [hs, escStr]

theorem proj_strBody (side : Bool) (a b : Str) (subs : List Script) (h : StrResolved a b subs) :
    proj (keepS side) (strBody a b subs) = escStr (sideChars side a b subs) := by
  rw [strBody, foldl_strStep a b subs h, sideChars, ← List.filterMap_filterMap]
  rw [proj_flushSt, stVal_foldl]
  simp [stVal, proj_nil, escStr_nil]

theorem proj_strOut (side : Bool) (a b : Str) (subs : List Script) (h : StrResolved a b subs) :
    proj (keepS side) (strOut a b subs) = quote (sideChars side a b subs) := by
  simp [strOut, proj_cons, proj_append, proj_strBody side a b subs h, quote, proj_nil]

end GtModel.Render
