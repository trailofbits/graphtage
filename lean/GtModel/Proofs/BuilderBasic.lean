/-
  Shared by the proofs about `GtModel.Builder`: induction on the nested types `Tree` and `PyVal` with the children as
  a membership hypothesis, `List.mapM` in `Except` (every list-level function of the model is one; `mapM_ok_iff`
  says so with `Forall2` of ListBasic), `Tree.pyEq` one layer at a time.
-/
import GtModel.Model.Builder
import GtModel.Proofs.ExceptBasic
import GtModel.Proofs.ListBasic

namespace GtModel.Builder

theorem Tree.induct {P : Tree → Prop} (leaf : ∀ c s q, P (.leaf c s q)) (cyc : ∀ r w, P (.cyc r w))
    (node : ∀ t cs, (∀ c ∈ cs, P c) → P (.node t cs)) : ∀ t, P t :=
  Tree.rec (motive_2 := fun cs => ∀ c ∈ cs, P c) leaf cyc node
    (fun _ h => nomatch h) (fun _ _ ht hts => List.forall_mem_cons.2 ⟨ht, hts⟩)

/-- tuples are built, read back and normalised exactly like lists: their case is the list case -/
theorem PyVal.induct {P : PyVal → Prop} (scalar : ∀ m s, P (.scalar m s))
    (list : ∀ m xs, (∀ x ∈ xs, P x) → P (.list m xs)) (tuple : ∀ m xs, P (.list m xs) → P (.tuple m xs))
    (dict : ∀ m kvs, (∀ p ∈ kvs, P p.1 ∧ P p.2) → P (.dict m kvs)) (set : ∀ m xs, (∀ x ∈ xs, P x) → P (.set m xs))
    (custom : ∀ m cls attrs, (∀ p ∈ attrs, P p.2) → P (.custom m cls attrs)) : ∀ v, P v :=
  PyVal.rec (motive_2 := fun xs => ∀ x ∈ xs, P x) (motive_3 := fun kvs => ∀ p ∈ kvs, P p.1 ∧ P p.2)
    (motive_4 := fun attrs => ∀ p ∈ attrs, P p.2) (motive_5 := fun p => P p.1 ∧ P p.2) (motive_6 := fun p => P p.2)
    scalar list (fun m xs ih => tuple m xs (list m xs ih)) dict set custom
    (fun _ h => nomatch h) (fun _ _ hx hxs => List.forall_mem_cons.2 ⟨hx, hxs⟩)
    (fun _ h => nomatch h) (fun _ _ hp hps => List.forall_mem_cons.2 ⟨hp, hps⟩)
    (fun _ h => nomatch h) (fun _ _ hp hps => List.forall_mem_cons.2 ⟨hp, hps⟩)
    (fun _ _ hk hv => ⟨hk, hv⟩) (fun _ _ hv => hv)

theorem forall_mem_of_rec {α} {P : α → Prop} {PL : List α → Prop} (nil : PL []) (cons : ∀ x xs, PL (x :: xs) ↔ P x ∧ PL xs) :
    ∀ {xs : List α}, PL xs ↔ ∀ x ∈ xs, P x
  | [] => ⟨fun _ => nofun, fun _ => nil⟩
  | x :: xs => by rw [cons, List.forall_mem_cons, forall_mem_of_rec nil cons]

section Except
variable {ε α β : Type} {f : α → Except ε β} {xs : List α}

theorem mapM_ok_iff {ys : List β} : xs.mapM f = .ok ys ↔ Forall2 (fun x y => f x = .ok y) xs ys := by
  induction xs generalizing ys with
  | nil => exact ⟨fun h => by cases h; exact .nil, fun h => by cases h; rfl⟩
  | cons x xs ih =>
    rw [List.mapM_cons]
    constructor
    · intro h
      obtain ⟨y, hy, h⟩ := bind_ok.1 h
      obtain ⟨ys', hys, h⟩ := bind_ok.1 h
      cases h
      exact .cons hy (ih.1 hys)
    · intro h
      cases h with
      | cons hy hr => rw [hy, ih.2 hr]; rfl

theorem mapM_ok_of_forall_exists {Q : α → β → Prop} (h : ∀ x ∈ xs, ∃ y, f x = .ok y ∧ Q x y) :
    ∃ ys, xs.mapM f = .ok ys ∧ Forall2 Q xs ys := by
  induction xs with
  | nil => exact ⟨[], rfl, .nil⟩
  | cons x xs ih =>
    obtain ⟨y, hy, hq⟩ := h x List.mem_cons_self
    obtain ⟨ys, hys, hqs⟩ := ih fun z hz => h z (List.mem_cons_of_mem _ hz)
    exact ⟨y :: ys, by rw [List.mapM_cons, hy, hys]; rfl, .cons hq hqs⟩

end Except

/-- `SequenceNode.__eq__` / `KeyValuePairNode.__eq__` for two nodes whose `_children` containers have kinds `ka`, `kb`,
given the equality `eq` of the children: the `.node`/`.node` case of `Tree.pyEq` without its recursion. -/
def seqEq (eq : Tree → Tree → Bool) : CKind → CKind → List Tree → List Tree → Bool
  | .tuple, .tuple, as, bs | .kvp, .kvp, as, bs => as.length == bs.length && (as.zip bs).all fun p => eq p.1 p.2
  | .counter, .counter, as, bs =>
      as.length == bs.length && as.all fun x => eq x x && as.countP (eq x) == bs.countP (eq x)
  | .pdict, .pdict, as, bs => as.length == bs.length && as.all fun x => bs.any (eq x)
  | _, _, _, _ => false

theorem all_zip_attach {α β} (f : α → β → Bool) (l : List α) (bs : List β) :
    (l.attach.zip bs).all (fun p => f p.1.val p.2) = (l.zip bs).all (fun p => f p.1 p.2) := by
  conv => rhs; rw [← List.attach_map_subtype_val l, List.zip_map_left, List.all_map]
  rfl

theorem pyEq_node (ta tb : Tag) (as bs : List Tree) :
    Tree.pyEq (.node ta as) (.node tb bs) = seqEq Tree.pyEq ta.ckind tb.ckind as bs := by
  rw [Tree.pyEq]
  generalize ta.ckind = ka
  generalize tb.ckind = kb
  cases ka <;> cases kb <;>
    simp only [seqEq, List.all_subtype, List.unattach_attach, all_zip_attach Tree.pyEq,
      ← List.countP_eq_length_filter, List.countP_attach]

theorem pyEq_leaf (ca cb : LeafCls) (sa sb : Scalar) (qa qb : Bool) :
    Tree.pyEq (.leaf ca sa qa) (.leaf cb sb qb) =
      if ca = .null then decide (cb = .null)
      else ((decide (sa.kind = .bool) == decide (sb.kind = .bool)) && sa.eqc == sb.eqc) := by
  rw [Tree.pyEq]

theorem pyEq_kvp (kw ake kw' ake' : Bool) (k v k' v' : Tree) :
    Tree.pyEq (.node (.kvp kw ake) [k, v]) (.node (.kvp kw' ake') [k', v']) = (Tree.pyEq k k' && Tree.pyEq v v') := by
  simp [pyEq_node, Tag.ckind, seqEq]

section SeqEq
variable {eq : Tree → Tree → Bool} {as : List Tree}

theorem all_congr_mem {α} {l : List α} {p q : α → Bool} (h : ∀ x ∈ l, p x = q x) : l.all p = l.all q := by
  induction l with
  | nil => rfl
  | cons a l ih => rw [List.all_cons, List.all_cons, h a List.mem_cons_self, ih fun x hx => h x (List.mem_cons_of_mem _ hx)]

/-- the layer only asks `eq` about children of the left operand: maps on either side that `eq` does not see through
change nothing -/
theorem seqEq_map {f g : Tree → Tree} (hl : ∀ x ∈ as, ∀ y, eq (f x) y = eq x y)
    (hf : ∀ x ∈ as, ∀ y, eq x (f y) = eq x y) (hg : ∀ x ∈ as, ∀ y, eq x (g y) = eq x y) (ka kb : CKind)
    (bs : List Tree) : seqEq eq ka kb (as.map f) (bs.map g) = seqEq eq ka kb as bs := by
  have hzip : ((as.map f).zip (bs.map g)).all (fun p => eq p.1 p.2) = (as.zip bs).all fun p => eq p.1 p.2 := by
    rw [List.zip_map, List.all_map]
    refine all_congr_mem fun p hp => ?_
    have := (List.of_mem_zip hp).1
    simp only [Function.comp, Prod.map, hl p.1 this, hg p.1 this]
  have hcount : ∀ x ∈ as, ∀ (cs : List Tree) (h : Tree → Tree), (∀ y, eq x (h y) = eq x y) →
      (cs.map h).countP (eq (f x)) = cs.countP (eq x) := fun x hx cs h hh => by
    rw [List.countP_map]
    exact List.countP_congr fun y _ => by simp only [Function.comp, hl x hx, hh]
  cases ka <;> cases kb <;> simp only [seqEq, List.length_map, hzip, List.all_map]
  · congr 1
    refine all_congr_mem fun x hx => ?_
    simp only [Function.comp, hl x hx, hf x hx, hcount x hx as f (hf x hx), hcount x hx bs g (hg x hx)]
  · congr 1
    refine all_congr_mem fun x hx => ?_
    rw [Function.comp, List.any_map]
    exact congrArg _ (funext fun y => by rw [Function.comp, hl x hx, hg x hx])

theorem seqEq_self (h : ∀ x ∈ as, eq x x = true) {k : CKind} (hk : k ≠ .pyobj) : seqEq eq k k as as = true := by
  have hzip : (as.zip as).all (fun p => eq p.1 p.2) = true := by
    have : as.zip as = as.map fun x => (x, id x) := by rw [List.map_prod_left_eq_zip, List.map_id]
    rw [this, List.all_map]
    exact List.all_eq_true.2 h
  cases k <;> simp only [seqEq, beq_self_eq_true, Bool.true_and, hzip]
  · exact List.all_eq_true.2 fun x hx => by rw [h x hx]; rfl
  · exact List.all_eq_true.2 fun x hx => List.any_eq_true.2 ⟨x, hx, h x hx⟩
  · exact absurd rfl hk

end SeqEq

end GtModel.Builder
