/- Validity of trajectories, the collection under `tightenAt`, and the states reachable by tightening. -/
import GtModel.Model.Bounded
import GtModel.Proofs.BoundLemmas

namespace GtModel.Bounded
open GtModel

variable {σ σ' : St} {fs : List Int}

def StrictSub (r' r : Range) : Prop := r.contains r' = true ∧ r' ≠ r

def ValidL : List Range → Int → Prop
  | [], _ => False
  | [r], n => r = Range.point n
  | r :: r' :: rs, n => StrictSub r' r ∧ ValidL (r' :: rs) n

def Item.Valid (it : Item) (n : Int) : Prop := ValidL it.traj n

/-- `fs[i]` is the final cost of item `i` -/
def ValidSt (σ : St) (fs : List Int) : Prop :=
  σ.length = fs.length ∧ ∀ (i : Nat) (a : Item) (n : Int), σ[i]? = some a → fs[i]? = some n → a.Valid n

theorem validL_contains : ∀ {l : List Range} {r : Range} {n : Int}, ValidL (r :: l) n →
    r.contains (Range.point n) = true
  | [], r, n, h => by cases h; exact Range.contains_refl _
  | r' :: rs, r, n, h => Range.contains_trans h.1.1 (validL_contains h.2)

theorem Item.Valid.contains_point {it : Item} {n : Int} (h : it.Valid n) : it.cur.contains (Range.point n) = true :=
  validL_contains h

theorem Item.Valid.contains {it : Item} {n : Int} (h : it.Valid n) :
    Bound.le it.cur.lo (.fin n) = true ∧ Bound.le (.fin n) it.cur.hi = true := Range.contains_iff.mp h.contains_point

theorem Item.Valid.last {it : Item} {n : Int} (h : it.Valid n) (hr : it.rest = []) : it.cur = Range.point n := by
  unfold Item.Valid Item.traj at h; rw [hr] at h; exact h

theorem Item.Valid.cons_iff {it : Item} {r : Range} {rs : List Range} {n : Int} (hr : it.rest = r :: rs) :
    it.Valid n ↔ StrictSub r it.cur ∧ ValidL (r :: rs) n := by
  unfold Item.Valid Item.traj; rw [hr]; rfl

theorem Item.tighten_fst_false {x : Item} : (x.tighten).1 = false ↔ x.rest = [] := by
  unfold Item.tighten; cases hr : x.rest <;> simp

theorem Item.tighten_rest_nil {x : Item} (h : x.rest = []) : (x.tighten).2.rest = [] ∧ (x.tighten).2.cur = x.cur := by
  unfold Item.tighten; rw [h]; simp

theorem Item.Valid.tighten {it : Item} {n : Int} (h : it.Valid n) : (it.tighten).2.Valid n := by
  unfold Item.tighten
  cases hr : it.rest with
  | nil => simp [Item.Valid, Item.traj, hr] at h ⊢; exact h
  | cons r rs => exact ((Item.Valid.cons_iff hr).mp h).2

theorem Item.Valid.tighten_contains {a : Item} {n : Int} (h : a.Valid n) :
    a.cur.contains (a.tighten).2.cur = true := by
  unfold Item.tighten
  cases hr : a.rest with
  | nil => exact Range.contains_refl _
  | cons r rs => exact ((Item.Valid.cons_iff hr).mp h).1.1

theorem Item.Valid.definitive {it : Item} {n : Int} (h : it.Valid n) (hd : it.cur.definitive = true) :
    it.cur = Range.point n ∧ it.rest = [] := by
  obtain ⟨v, hv⟩ := Range.definitive_iff.mp hd
  have hc := h.contains
  rw [hv] at hc
  have hvn : v = n := Int.le_antisymm (Bound.fin_le_fin.mp hc.1) (Bound.fin_le_fin.mp hc.2)
  subst hvn
  refine ⟨hv, ?_⟩
  cases hr : it.rest with
  | nil => rfl
  | cons r rs =>
    -- a strict sub-range of the point `v` that still contains `v` cannot exist
    obtain ⟨⟨hsub, hne⟩, hv'⟩ := (Item.Valid.cons_iff hr).mp h
    exact absurd (Range.eq_point_of_contains (hv ▸ hsub) (validL_contains hv')) (hv ▸ hne)

theorem Item.Valid.definitive_iff {it : Item} {n : Int} (h : it.Valid n) :
    it.cur.definitive = true ↔ it.rest = [] :=
  ⟨fun hd => (h.definitive hd).2, fun hr => Range.definitive_iff.mpr ⟨n, h.last hr⟩⟩

theorem dom_final {a b : Item} {na nb : Int} (ha : a.Valid na) (hb : b.Valid nb)
    (h : a.cur.dominates b.cur = true) : na ≤ nb :=
  Bound.fin_le_fin.mp (Bound.le_trans (Bound.le_trans ha.contains.2 h) hb.contains.1)

theorem ValidSt.get (hv : ValidSt σ fs) {i : Nat} {a : Item} (h : σ[i]? = some a) :
    ∃ n, fs[i]? = some n ∧ a.Valid n := by
  have hi : i < fs.length := hv.1 ▸ (List.getElem?_eq_some_iff.mp h).1
  exact ⟨fs[i], List.getElem?_eq_getElem hi, hv.2 i a _ h (List.getElem?_eq_getElem hi)⟩

theorem ValidSt.get_fs (hv : ValidSt σ fs) {i : Nat} {n : Int} (h : fs[i]? = some n) :
    ∃ a, σ[i]? = some a ∧ a.Valid n := by
  have hi : i < σ.length := hv.1 ▸ (List.getElem?_eq_some_iff.mp h).1
  exact ⟨σ[i], List.getElem?_eq_getElem hi, hv.2 i _ n (List.getElem?_eq_getElem hi) h⟩

theorem ValidSt.nil : ValidSt [] [] := ⟨rfl, fun i a n h _ => by simp at h⟩

theorem ValidSt.cons {a : Item} {n : Int} (ha : a.Valid n) (hv : ValidSt σ fs) :
    ValidSt (a :: σ) (n :: fs) :=
  ⟨congrArg (· + 1) hv.1, fun i x m hi hm => by
    cases i with
    | zero => simp only [List.getElem?_cons_zero, Option.some.injEq] at hi hm; rw [← hi, ← hm]; exact ha
    | succ i => exact hv.2 i x m hi hm⟩

theorem ValidSt.nil_iff (hv : ValidSt σ fs) : σ = [] ↔ fs = [] := by
  rw [← List.length_eq_zero_iff, hv.1, List.length_eq_zero_iff]

theorem curAt_of_get {k : Nat} {a : Item} (h : σ[k]? = some a) : curAt σ k = some a.cur := by
  unfold curAt; rw [h]; rfl

theorem tightenAt_length (σ : St) (k : Nat) : (tightenAt σ k).2.length = σ.length := by
  unfold tightenAt; split <;> simp

theorem getElem?_tightenAt (σ : St) (k m : Nat) :
    (tightenAt σ k).2[m]? = σ[m]?.map fun a => if m = k then (a.tighten).2 else a := by
  unfold tightenAt
  split
  · rename_i h
    by_cases hm : m = k
    · subst hm; simp [h]
    · simp [hm]
  · rename_i it h
    by_cases hm : m = k
    · obtain ⟨hlt, rfl⟩ := List.getElem?_eq_some_iff.mp h
      subst hm; simp [hlt]
    · simp [hm, Ne.symm hm]

theorem tightenAt_get_ne {k m : Nat} (h : m ≠ k) : (tightenAt σ k).2[m]? = σ[m]? := by
  simp [getElem?_tightenAt, h]

theorem tightenAt_get_eq {k : Nat} {a : Item} (h : σ[k]? = some a) :
    (tightenAt σ k).2[k]? = some (a.tighten).2 ∧ (tightenAt σ k).1 = (a.tighten).1 := by
  refine ⟨by simp [getElem?_tightenAt, h], ?_⟩
  unfold tightenAt; rw [h]

theorem tightenAt_get_inv {k m : Nat} {x : Item} (h : (tightenAt σ k).2[m]? = some x) :
    ∃ x0, σ[m]? = some x0 ∧ x = (if m = k then (x0.tighten).2 else x0) := by
  rw [getElem?_tightenAt, Option.map_eq_some_iff] at h
  obtain ⟨x0, h0, e⟩ := h
  exact ⟨x0, h0, e.symm⟩

theorem tightenAt_false_rest {k : Nat} {x : Item} (hx : σ[k]? = some x) (h : (tightenAt σ k).1 = false) :
    x.rest = [] := by
  rw [(tightenAt_get_eq hx).2] at h; exact Item.tighten_fst_false.mp h

theorem Item.rest_nil_ite {x : Item} (hr : x.rest = []) (c : Prop) [Decidable c] :
    (if c then (x.tighten).2 else x).rest = [] ∧ (if c then (x.tighten).2 else x).cur = x.cur := by
  split
  · exact Item.tighten_rest_nil hr
  · exact ⟨hr, rfl⟩

theorem rest_nil_tightenAt {m : Nat} {x : Item} (k : Nat) (hx : σ[m]? = some x) (hr : x.rest = []) :
    ∃ x', (tightenAt σ k).2[m]? = some x' ∧ x'.rest = [] ∧ x'.cur = x.cur :=
  ⟨_, by rw [getElem?_tightenAt, hx]; rfl, Item.rest_nil_ite hr _⟩

theorem rest_nil_of_both_false {i j : Nat} {x y : Item} (hx : σ[i]? = some x) (hy : σ[j]? = some y)
    (h1 : (tightenAt σ i).1 = false) (h2 : (tightenAt (tightenAt σ i).2 j).1 = false) : x.rest = [] ∧ y.rest = [] := by
  have rx := tightenAt_false_rest hx h1
  refine ⟨rx, ?_⟩
  have hy1 : (tightenAt σ i).2[j]? = some (if j = i then (y.tighten).2 else y) := by rw [getElem?_tightenAt, hy]; rfl
  have ry := tightenAt_false_rest hy1 h2
  split at ry
  · rename_i hji; subst hji; rw [hx] at hy; cases hy; exact rx
  · exact ry

theorem ValidSt.tightenAt (h : ValidSt σ fs) (k : Nat) : ValidSt (tightenAt σ k).2 fs := by
  refine ⟨(tightenAt_length σ k).trans h.1, fun i a n hi hn => ?_⟩
  obtain ⟨a0, h0, rfl⟩ := tightenAt_get_inv hi
  split
  · exact (h.2 i a0 n h0 hn).tighten
  · exact h.2 i a0 n h0 hn

/-- what the functions do to the collection; `Adv` below is what the C17 statements say of it, item by item -/
inductive Reach : St → St → Prop
  | refl (σ : St) : Reach σ σ
  | step {σ σ' : St} (k : Nat) : Reach (tightenAt σ k).2 σ' → Reach σ σ'

theorem Reach.trans {a b c : St} (h1 : Reach a b) (h2 : Reach b c) : Reach a c := by
  induction h1 with
  | refl => exact h2
  | step k _ ih => exact .step k (ih h2)

theorem Reach.valid (h : Reach σ σ') (hv : ValidSt σ fs) : ValidSt σ' fs := by
  induction h with
  | refl => exact hv
  | step k _ ih => exact ih (hv.tightenAt k)

theorem Reach.total_le (h : Reach σ σ') : total σ' ≤ total σ := by
  induction h with
  | refl => exact Nat.le_refl _
  | step k _ ih => exact Nat.le_trans ih (total_tightenAt_le _ k)

theorem Reach.length {σ σ' : St} (h : Reach σ σ') : σ'.length = σ.length := by
  induction h with
  | refl => rfl
  | step k _ ih => rw [ih, tightenAt_length]

theorem Reach.get (hr : Reach σ σ') (hv : ValidSt σ fs) {i : Nat} {a' : Item}
    (h : σ'[i]? = some a') :
    ∃ a n, σ[i]? = some a ∧ fs[i]? = some n ∧ a'.Valid n ∧ a.cur.contains a'.cur = true := by
  induction hr with
  | refl =>
    obtain ⟨n, hn, va⟩ := hv.get h
    exact ⟨a', n, h, hn, va, Range.contains_refl _⟩
  | step k _ ih =>
    obtain ⟨a1, n, h1, hn, va', hc⟩ := ih (hv.tightenAt k) h
    obtain ⟨a0, h0, rfl⟩ := tightenAt_get_inv h1
    have va0 := hv.2 i a0 n h0 hn
    refine ⟨a0, n, h0, hn, va', ?_⟩
    split at hc
    · exact Range.contains_trans va0.tighten_contains hc
    · exact hc

def Item.Adv (a a' : Item) : Prop := ∃ k, a'.traj = a.traj.drop k ∧ a'.pos = a.pos + k ∧ a.calls ≤ a'.calls

theorem Item.Adv.refl (a : Item) : a.Adv a := ⟨0, by simp, by simp, Nat.le_refl _⟩

theorem Item.Adv.trans {a b c : Item} (h1 : a.Adv b) (h2 : b.Adv c) : a.Adv c := by
  obtain ⟨k1, e1, p1, c1⟩ := h1
  obtain ⟨k2, e2, p2, c2⟩ := h2
  exact ⟨k1 + k2, by rw [e2, e1, List.drop_drop], by rw [p2, p1, Nat.add_assoc], Nat.le_trans c1 c2⟩

theorem Item.adv_tighten (a : Item) : a.Adv (a.tighten).2 := by
  unfold Item.tighten
  cases hr : a.rest with
  | nil => exact ⟨0, by simp [Item.traj, hr], by simp, by simp⟩
  | cons r rs => exact ⟨1, by simp [Item.traj, hr], by simp, by simp⟩

def Adv (σ σ' : St) : Prop :=
  σ'.length = σ.length ∧ ∀ (i : Nat) (a : Item), σ[i]? = some a → ∃ a', σ'[i]? = some a' ∧ a.Adv a'

theorem Adv.refl (σ : St) : Adv σ σ := ⟨rfl, fun _ a h => ⟨a, h, Item.Adv.refl a⟩⟩

theorem Adv.trans {a b c : St} (h1 : Adv a b) (h2 : Adv b c) : Adv a c := by
  refine ⟨by rw [h2.1, h1.1], ?_⟩
  intro i x hx
  obtain ⟨y, hy, hxy⟩ := h1.2 i x hx
  obtain ⟨z, hz, hyz⟩ := h2.2 i y hy
  exact ⟨z, hz, hxy.trans hyz⟩

theorem adv_tightenAt (σ : St) (k : Nat) : Adv σ (tightenAt σ k).2 := by
  refine ⟨tightenAt_length σ k, ?_⟩
  intro i a ha
  refine ⟨_, by rw [getElem?_tightenAt, ha]; rfl, ?_⟩
  split
  · exact Item.adv_tighten a
  · exact Item.Adv.refl a

theorem Reach.adv (h : Reach σ σ') : Adv σ σ' := by
  induction h with
  | refl => exact Adv.refl _
  | step k _ ih => exact (adv_tightenAt _ k).trans ih

theorem ltLoop_reach (σ : St) (i j : Nat) : Reach σ (ltLoop σ i j) := by
  fun_induction ltLoop σ i j with
  | case1 => exact .refl _
  | case2 σ a b _ _ _ h1 ih => exact .step i ih
  | case3 σ a b _ _ _ h1 h2 ih => exact .step i (.step j ih)
  | case4 σ a b _ _ _ h1 h2 => exact .step i (.step j (.refl _))
  | case5 => exact .refl _

theorem fullTighten_reach (σ : St) (i j : Nat) : Reach σ (fullTighten σ i j) := by
  fun_induction fullTighten σ i j with
  | case1 σ h1 ih => exact .step i ih
  | case2 σ h1 h2 ih => exact .step i (.step j ih)
  | case3 σ h1 h2 => exact .step i (.step j (.refl _))

end GtModel.Bounded
