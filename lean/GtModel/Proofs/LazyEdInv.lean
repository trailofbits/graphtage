/-
  EditDistance protocol: the table invariant (processed entries of `costs` / `path_costs` equal the greedy matrix
  `EditMatrix.spec` over the cells' FINAL costs).

  `_add_node`, `_best_match`, the fringe loop and the back-trace change nothing but the two tables and write only
  greedy values: each is stated as `s ↦ s.tabs tc tp` with `TabLe fm s tc tp` (an entry that matches keeps matching) and
  the entries that match newly.  `Filled s` (the entries the invariant promises) occurs only where `EdInv` is used or
  rebuilt: `edFinalize_ok`, `edBounds_keeps` here, `EdInv.advance` in LazyEdTighten.
-/
import GtModel.Proofs.LazyEdStatic
import GtModel.Proofs.LazyMatrix

namespace GtModel.Lazy
open GtModel.EditMatrix (Cell Move step spec lexLe goLeft goUp goDiag cellAt step_cp step_x)

structure SameCtl (s s' : EdSt) : Prop where
  pre : s'.pre = s.pre
  suf : s'.suf = s.suf
  flen : s'.flen = s.flen
  tlen : s'.tlen = s.tlen
  lb0 : s'.lb0 = s.lb0
  ub0 : s'.ub0 = s.ub0
  rem : s'.rem = s.rem
  ins : s'.ins = s.ins
  fr : s'.fr = s.fr
  fc : s'.fc = s.fc
  last : s'.lastFringe = s.lastFringe
  freed : s'.freed = s.freed
  cache : s'.cache = s.cache

/-- the fields `_next_fringe` does not touch -/
structure SameStat (s s' : EdSt) : Prop where
  pre : s'.pre = s.pre
  suf : s'.suf = s.suf
  flen : s'.flen = s.flen
  tlen : s'.tlen = s.tlen
  lb0 : s'.lb0 = s.lb0
  ub0 : s'.ub0 = s.ub0
  rem : s'.rem = s.rem
  ins : s'.ins = s.ins
  freed : s'.freed = s.freed
  cache : s'.cache = s.cache

/-- the fields nothing ever touches -/
structure SameCore (s s' : EdSt) : Prop where
  pre : s'.pre = s.pre
  suf : s'.suf = s.suf
  flen : s'.flen = s.flen
  tlen : s'.tlen = s.tlen
  lb0 : s'.lb0 = s.lb0
  ub0 : s'.ub0 = s.ub0
  rem : s'.rem = s.rem
  ins : s'.ins = s.ins

theorem SameCore.nf {s s' : EdSt} (h : SameCore s s') : s'.nf = s.nf := by simp [EdSt.nf, h.rem]
theorem SameCore.nt {s s' : EdSt} (h : SameCore s s') : s'.nt = s.nt := by simp [EdSt.nt, h.ins]
theorem SameCore.edT {s s' : EdSt} (h : SameCore s s') (fm : List (List Nat)) : edT s' fm = edT s fm := by
  simp [Lazy.edT, h.rem, h.ins]
theorem SameCore.refl (s : EdSt) : SameCore s s := ⟨rfl, rfl, rfl, rfl, rfl, rfl, rfl, rfl⟩
theorem SameCore.trans {a b c : EdSt} (h1 : SameCore a b) (h2 : SameCore b c) : SameCore a c :=
  ⟨h2.pre.trans h1.pre, h2.suf.trans h1.suf, h2.flen.trans h1.flen, h2.tlen.trans h1.tlen, h2.lb0.trans h1.lb0,
    h2.ub0.trans h1.ub0, h2.rem.trans h1.rem, h2.ins.trans h1.ins⟩

theorem SameStat.core {s s' : EdSt} (h : SameStat s s') : SameCore s s' :=
  ⟨h.pre, h.suf, h.flen, h.tlen, h.lb0, h.ub0, h.rem, h.ins⟩
theorem SameStat.edT {s s' : EdSt} (h : SameStat s s') (fm : List (List Nat)) : edT s' fm = edT s fm := h.core.edT fm
theorem SameCtl.complete {s s' : EdSt} (h : SameCtl s s') : edComplete s' = edComplete s := by
  unfold edComplete EdSt.nt EdSt.nf
  rw [h.freed, h.fr, h.fc, h.ins, h.rem]
theorem SameStat.refl (s : EdSt) : SameStat s s := ⟨rfl, rfl, rfl, rfl, rfl, rfl, rfl, rfl, rfl, rfl⟩
theorem SameStat.trans {a b c : EdSt} (h1 : SameStat a b) (h2 : SameStat b c) : SameStat a c :=
  ⟨h2.pre.trans h1.pre, h2.suf.trans h1.suf, h2.flen.trans h1.flen, h2.tlen.trans h1.tlen, h2.lb0.trans h1.lb0,
    h2.ub0.trans h1.ub0, h2.rem.trans h1.rem, h2.ins.trans h1.ins, h2.freed.trans h1.freed, h2.cache.trans h1.cache⟩

/-- `s` with other tables: all that `_add_node`, `_best_match`, the fringe loop and the back-trace change -/
def EdSt.tabs (s : EdSt) (tc tp : List (List Nat)) : EdSt := { s with costs := tc, paths := tp }

/-- `s` with the fringe moved to `(fr, fc)`: all that `_next_fringe` changes besides the tables -/
def EdSt.move (s : EdSt) (fr : Int) (fc : Nat) : EdSt := { s with lastFringe := diag s.fr s.fc s.nf, fr := fr, fc := fc }

/-- `s` with the script cached and the matrix freed: all that `edits()` changes at its end -/
def EdSt.cached (s : EdSt) (tr : List (Move × Nat × Nat)) : EdSt := { s with cache := some tr, freed := true }

def TabSh (s : EdSt) : Prop := TShape s.costs (s.nt + 1) (s.nf + 1) ∧ TShape s.paths (s.nt + 1) (s.nf + 1)

/-- the tables only grow towards the greedy matrix -/
structure TabLe (fm : List (List Nat)) (s : EdSt) (tc tp : List (List Nat)) : Prop where
  sh : TabSh s → TabSh (s.tabs tc tp)
  keep : ∀ r c, Match s fm r c → Match (s.tabs tc tp) fm r c

theorem TabLe.refl (fm : List (List Nat)) (s : EdSt) : TabLe fm s s.costs s.paths := ⟨id, fun _ _ => id⟩

theorem TabLe.trans {fm : List (List Nat)} {s : EdSt} {tc tp tc' tp' : List (List Nat)} (h1 : TabLe fm s tc tp)
    (h2 : TabLe fm (s.tabs tc tp) tc' tp') : TabLe fm s tc' tp' :=
  ⟨h2.sh ∘ h1.sh, fun r c m => h2.keep r c (h1.keep r c m)⟩

theorem TabLe.write {s : EdSt} (fm : List (List Nat)) {r0 c0 : Nat} (sh : TabSh s) (hr : r0 ≤ s.nt) (hc : c0 ≤ s.nf) :
    ∃ tc tp, tset s.costs r0 c0 (edT s fm r0 c0).cost = .ok tc ∧ tset s.paths r0 c0 (edT s fm r0 c0).path = .ok tp ∧
      TabLe fm s tc tp ∧ Match (s.tabs tc tp) fm r0 c0 := by
  obtain ⟨tc, e1, s1, g1, o1⟩ := tset_ok (edT s fm r0 c0).cost sh.1 (Nat.lt_succ_of_le hr) (Nat.lt_succ_of_le hc)
  obtain ⟨tp, e2, s2, g2, o2⟩ := tset_ok (edT s fm r0 c0).path sh.2 (Nat.lt_succ_of_le hr) (Nat.lt_succ_of_le hc)
  refine ⟨tc, tp, e1, e2, ⟨fun _ => ⟨s1, s2⟩, fun r c hm => ?_⟩, g1, g2⟩
  by_cases hrc : r = r0 ∧ c = c0
  · obtain ⟨rfl, rfl⟩ := hrc; exact ⟨g1, g2⟩
  · have hne : r ≠ r0 ∨ c ≠ c0 := by omega
    exact ⟨(o1 r c hne).trans hm.1, (o2 r c hne).trans hm.2⟩

/-- `_add_node` -/
theorem addNode_fill {s : EdSt} {fm : List (List Nat)} (sh : TabSh s) :
    ∀ {row col : Nat}, row ≤ s.nt → col ≤ s.nf → (row = 0 → 0 < col → Match s fm 0 (col - 1)) →
      (col = 0 → 0 < row → Match s fm (row - 1) 0) →
      ∃ tc tp, addNode s row col = .ok (s.tabs tc tp) ∧ TabLe fm s tc tp ∧
        ((row = 0 ∨ col = 0) → 0 < row + col → Match (s.tabs tc tp) fm row col)
  | 0, 0, _, _, _, _ => ⟨_, _, rfl, TabLe.refl fm s, fun _ h => absurd h (Nat.lt_irrefl 0)⟩
  | r + 1, c + 1, _, _, _, _ => ⟨_, _, rfl, TabLe.refl fm s, fun h _ => by omega⟩
  | 0, c + 1, hr, hc, h0, _ => by
    have hm := h0 rfl (Nat.succ_pos c)
    have hlt : c < s.rem.length := hc
    obtain ⟨tc, tp, e1, e2, le, mt⟩ := TabLe.write fm sh hr hc
    have hv : edT s fm 0 (c + 1) = goLeft (edT s fm 0 c) s.rem[c] := by
      simp only [edT]; rw [spec.eq_2, getD_eq_getElem _ 0 hlt]
    rw [hv] at e1 e2
    refine ⟨tc, tp, ?_, le, fun _ _ => mt⟩
    exact bind_of_eq hm.1 (bind_of_eq hm.2 (bind_of_eq (lget_ok hlt) (bind_of_eq e1 (bind_of_eq e2 rfl))))
  | r + 1, 0, hr, hc, _, h1 => by
    have hm := h1 rfl (Nat.succ_pos r)
    have hlt : r < s.ins.length := hr
    obtain ⟨tc, tp, e1, e2, le, mt⟩ := TabLe.write fm sh hr hc
    have hv : edT s fm (r + 1) 0 = goUp (edT s fm r 0) s.ins[r] := by
      simp only [edT]; rw [spec.eq_3, getD_eq_getElem _ 0 hlt]
    rw [hv] at e1 e2
    refine ⟨tc, tp, ?_, le, fun _ _ => mt⟩
    exact bind_of_eq hm.1 (bind_of_eq hm.2 (bind_of_eq (lget_ok hlt) (bind_of_eq e1 (bind_of_eq e2 rfl))))

theorem addNodes_fill {fm : List (List Nat)} {k : Nat} :
    ∀ (l : List (Nat × Nat)) (s : EdSt), TabSh s → (∀ rc ∈ l, rc.1 ≤ s.nt ∧ rc.2 ≤ s.nf ∧ rc.1 + rc.2 = k) →
      (∀ r c, r ≤ s.nt → c ≤ s.nf → r + c < k → Match s fm r c) →
      ∃ tc tp, addNodes s l = .ok (s.tabs tc tp) ∧ TabLe fm s tc tp ∧
        ∀ rc ∈ l, (rc.1 = 0 ∨ rc.2 = 0) → 0 < k → Match (s.tabs tc tp) fm rc.1 rc.2
  | [], s, _, _, _ => ⟨_, _, rfl, TabLe.refl fm s, fun _ h => nomatch h⟩
  | (row, col) :: rest, s, sh, hl, hP => by
    obtain ⟨hr, hc, hk⟩ := hl (row, col) (by simp)
    simp only at hr hc hk
    obtain ⟨tc1, tp1, e1, le1, m1⟩ := addNode_fill (fm := fm) sh hr hc
      (fun _ _ => hP _ _ (Nat.zero_le _) (by omega) (by omega)) (fun _ _ => hP _ _ (by omega) (Nat.zero_le _) (by omega))
    obtain ⟨tc, tp, e2, le2, m2⟩ := addNodes_fill rest (s.tabs tc1 tp1) (le1.sh sh)
      (fun rc hrc => hl rc (List.mem_cons_of_mem _ hrc)) (fun r c hr' hc' hlt => le1.keep r c (hP r c hr' hc' hlt))
    exact ⟨tc, tp, bind_of_eq e1 e2, le1.trans le2,
      List.forall_mem_cons.mpr ⟨fun hb h0 => le2.keep _ _ (m1 hb (by omega)), m2⟩⟩

/-- `_next_fringe()` on an incomplete matrix -/
theorem nextFringe_fill {s : EdSt} {fm : List (List Nat)} (pos : Pos s) (nz : 0 < s.nt + s.nf)
    (hnc : edComplete s = false) (hnf : s.freed = false) (sh : TabSh s)
    (hP : ∀ r c, r ≤ s.nt → c ≤ s.nf → r + c < started s → Match s fm r c) :
    ∃ fr fc tc tp flag, nextFringe s = .ok ((s.move fr fc).tabs tc tp, flag) ∧ Pos (s.move fr fc) ∧ 0 ≤ fr ∧
      fr.toNat + fc = started s ∧ TabLe fm (s.move fr fc) tc tp ∧
      (∀ r c, r ≤ s.nt → c ≤ s.nf → r + c = started s → (r = 0 ∨ c = 0) → 0 < r + c →
        Match ((s.move fr fc).tabs tc tp) fm r c) ∧
      (flag = false ↔ started s = s.nt + s.nf) := by
  have hpl := pos.lo; have hph := pos.hi; have hpf := pos.fc; have hpz := pos.z
  -- not complete: the corner diagonal has not been reached
  have hlt : ¬ (0 ≤ s.fr ∧ s.nt + s.nf ≤ s.fr.toNat + s.fc) := by
    intro hh
    simp [edComplete, hnf, hh.1, hh.2, nz] at hnc
  -- the same for both directions: the border cells of the diagonal `(fr, fc)` are added
  have core : ∀ (fr : Int) (fc : Nat), 0 ≤ fr → fr ≤ s.nt → fc ≤ s.nf → (fr < s.nt → fc = 0) →
      fr.toNat + fc = started s →
      ∃ tc tp, addNodes (s.move fr fc) (diag fr fc s.nf) = .ok ((s.move fr fc).tabs tc tp) ∧ Pos (s.move fr fc) ∧
        TabLe fm (s.move fr fc) tc tp ∧
        ∀ r c, r ≤ s.nt → c ≤ s.nf → r + c = started s → (r = 0 ∨ c = 0) → 0 < r + c →
          Match ((s.move fr fc).tabs tc tp) fm r c := by
    intro fr fc h0 h1 h2 h3 hk
    obtain ⟨tc, tp, e, le, m⟩ := addNodes_fill (fm := fm) (k := started s) (diag fr fc s.nf) (s.move fr fc) sh
      (fun ⟨r, c⟩ hrc => by have := (mem_diag h0 h2).mp hrc; show r ≤ s.nt ∧ c ≤ s.nf ∧ r + c = started s; omega) hP
    refine ⟨tc, tp, e, ⟨by show -1 ≤ fr; omega, h1, h2, h3⟩, le, fun r c hr hc hs hb hpos =>
      m (r, c) ((mem_diag h0 h2).mpr ?_) hb (by omega)⟩
    by_cases hlt : fr < s.nt
    · have := h3 hlt; omega
    · omega
  unfold nextFringe
  rw [if_neg (by simp [hnc])]
  by_cases hcase : s.fr + 1 ≥ (s.nt : Int) + 1
  · -- the fringe row is at the bottom: move right
    have hfc : s.fc < s.nf := by
      have : ¬ (s.nt + s.nf ≤ s.fr.toNat + s.fc) := fun hh => hlt ⟨by omega, hh⟩
      omega
    obtain ⟨tc, tp, e, p', le, m⟩ := core (s.nt : Int) (s.fc + 1) (by omega) (by omega) (by omega) (by omega)
      (by simp only [started]; omega)
    refine ⟨_, _, tc, tp, (if s.fc + 1 ≥ s.nf then decide ((s.nt : Int) < (s.nt : Int)) else true), ?_, p', by omega,
      by simp only [started]; omega, le, m, ?_⟩
    · simp only [hcase, if_true]
      exact bind_of_eq e rfl
    · simp only [started]
      by_cases hh : s.fc + 1 ≥ s.nf
      · simp [hh]; omega
      · simp [hh]; omega
  · have hfc := hpz (by omega)
    obtain ⟨tc, tp, e, p', le, m⟩ := core (s.fr + 1) s.fc (by omega) (by omega) (by omega) (by omega)
      (by simp only [started])
    refine ⟨_, _, tc, tp, (if s.fc ≥ s.nf then decide (s.fr + 1 < (s.nt : Int)) else true), ?_, p', by omega,
      by simp only [started], le, m, ?_⟩
    · simp only [hcase, if_false]
      exact bind_of_eq e rfl
    · simp only [started, hfc]
      by_cases hh : 0 ≥ s.nf
      · simp [hh]; omega
      · simp [hh]; omega

section
variable {rec : Ops} {g : Ghost}

/-- `while cell.tighten_bounds(): [cell.bounds()]` -/
theorem tightenAll_ok (h : Protocol rec g) (ra : Bool) : ∀ (k : Nat) (c : M), g.I c → g.μ c < k →
    ∃ c', tightenAll rec ra k c = .ok c' ∧ Keeps g c c' ∧ (g.view c').lo = (g.view c').hi
  | 0, _, _, hk => absurd hk (Nat.not_lt_zero _)
  | k + 1, c, hI, hk => by
    unfold tightenAll
    refine Ret.bind₂ (h.tighten c hI) fun c1 r st => ?_
    cases r with
    | false => exact Ret.pure ⟨st.keeps, st.stop rfl⟩
    | true =>
      have hdec := st.dec rfl
      cases ra with
      | false =>
        exact Ret.mono (tightenAll_ok h false k c1 st.inv (by omega)) fun c3 ⟨k3, d3⟩ => ⟨st.keeps.trans k3, d3⟩
      | true =>
        refine Ret.bind (Ret.bindv (h.bounds c1 st.inv) fun c2 p => Ret.pure (P := fun c2 => Pres g c1 c2) p.1)
          fun c2 p2 => ?_
        have := p2.mu
        exact Ret.mono (tightenAll_ok h true k c2 p2.inv (by omega)) fun c3 ⟨k3, d3⟩ =>
          ⟨(st.keeps.trans p2.keeps).trans k3, d3⟩

def DefAt (g : Ghost) (cells : List (List M)) (r c : Nat) : Prop :=
  ∀ m, mget cells (r - 1) (c - 1) = .ok m → Single g m

theorem DefAt.keeps (h : Protocol rec g) {cells cells' : List (List M)} {r c : Nat} (d : DefAt g cells r c)
    (k : KeepsLL g cells cells') : DefAt g cells' r c := by
  intro m hm
  obtain ⟨x, hx, kx⟩ := k.get hm
  exact kx.single h (d x hx)

theorem DefOn.at {cells : List (List M)} {D : Nat → Nat → Prop} (d : DefOn g cells D) {r c : Nat} (hr : 1 ≤ r)
    (hc : 1 ≤ c) (hd : D r c) : DefAt g cells r c := fun m hm => d r c m hr hc hd hm

theorem DefOn.keeps (h : Protocol rec g) {cells cells' : List (List M)} {D : Nat → Nat → Prop}
    (d : DefOn g cells D) (k : KeepsLL g cells cells') : DefOn g cells' D :=
  fun _ _ m hr hc hd hm => (d.at hr hc hd).keeps h k m hm

def DefAll (g : Ghost) (s : EdSt) (cells : List (List M)) : Prop := DefOn g cells (fun r c => r ≤ s.nt ∧ c ≤ s.nf)

/-- the bounds reads of a non-quiet run change nothing -/
theorem fringeRanges_ok (h : Protocol rec g) {nt nf : Nat} :
    ∀ (l : List (Nat × Nat)) (cells : List (List M)), (∀ r ∈ cells, ∀ m ∈ r, g.I m) → MShape cells nt nf →
      (∀ rc ∈ l, rc.1 ≤ nt ∧ rc.2 ≤ nf) →
      ∃ cells' tot, fringeRanges rec cells l = .ok (cells', tot) ∧ KeepsLL g cells cells'
  | [], cells, hI, _, _ => ⟨cells, 0, rfl, KeepsLL.refl cells hI⟩
  | (row, col) :: rest, cells, hI, sh, hl => by
    have hrest : ∀ rc ∈ rest, rc.1 ≤ nt ∧ rc.2 ≤ nf := fun rc hrc => hl rc (by simp [hrc])
    refine Ret.ex₂ ?_
    unfold fringeRanges
    split
    · exact Ret.of₂ (fringeRanges_ok h rest cells hI sh hrest)
    · rename_i hb
      obtain ⟨hr, hc⟩ := hl (row, col) (by simp)
      have hb : ¬ (row = 0 ∨ col = 0) := by simpa using hb
      refine Ret.bind (mget_ret (g := g) sh hI (show row - 1 < nt by omega) (show col - 1 < nf by omega))
        fun c ⟨ec, hIc, _⟩ => ?_
      refine Ret.bindv (h.bounds c hIc) fun c1 ⟨p1, _⟩ => ?_
      refine Ret.bindv (h.bounds c1 p1.inv) fun c2 ⟨p2, _⟩ => ?_
      refine Ret.bind (mset_keeps hI ec (p1.trans p2).keeps) fun cells1 ⟨k1, _⟩ => ?_
      refine Ret.bind₂ (fringeRanges_ok h rest cells1 k1.inv (k1.shape sh) hrest) fun cells' tot k2 => ?_
      exact Ret.pure (k1.trans k2)

theorem bestMatch_border (s : EdSt) (cells : List (List M)) {row col : Nat} (hb : row = 0 ∨ col = 0)
    (hpos : 0 < row + col) (fm : List (List Nat)) :
    bestMatch rec s cells row col = .ok (s, cells, moveAt s fm row col) := by
  by_cases hr : row = 0
  · subst hr
    have hc : col ≠ 0 := by omega
    simp [bestMatch, moveAt, hc, pure, Except.pure]
  · have hc : col = 0 := by omega
    subst hc
    simp [bestMatch, moveAt, hr, pure, Except.pure]

theorem moveAt_congr {s s' : EdSt} {fm : List (List Nat)} (hT : edT s' fm = edT s fm) (r c : Nat) :
    moveAt s' fm r c = moveAt s fm r c := by simp [moveAt, hT]

theorem ptrace_congr {s s' : EdSt} {fm : List (List Nat)} (hT : edT s' fm = edT s fm) :
    ∀ (k r c : Nat), ptrace s' fm k r c = ptrace s fm k r c
  | 0, _, _ => rfl
  | k + 1, r, c => by simp only [ptrace, moveAt_congr hT, ptrace_congr hT k]

/-- what `_best_match` computes from the costs and path lengths it reads (no scripts) and the cell's cost `x`, which it
    reads only if the diagonal neighbour is the cheapest: cost, path length and move of the greedy step over `f` -/
theorem step_read (i rm f x : Nat) {d l u d0 l0 u0 : Cell} (hd : d0.cost = d.cost ∧ d0.path = d.path)
    (hl : l0.cost = l.cost ∧ l0.path = l.path) (hu : u0.cost = u.cost ∧ u0.path = u.path)
    (hx : (lexLe d0 l0 && lexLe d0 u0) = true → x = f) :
    (step i rm x d0 l0 u0).cost = (step i rm f d l u).cost ∧ (step i rm x d0 l0 u0).path = (step i rm f d l u).path ∧
    (step i rm x d0 l0 u0).script.headD .left = (step i rm f d l u).script.headD .left := by
  cases hb : (lexLe d0 l0 && lexLe d0 u0) with
  | true => rw [hx hb]; exact step_cp i rm f hd hl hu
  | false => rw [step_x i rm x f d0 l0 u0 hb]; exact step_cp i rm f hd hl hu

/-- `_best_match` on an inner cell -/
theorem bestMatch_fill (h : Protocol rec g) {s : EdSt} {cells : List (List M)} {fm : List (List Nat)}
    (hfm : finM g cells = fm) (sh : TabSh s) (hI : ∀ r ∈ cells, ∀ m ∈ r, g.I m) {row col : Nat}
    (hr1 : 1 ≤ row) (hr : row ≤ s.nt) (hc1 : 1 ≤ col) (hc : col ≤ s.nf)
    (hP : ∀ r c, r ≤ s.nt → c ≤ s.nf → r + c < row + col → Match s fm r c)
    {c : M} (hcell : mget cells (row - 1) (col - 1) = .ok c) (hdef : (g.view c).lo = (g.view c).hi) :
    ∃ tc tp cells', bestMatch rec s cells row col = .ok (s.tabs tc tp, cells', moveAt s fm row col) ∧
      TabLe fm s tc tp ∧ Match (s.tabs tc tp) fm row col ∧ KeepsLL g cells cells' := by
  subst hfm
  obtain ⟨r', rfl⟩ : ∃ r', row = r' + 1 := ⟨row - 1, by omega⟩
  obtain ⟨c', rfl⟩ : ∃ c', col = c' + 1 := ⟨col - 1, by omega⟩
  simp only [Nat.add_sub_cancel] at hcell
  have pd := hP r' c' (by omega) (by omega) (by omega)
  have pl := hP (r' + 1) c' hr (by omega) (by omega)
  have pu := hP r' (c' + 1) (by omega) hc (by omega)
  have hil : r' < s.ins.length := by simp only [EdSt.nt] at hr; omega
  have hrl : c' < s.rem.length := by simp only [EdSt.nf] at hc; omega
  have hIc := mget_inv hI hcell
  obtain ⟨hx, hdf⟩ := def_is_fin h hIc hdef
  have hT : edT s (finM g cells) (r' + 1) (c' + 1) =
      step s.ins[r'] s.rem[c'] (g.fin c) (edT s (finM g cells) r' c') (edT s (finM g cells) (r' + 1) c')
        (edT s (finM g cells) r' (c' + 1)) := by
    simp only [edT]; rw [spec.eq_4, getD_eq_getElem _ 0 hil, getD_eq_getElem _ 0 hrl, cellAt_finM hcell]
  obtain ⟨tc, tp, e1, e2, le, mt⟩ := TabLe.write (finM g cells) sh hr hc
  -- the three neighbours as the model reads them (no scripts)
  let d0 : Cell := ⟨(edT s (finM g cells) r' c').cost, (edT s (finM g cells) r' c').path, []⟩
  let l0 : Cell := ⟨(edT s (finM g cells) (r' + 1) c').cost, (edT s (finM g cells) (r' + 1) c').path, []⟩
  let u0 : Cell := ⟨(edT s (finM g cells) r' (c' + 1)).cost, (edT s (finM g cells) r' (c' + 1)).path, []⟩
  -- whatever cost `x` was read for the cell: the greedy value is written and its move returned
  have tail : ∀ (cells' : List (List M)) (x : Nat), ((lexLe d0 l0 && lexLe d0 u0) = true → x = g.fin c) →
      (do let tc ← tset s.costs (r' + 1) (c' + 1) (step s.ins[r'] s.rem[c'] x d0 l0 u0).cost
          let tp ← tset s.paths (r' + 1) (c' + 1) (step s.ins[r'] s.rem[c'] x d0 l0 u0).path
          pure (s.tabs tc tp, cells', (step s.ins[r'] s.rem[c'] x d0 l0 u0).script.headD .left) :
        R (EdSt × List (List M) × Move)) = .ok (s.tabs tc tp, cells', moveAt s (finM g cells) (r' + 1) (c' + 1)) := by
    intro cells' x hxf
    obtain ⟨q1, q2, q3⟩ := step_read s.ins[r'] s.rem[c'] (g.fin c) x (d := edT s (finM g cells) r' c')
      (l := edT s (finM g cells) (r' + 1) c') (u := edT s (finM g cells) r' (c' + 1)) (d0 := d0) (l0 := l0) (u0 := u0)
      ⟨rfl, rfl⟩ ⟨rfl, rfl⟩ ⟨rfl, rfl⟩ hxf
    rw [← hT] at q1 q2 q3
    rw [q1, q2, q3]
    exact bind_of_eq e1 (bind_of_eq e2 rfl)
  suffices hs : Ret (bestMatch rec s cells (r' + 1) (c' + 1)) fun r =>
      r.1 = s.tabs tc tp ∧ r.2.2 = moveAt s (finM g cells) (r' + 1) (c' + 1) ∧ KeepsLL g cells r.2.1 by
    obtain ⟨⟨_, cells', _⟩, e, rfl, rfl, kl⟩ := hs
    exact ⟨tc, tp, cells', e, le, mt, kl⟩
  refine Ret.bind_eq pd.1 (Ret.bind_eq pd.2 (Ret.bind_eq pl.1 (Ret.bind_eq pl.2 (Ret.bind_eq pu.1 (Ret.bind_eq pu.2
    (Ret.bind_eq (lget_ok hil) (Ret.bind_eq (lget_ok hrl) ?_)))))))
  -- the cell's `bounds()` is read only if the diagonal neighbour is the cheapest
  refine Ret.ite (fun _ => ?_) fun hb => ⟨_, tail cells 0 fun hb' => absurd hb' hb, rfl, rfl, KeepsLL.refl cells hI⟩
  refine Ret.bind_eq hcell (Ret.bindv (h.bounds c hIc) fun c1 ⟨pb, _⟩ => ?_)
  dsimp only
  rw [if_neg (by simp [hdf])]
  exact Ret.bind (mset_ret hI hcell pb.keeps) fun cells' ⟨kl, _⟩ => ⟨_, tail cells' _ fun _ => hx, rfl, rfl, kl⟩

theorem bestMatch_any (h : Protocol rec g) {s : EdSt} {cells : List (List M)} {fm : List (List Nat)}
    (hfm : finM g cells = fm) (sh : TabSh s) (hI : ∀ r ∈ cells, ∀ m ∈ r, g.I m) (shc : MShape cells s.nt s.nf)
    (hd : DefAll g s cells) {row col : Nat} (hr : row ≤ s.nt) (hc : col ≤ s.nf) (hpos : 0 < row + col)
    (hP : ∀ r c, r ≤ s.nt → c ≤ s.nf → (r + c < row + col ∨ r = 0 ∨ c = 0) → Match s fm r c) :
    ∃ tc tp cells', bestMatch rec s cells row col = .ok (s.tabs tc tp, cells', moveAt s fm row col) ∧
      TabLe fm s tc tp ∧ Match (s.tabs tc tp) fm row col ∧ KeepsLL g cells cells' := by
  by_cases hb : row = 0 ∨ col = 0
  · exact ⟨_, _, cells, bestMatch_border s cells hb hpos fm, TabLe.refl fm s, hP _ _ hr hc (Or.inr hb),
      KeepsLL.refl cells hI⟩
  · obtain ⟨cc, ecc⟩ := mget_ok shc (show row - 1 < s.nt by omega) (show col - 1 < s.nf by omega)
    exact bestMatch_fill h hfm sh hI (by omega) hr (by omega) hc (fun r c hr' hc' hlt => hP r c hr' hc' (Or.inl hlt)) ecc
      (hd row col cc (by omega) (by omega) ⟨hr, hc⟩ ecc)

theorem backTrace_fill (h : Protocol rec g) {fm : List (List Nat)} :
    ∀ (k : Nat) (s : EdSt) (cells : List (List M)) (row col : Nat) (acc : List (Move × Nat × Nat)),
      finM g cells = fm → TabSh s →
      (∀ r c, r ≤ s.nt → c ≤ s.nf → (r + c < row + col ∨ r = 0 ∨ c = 0) → Match s fm r c) →
      (∀ r ∈ cells, ∀ m ∈ r, g.I m) → MShape cells s.nt s.nf → DefAll g s cells → row ≤ s.nt → col ≤ s.nf →
      row + col < k →
      ∃ tc tp cells', backTrace rec k s cells row col acc
          = .ok (s.tabs tc tp, cells', acc.reverse ++ ptrace s fm k row col) ∧
        TabLe fm s tc tp ∧ KeepsLL g cells cells' ∧ Match (s.tabs tc tp) fm row col
  | 0, _, _, _, _, _, _, _, _, _, _, _, _, _, hk => absurd hk (Nat.not_lt_zero _)
  | k + 1, s, cells, row, col, acc, hfm, sh, hP, hI, shc, hd, hr, hc, hk => by
    by_cases hz : row = 0 ∧ col = 0
    · obtain ⟨rfl, rfl⟩ := hz
      exact ⟨_, _, cells, by simp [backTrace, ptrace, pure, Except.pure, EdSt.tabs], TabLe.refl fm s,
        KeepsLL.refl cells hI, hP 0 0 hr hc (Or.inr (Or.inl rfl))⟩
    · have hz' := beq_and_eq_false hz
      obtain ⟨tc1, tp1, cells1, eb, le1, m1, K1⟩ := bestMatch_any h hfm sh hI shc hd hr hc (by omega) hP
      have hpr := predOf_le s fm hz
      obtain ⟨tc, tp, cells2, e2, le2, K2, _⟩ := backTrace_fill h k (s.tabs tc1 tp1) cells1
        (predOf (moveAt s fm row col) row col).1 (predOf (moveAt s fm row col) row col).2
        ((moveAt s fm row col, row, col) :: acc) (K1.finM.trans hfm) (le1.sh sh)
        (fun r c hr' hc' hp => le1.keep r c (hP r c hr' hc' (by omega))) K1.inv (K1.shape shc) (DefOn.keeps h hd K1)
        (by show _ ≤ s.nt; omega) (by show _ ≤ s.nf; omega) (by omega)
      refine ⟨tc, tp, cells2, ?_, le1.trans le2, K1.trans K2, le2.keep _ _ m1⟩
      simp only [backTrace, hz', Bool.false_eq_true, if_false]
      refine bind_of_eq eb ?_
      rw [ptrace_congr (s := s) (s' := s.tabs tc1 tp1) rfl] at e2
      exact e2.trans (by simp [ptrace, hz', EdSt.tabs])


/-- the fringe loop -/
theorem processFringe_fill (h : Protocol rec g) (F : Nat) (ra : Bool) {fm : List (List Nat)} {k : Nat} (hk : 1 ≤ k) :
    ∀ (l : List (Nat × Nat)) (s : EdSt) (cells : List (List M)), finM g cells = fm →
      TabSh s → (∀ r c, r ≤ s.nt → c ≤ s.nf → r + c < k → Match s fm r c) → (∀ r ∈ cells, ∀ m ∈ r, g.I m) →
      MShape cells s.nt s.nf → (∀ rc ∈ l, rc.1 ≤ s.nt ∧ rc.2 ≤ s.nf ∧ rc.1 + rc.2 = k) → muLLg g cells < F →
      ∃ tc tp cells', processFringe rec F ra s cells l = .ok (s.tabs tc tp, cells') ∧ TabLe fm s tc tp ∧
        KeepsLL g cells cells' ∧
        ∀ rc ∈ l, 1 ≤ rc.1 → 1 ≤ rc.2 → Match (s.tabs tc tp) fm rc.1 rc.2 ∧ DefAt g cells' rc.1 rc.2
  | [], s, cells, _, _, _, hI, _, _, _ =>
      ⟨_, _, cells, rfl, TabLe.refl _ s, KeepsLL.refl cells hI, fun _ hm => nomatch hm⟩
  | (row, col) :: rest, s, cells, hfm, sh, hP, hI, shc, hl, hmu => by
    obtain ⟨hr, hc, hsum⟩ := hl (row, col) (by simp)
    simp only at hr hc hsum
    have hrest := fun rc hrc => hl rc (List.mem_cons_of_mem _ hrc)
    by_cases hb : row = 0 ∨ col = 0
    · -- Remove / Insert
      obtain ⟨tc, tp, cells', e, l, K, hnew⟩ := processFringe_fill h F ra hk rest s cells hfm sh hP hI shc hrest hmu
      refine ⟨tc, tp, cells', ?_, l, K, List.forall_mem_cons.mpr ⟨fun h1 h2 => by omega, hnew⟩⟩
      unfold processFringe
      rw [if_pos (beq_or_eq_true hb)]
      exact bind_of_eq (bestMatch_border (rec := rec) s cells hb (by omega) fm) e
    · obtain ⟨c, -, ec, hIc, hmc⟩ := mget_ret (g := g) shc hI (show row - 1 < s.nt by omega) (show col - 1 < s.nf by omega)
      obtain ⟨c1, e1, k1, d1⟩ := tightenAll_ok h ra F c hIc (by omega)
      obtain ⟨c2, e2, p2, _⟩ := h.bounds c1 k1.inv
      obtain ⟨cells1, es, K1, get1, _⟩ := mset_keeps hI ec (k1.trans p2.keeps)
      have d2 := p2.keeps.single h d1
      obtain ⟨tc1, tp1, cells2, eb, l1, m1, K2⟩ := bestMatch_fill h (K1.finM.trans hfm) sh K1.inv (by omega) hr
        (by omega) hc (fun r c hr' hc' hlt => hP r c hr' hc' (by omega)) get1 d2
      have K12 := K1.trans K2
      obtain ⟨tc, tp, cells', e, l2, K3, hnew⟩ := processFringe_fill h F ra hk rest (s.tabs tc1 tp1) cells2
        (K12.finM.trans hfm) (l1.sh sh) (fun r c hr' hc' hlt => l1.keep r c (hP r c hr' hc' hlt)) K2.inv (K12.shape shc)
        hrest (by have := K12.mu; omega)
      refine ⟨tc, tp, cells', ?_, l1.trans l2, K12.trans K3,
        List.forall_mem_cons.mpr ⟨fun _ _ => ⟨l2.keep _ _ m1, DefAt.keeps h (fun x hx => ?_) K3⟩, hnew⟩⟩
      · unfold processFringe
        rw [if_neg (by simpa using hb)]
        refine bind_of_eq ec (bind_of_eq e1 (bind_of_eq e2 ?_))
        dsimp only
        rw [if_neg (by simp [Iv.definitive, d1])]
        exact bind_of_eq es (bind_of_eq eb e)
      · obtain ⟨y, hy, ky⟩ := K2.get hx
        rw [get1] at hy; cases hy
        exact ky.single h d2

end

/-- the lower right cell has been reached -/
def PosComplete (s : EdSt) : Prop := 0 ≤ s.fr ∧ s.nt + s.nf ≤ kOf s

theorem EdInv.complete_iff {g : Ghost} {s : EdSt} {cells : List (List M)} (inv : EdInv g s cells) :
    edComplete s = true ↔ PosComplete s := by
  have nz := inv.nz
  simp only [edComplete, PosComplete, kOf, Bool.or_eq_true, Bool.and_eq_true, decide_eq_true_eq]
  constructor
  · rintro (hf | ⟨⟨h1, h2⟩, _⟩)
    · exact inv.jc (inv.jf.mp hf)
    · exact ⟨h1, h2⟩
  · rintro ⟨h1, h2⟩
    exact Or.inr ⟨⟨h1, h2⟩, nz⟩

theorem EdInv.k_le {g : Ghost} {s : EdSt} {cells : List (List M)} (inv : EdInv g s cells) (h0 : 0 ≤ s.fr) :
    kOf s ≤ s.nt + s.nf := by
  have := inv.pos.hi; have := inv.pos.fc
  simp only [kOf]; omega

theorem EdStat.congr {s s' : EdSt} {fm fm' : List (List Nat)} (h : EdStat s fm) (e1 : s'.rem = s.rem)
    (e2 : s'.ins = s.ins) (e3 : s'.lb0 = s.lb0) (e4 : s'.ub0 = s.ub0) (e5 : fm' = fm) : EdStat s' fm' := by
  have hnt : s'.nt = s.nt := by simp [EdSt.nt, e2]
  have hnf : s'.nf = s.nf := by simp [EdSt.nf, e1]
  have hfin : edFinOf s' fm' = edFinOf s fm := by simp [edFinOf, edT, e1, e2, e5, hnt, hnf]
  exact ⟨by rw [e1]; exact h.remPos, by rw [e2]; exact h.insPos, by rw [e1, e2, e4]; exact h.total,
    by rw [e3, hfin]; exact h.lbFin, by rw [hnt, hnf, e3, e4]; exact h.lbLt⟩

section
variable {rec : Ops} {g : Ghost}

theorem EdInv.cells (h : Protocol rec g) {s : EdSt} {cells cells' : List (List M)} (inv : EdInv g s cells)
    (K : KeepsLL g cells cells') : EdInv g s cells' := by
  have hfm := K.finM
  exact ⟨inv.nz, inv.pos, K.shape inv.shape, K.inv, hfm ▸ inv.tab, inv.defs.keeps h K, inv.last, inv.jf, inv.jc,
    by rw [hfm]; exact inv.cv, by rw [hfm]; exact inv.stat⟩

/-- what every method of an `EditDistance` preserves -/
structure EdKeeps (g : Ghost) (s : EdSt) (cells : List (List M)) (s' : EdSt) (cells' : List (List M)) : Prop where
  inv : EdInv g s' cells'
  core : SameCore s s'
  kl : KeepsLL g cells cells'
  sub : (edViewOf s (finM g cells)).lo ≤ (edViewOf s' (finM g cells)).lo ∧
    (edViewOf s' (finM g cells)).hi ≤ (edViewOf s (finM g cells)).hi
  st : started s ≤ started s'

theorem EdKeeps.refl {s : EdSt} {cells : List (List M)} (inv : EdInv g s cells) : EdKeeps g s cells s cells :=
  ⟨inv, SameCore.refl s, KeepsLL.refl cells inv.cellsI, iv_sub_refl _, Nat.le_refl _⟩

theorem EdKeeps.trans {s1 s2 s3 : EdSt} {c1 c2 c3 : List (List M)} (h1 : EdKeeps g s1 c1 s2 c2)
    (h2 : EdKeeps g s2 c2 s3 c3) : EdKeeps g s1 c1 s3 c3 := by
  have hfm := h1.kl.finM
  have s2' := h2.sub
  rw [hfm] at s2'
  exact ⟨h2.inv, h1.core.trans h2.core, h1.kl.trans h2.kl, iv_sub_trans h1.sub s2', Nat.le_trans h1.st h2.st⟩

theorem EdKeeps.ofCells (h : Protocol rec g) {s : EdSt} {cells cells' : List (List M)} (inv : EdInv g s cells)
    (K : KeepsLL g cells cells') : EdKeeps g s cells s cells' :=
  ⟨inv.cells h K, SameCore.refl s, K, iv_sub_refl _, Nat.le_refl _⟩

theorem edView_complete {s : EdSt} (fm : List (List Nat)) (hc : edComplete s = true) :
    edViewOf s fm = Iv.point (edFinOf s fm) := by simp [edViewOf, hc]

theorem edFin_core {s s' : EdSt} (c : SameCore s s') (fm : List (List Nat)) : edFinOf s' fm = edFinOf s fm := by
  simp [edFinOf, c.edT, c.nt, c.nf]

/-- the corner `edit_matrix[-1][-1]`: a Remove / Insert, or the last cell of the matrix -/
theorem EdInv.corner {s : EdSt} {cells : List (List M)} (inv : EdInv g s cells) :
    ((s.nt = 0 ∨ s.nf = 0) ∧ cornerIdx s = none) ∨
      ∃ m, cornerIdx s = some (s.nt - 1, s.nf - 1) ∧ mget cells (s.nt - 1) (s.nf - 1) = .ok m ∧ g.I m ∧
        0 < s.nt ∧ 0 < s.nf := by
  by_cases hcor : s.nt = 0 ∨ s.nf = 0
  · exact Or.inl ⟨hcor, by rcases hcor with hh | hh <;> simp [cornerIdx, hh]⟩
  · have hnt : s.nt ≠ 0 := fun hh => hcor (Or.inl hh)
    have hnf : s.nf ≠ 0 := fun hh => hcor (Or.inr hh)
    obtain ⟨m, em⟩ := mget_ok inv.shape (show s.nt - 1 < s.nt by omega) (show s.nf - 1 < s.nf by omega)
    exact Or.inr ⟨m, by simp [cornerIdx, hnt, hnf], em, mget_inv inv.cellsI em, by omega, by omega⟩

/-- the part of `edits()` after the last cell has been tightened -/
def finTail (rec : Ops) (s : EdSt) (cells1 : List (List M)) : R (EdSt × List (List M)) := do
  let (s1, cells2, tr) ← backTrace rec (s.nt + s.nf + 1) s cells1 s.nt s.nf []
  pure ({ s1 with cache := some tr, freed := true }, cells2)

/-- `edits()` on a complete matrix without cached script: the last cell is tightened to a single value, the path is
    traced back (filling in the corner), cached, and the matrix is freed -/
theorem edFinalize_ok (h : Protocol rec g) (F : Nat) {s : EdSt} {cells : List (List M)} (inv : EdInv g s cells)
    (hpc : PosComplete s) (hcn : s.cache = none) (hmu : muLLg g cells < F) :
    ∃ s' cells', edFinalize rec F s cells = .ok (s', cells') ∧ EdKeeps g s cells s' cells' ∧
      s'.cache.isSome = true ∧ edComplete s' = true ∧ started s' = started s := by
  have nz := inv.nz
  have hk : kOf s = s.nt + s.nf := by have := inv.k_le hpc.1; have := hpc.2; omega
  have hnfr : s.freed = false := by
    cases hf : s.freed with
    | false => rfl
    | true => have := inv.jf.mp hf; rw [hcn] at this; cases this
  have sh : TabSh s := ⟨inv.tab.shC, inv.tab.shP⟩
  have hfill : ∀ r c, r ≤ s.nt → c ≤ s.nf → r + c < s.nt + s.nf → Match s (finM g cells) r c :=
    fun r c hr hc hlt => inv.tab.ok r c hr hc (Or.inr ⟨hpc.1, by omega, Or.inr (Or.inr (Or.inl hlt))⟩)
  -- once all inner cells hold a single value
  have tail : ∀ cells1, KeepsLL g cells cells1 → DefAll g s cells1 → Ret (finTail rec s cells1) fun r =>
      EdKeeps g s cells r.1 r.2 ∧ r.1.cache.isSome = true ∧ edComplete r.1 = true ∧ started r.1 = started s := by
    intro cells1 K1 hd1
    obtain ⟨tc, tp, cells2, e2, le, K2, mcor⟩ := backTrace_fill h (s.nt + s.nf + 1) s cells1 s.nt s.nf [] K1.finM sh
      (fun r c hr hc hp => inv.tab.ok r c hr hc (Or.inr ⟨hpc.1, by omega, by omega⟩))
      K1.inv (K1.shape inv.shape) hd1 (Nat.le_refl _) (Nat.le_refl _) (by omega)
    have K := K1.trans K2
    have hfm : finM g cells2 = finM g cells := K.finM
    -- only the tables, `cache` and `freed` differ from `s`: the other fields of the invariant are those of `s`
    have inv' : EdInv g ((s.tabs tc tp).cached (ptrace s (finM g cells) (s.nt + s.nf + 1) s.nt s.nf)) cells2 := by
      refine ⟨nz, ⟨inv.pos.lo, inv.pos.hi, inv.pos.fc, inv.pos.z⟩, K.shape inv.shape, K.inv,
        ⟨(le.sh sh).1, (le.sh sh).2, fun r c hr hc _ => ?_⟩,
        fun r c x hr hc hd hx => (DefOn.keeps h hd1 K2) r c x hr hc ⟨hd.1, hd.2.1⟩ hx, inv.last,
        ⟨fun _ => rfl, fun _ => rfl⟩, fun _ => hpc, fun tr htr => ?_, inv.stat.congr rfl rfl rfl rfl hfm⟩
      · show Match (s.tabs tc tp) (finM g cells2) r c
        rw [hfm]
        by_cases hcorner : r = s.nt ∧ c = s.nf
        · rw [hcorner.1, hcorner.2]; exact mcor
        · exact le.keep r c (hfill r c hr hc (by have : r ≤ s.nt := hr; have : c ≤ s.nf := hc; omega))
      · cases htr
        rw [hfm]
        exact (ptrace_congr (s := s) (s' := (s.tabs tc tp).cached _) rfl _ _ _).symm
    have hc' := inv'.complete_iff.mpr (inv'.jc rfl)
    have hv := (edView_complete (finM g cells) hc').trans (edView_complete _ (inv.complete_iff.mpr hpc)).symm
    exact Ret.bind_eq e2 (Ret.pure ⟨⟨inv', ⟨rfl, rfl, rfl, rfl, rfl, rfl, rfl, rfl⟩, K,
      ⟨Nat.le_of_eq (congrArg Iv.lo hv).symm, Nat.le_of_eq (congrArg Iv.hi hv)⟩, Nat.le_refl _⟩, rfl, hc', rfl⟩)
  refine Ret.ex₂ ?_
  unfold edFinalize
  rw [if_neg (by simp [hnfr])]
  rcases inv.corner with ⟨hcor, e⟩ | ⟨m, e, em, hIm, _, _⟩
  · rw [e]
    exact tail cells (KeepsLL.refl cells inv.cellsI) fun r c m hr hc hd _ => by omega
  · rw [e]
    have hmm := mget_mu_le (g := g) em
    refine Ret.bind_eq em (Ret.bind (tightenAll_ok h false F m hIm (by omega)) fun m' ⟨km, dm⟩ =>
      Ret.bind (mset_ret inv.cellsI em km) fun cells1 ⟨K1, get1, _⟩ => tail cells1 K1 fun r c x hr hc hd hx => ?_)
    by_cases hcorner : r = s.nt ∧ c = s.nf
    · obtain ⟨rfl, rfl⟩ := hcorner
      rw [get1] at hx; cases hx; exact dm
    · exact (inv.defs.keeps h K1) r c x hr hc ⟨hd.1, hd.2, hpc.1, by omega, Or.inl (by omega)⟩ hx

theorem edFin_le_ub {s : EdSt} {fm : List (List Nat)} (st : EdStat s fm) : edFinOf s fm ≤ s.ub0 := by
  have := EditMatrix.solve_total_le s.rem s.ins fm
  rw [edFin_eq_solve]
  have := st.total
  omega

theorem fringe_lb {s : EdSt} (fm : List (List Nat)) (pos : Pos s) (h1 : 1 ≤ s.fr)
    (hl : ∀ r c, (r, c) ∈ s.lastFringe ↔ (r ≤ s.nt ∧ c ≤ s.nf ∧ r + c + 1 = kOf s)) :
    EditMatrix.FringeLB s.rem s.ins fm s.nt s.nf (kOf s) (fringeMin s fm) := by
  intro r c hr hc hk
  rcases hk with hk | hk
  · have hmem : (r, c) ∈ diag s.fr s.fc s.nf := (pos.mem_diag (by omega)).mpr ⟨hr, hc, hk⟩
    have : (spec s.rem s.ins fm r c).cost ∈ costsOn s fm (diag s.fr s.fc s.nf) :=
      List.mem_map.mpr ⟨(r, c), hmem, rfl⟩
    have := minD_le this
    simp only [fringeMin, nmin]; omega
  · have hmem : (r, c) ∈ s.lastFringe := (hl r c).mpr ⟨hr, hc, hk⟩
    have : (spec s.rem s.ins fm r c).cost ∈ costsOn s fm s.lastFringe :=
      List.mem_map.mpr ⟨(r, c), hmem, rfl⟩
    have := minD_le this
    simp only [fringeMin, nmin]; omega

theorem fringeMin_le_fin {s : EdSt} (fm : List (List Nat)) (pos : Pos s) (h1 : 1 ≤ s.fr)
    (hl : ∀ r c, (r, c) ∈ s.lastFringe ↔ (r ≤ s.nt ∧ c ≤ s.nf ∧ r + c + 1 = kOf s)) :
    fringeMin s fm ≤ edFinOf s fm := by
  have hk : kOf s ≤ s.ins.length + s.rem.length := by
    have := pos.hi; have := pos.fc
    simp only [kOf, EdSt.nt, EdSt.nf] at *; omega
  rw [edFin_eq_solve]
  exact EditMatrix.fringeLB_sound s.rem s.ins fm (kOf s) (fringeMin s fm) hk (fringe_lb fm pos h1 hl)

theorem edView_wf {g : Ghost} {s : EdSt} {cells : List (List M)} (inv : EdInv g s cells) :
    (edViewOf s (finM g cells)).lo ≤ edFinOf s (finM g cells) ∧
      edFinOf s (finM g cells) ≤ (edViewOf s (finM g cells)).hi := by
  have hub := edFin_le_ub inv.stat
  have hlb := inv.stat.lbFin
  simp only [edViewOf]
  split
  · simp [Iv.point]
  · split
    · exact ⟨hlb, hub⟩
    · rename_i hfr
      have h1 : 1 ≤ s.fr := by omega
      have := fringeMin_le_fin (finM g cells) inv.pos h1 (inv.last (by omega))
      simp only [Nat.max_def]
      constructor
      · split <;> omega
      · exact hub

theorem mapM_tget {s : EdSt} {fm : List (List Nat)} (l : List (Nat × Nat)) (hm : ∀ rc ∈ l, Match s fm rc.1 rc.2) :
    l.mapM (fun (rc : Nat × Nat) => match rc with | (r, c) => tget s.costs r c) = .ok (costsOn s fm l) :=
  mapM_ok_of_forall _ fun rc hrc => (hm rc hrc).1

theorem last_ne {s : EdSt} (pos : Pos s) (h1 : 1 ≤ s.fr)
    (hl : ∀ r c, (r, c) ∈ s.lastFringe ↔ (r ≤ s.nt ∧ c ≤ s.nf ∧ r + c + 1 = kOf s)) : s.lastFringe ≠ [] := by
  have hph := pos.hi; have hpf := pos.fc; have hpz := pos.z
  have hmem : (s.fr.toNat - 1, s.fc) ∈ s.lastFringe := by
    refine (hl _ _).mpr ⟨by omega, hpf, ?_⟩
    simp only [kOf]; omega
  intro he; rw [he] at hmem; simp at hmem

theorem diag_ne {fr : Int} {fc nf : Nat} (h0 : 0 ≤ fr) (hfc : fc ≤ nf) : diag fr fc nf ≠ [] := by
  have hmem : (fr.toNat, fc) ∈ diag fr fc nf := (mem_diag h0 hfc).mpr ⟨rfl, Nat.le_refl _, hfc, Nat.le_refl _⟩
  intro he; rw [he] at hmem; simp at hmem

/-- `bounds()` returns the exposed interval and leaves it as it is; on a complete matrix it makes sure that the
    script is cached -/
theorem edBounds_keeps (h : Protocol rec g) (F : Nat) {s : EdSt} {cells : List (List M)} (inv : EdInv g s cells)
    (hmu : muLLg g cells < F) :
    ∃ s' cells', edBounds rec F s cells = .ok (s', cells', edViewOf s (finM g cells)) ∧ EdKeeps g s cells s' cells' ∧
      edViewOf s' (finM g cells) = edViewOf s (finM g cells) ∧ started s' = started s ∧
      (edComplete s' = true → s'.cache.isSome = true) ∧ edComplete s' = edComplete s ∧
      (edComplete s = false → s' = s ∧ cells' = cells) := by
  refine Ret.ex₂v ?_
  unfold edBounds
  refine Ret.ite (fun hc => ?_) fun hc => ?_
  · have hpc := inv.complete_iff.mp hc
    -- `edits()`, unless the script is cached already
    have step : ∃ s1 cells1, (if s.cache.isNone then edFinalize rec F s cells else pure (s, cells)) = .ok (s1, cells1) ∧
        EdKeeps g s cells s1 cells1 ∧ s1.cache.isSome = true ∧ edComplete s1 = true ∧ started s1 = started s := by
      cases hcache : s.cache with
      | none => exact edFinalize_ok h F inv hpc hcache hmu
      | some tr => exact ⟨s, cells, rfl, EdKeeps.refl inv, by rw [hcache]; rfl, hc, rfl⟩
    rw [ite_bind]
    refine Ret.bind₂ step fun s1 cells1 ⟨ek, hsome, hc', hst⟩ => ?_
    have hpc' := ek.inv.complete_iff.mp hc'
    have hm := ek.inv.tab.ok s1.nt s1.nf (Nat.le_refl _) (Nat.le_refl _)
      (Or.inr ⟨hpc'.1, hpc'.2, Or.inr (Or.inr (Or.inr hsome))⟩)
    refine Ret.bind_eq hm.1 (Ret.pure ⟨?_, ek, ?_, hst, fun _ => hsome, hc'.trans hc.symm, fun hh => by rw [hc] at hh; cases hh⟩)
    · show Iv.point (edFinOf s1 (finM g cells1)) = _
      rw [ek.kl.finM, edFin_core ek.core, edView_complete _ hc]
    · rw [edView_complete _ hc', edView_complete _ hc, edFin_core ek.core]
  · have hcf : edComplete s = false := Bool.eq_false_iff.mpr hc
    have wf := edView_wf inv
    have hub := edFin_le_ub inv.stat
    refine ⟨(s, cells, edViewOf s (finM g cells)), ?_, rfl, EdKeeps.refl inv, rfl, rfl,
      fun hh => (by rw [hcf] at hh; cases hh), rfl, fun _ => ⟨rfl, rfl⟩⟩
    by_cases hfr : s.fr ≤ 0
    · simp only [edViewOf, hcf, Bool.false_eq_true, if_false, hfr, if_true] at wf ⊢
      have hle : ¬ (s.ub0 < s.lb0) := by omega
      simp [Iv.mk?, hle]
    · have h1 : 1 ≤ s.fr := by omega
      have h0 : 0 ≤ s.fr := by omega
      have hl := inv.last h0
      have hk := inv.k_le h0
      have hnotpc : ¬ PosComplete s := fun hp => hc (inv.complete_iff.mpr hp)
      have hklt : kOf s < s.nt + s.nf := by
        simp only [PosComplete] at hnotpc; omega
      -- every cell of the two fringes is filled in
      have hcur : ∀ rc ∈ diag s.fr s.fc s.nf, Match s (finM g cells) rc.1 rc.2 := by
        intro rc hrc
        obtain ⟨hr, hc, hrc⟩ := (inv.pos.mem_diag h0).mp hrc
        exact inv.tab.ok _ _ hr hc (Or.inr ⟨h0, by omega, Or.inr (Or.inr (Or.inl (by omega)))⟩)
      have hlast : ∀ rc ∈ s.lastFringe, Match s (finM g cells) rc.1 rc.2 := by
        intro rc hrc
        obtain ⟨r, c⟩ := rc
        have hm := (hl r c).mp hrc
        exact inv.tab.ok r c hm.1 hm.2.1 (Or.inr ⟨h0, by omega, Or.inr (Or.inr (Or.inl (by omega)))⟩)
      have e1 := mapM_tget _ hcur
      have e2 := mapM_tget _ hlast
      have n1 : costsOn s (finM g cells) (diag s.fr s.fc s.nf) ≠ [] := by
        simp only [costsOn, ne_eq, List.map_eq_nil_iff]; exact diag_ne h0 inv.pos.fc
      have n2 : costsOn s (finM g cells) s.lastFringe ≠ [] := by
        simp only [costsOn, ne_eq, List.map_eq_nil_iff]; exact last_ne inv.pos h1 hl
      simp only [edViewOf, hcf, Bool.false_eq_true, if_false, hfr] at wf ⊢
      have hle : ¬ (s.ub0 < Nat.max s.lb0 (fringeMin s (finM g cells))) := by omega
      simp only [bind, Except.bind, e1, e2, minList_eq n1, minList_eq n2, Iv.mk?, pure, Except.pure]
      simp only [fringeMin] at hle
      simp [hle, fringeMin]

end

end GtModel.Lazy
