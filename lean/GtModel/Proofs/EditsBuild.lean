/-
  `build` (the model of `json.build_tree`) produces trees with distinct keys from documents with distinct keys
  (a Python `dict` cannot hold a key twice).
-/
import GtModel.Proofs.EditsEqSymm
import GtModel.Proofs.ZeroBuild
namespace GtModel

mutual
def Doc.keysDistinct : Doc → Bool
  | .scalar _ => true
  | .list cs => dkdL cs
  | .obj kvs => decide ((kvs.map Prod.fst).Nodup) && dkdKV kvs
def dkdL : List Doc → Bool
  | [] => true
  | c :: cs => c.keysDistinct && dkdL cs
def dkdKV : List (Str × Doc) → Bool
  | [] => true
  | (_, v) :: rest => v.keysDistinct && dkdKV rest
end

/-- every object of the document has pairwise distinct keys -/
abbrev Doc.KeysDistinct (d : Doc) : Prop := d.keysDistinct = true

mutual
/-- `Doc.distinctKeys` (C02) and `Doc.keysDistinct` (C01) are the same predicate -/
theorem Doc.distinctKeys_eq_keysDistinct : ∀ d : Doc, d.distinctKeys = d.keysDistinct
  | .scalar _ => rfl
  | .list cs => by rw [Doc.distinctKeys, Doc.keysDistinct, dkL_eq_dkdL cs]
  | .obj kvs => by rw [Doc.distinctKeys, Doc.keysDistinct, dkKV_eq_dkdKV kvs]
theorem dkL_eq_dkdL : ∀ cs : List Doc, dkL cs = dkdL cs
  | [] => rfl
  | c :: cs => by rw [dkL, dkdL, Doc.distinctKeys_eq_keysDistinct c, dkL_eq_dkdL cs]
theorem dkKV_eq_dkdKV : ∀ kvs : List (Str × Doc), dkKV kvs = dkdKV kvs
  | [] => rfl
  | (_, v) :: rest => by rw [dkKV, dkdKV, Doc.distinctKeys_eq_keysDistinct v, dkKV_eq_dkdKV rest]
end

theorem build_kd (o : Opts) (d : Doc) (h : d.KeysDistinct) : (build o d).KeysDistinct :=
  (build o d).WF_eq_keysDistinct.symm.trans (build_WF o d ((Doc.distinctKeys_eq_keysDistinct d).trans h))

theorem buildL_kd (o : Opts) : ∀ cs : List Doc, dkdL cs = true → kdL (build.buildL o cs) = true :=
  fun cs h => build_kd o (.list cs) h

theorem buildKV_kd (o : Opts) : ∀ kvs : List (Str × Doc), dkdKV kvs = true →
    kdKV (build.buildKV o kvs) = true ∧ (build.buildKV o kvs).map Prod.fst = kvs.map Prod.fst := by
  intro kvs h
  rw [← dkKV_eq_dkdKV, dkKV_iff] at h
  refine ⟨?_, buildKV_keys o kvs⟩
  rw [kdKV_iff, buildKV_eq_map]
  intro kv hkv
  obtain ⟨p, hp, rfl⟩ := List.mem_map.1 hkv
  exact build_kd o p.2 ((Doc.distinctKeys_eq_keysDistinct p.2).symm.trans (h p hp))

end GtModel
