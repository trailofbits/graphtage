/-
  Executable checks `wfB` (a script is a well-formed edit, `Render.WF`) and `gateB` (the root gate, `Render.Gate`),
  together `scriptOKB`, and their soundness for trees with distinct keys (`scriptOKB_sound`).  The driver evaluates it on every case of the `render` stream: an
  executable cross-check of `Render.script_wellformed` (which proves the same for every engine script).
-/
import GtModel.Proofs.RenderEdits

namespace GtModel.Render
open GtModel

theorem children_kd (x : Item) (h : x.kd = true) : ∀ c ∈ x.children, c.kd = true := by
  intro c hc
  rcases mem_children hc with ⟨cs, t, rfl, ht, rfl⟩ | ⟨kvs, kv, rfl | rfl, hkv, rfl⟩ | ⟨k, v, rfl, rfl | rfl⟩
  · exact (kd_list cs).1 h t ht
  · exact ((kd_dict kvs).1 h).2 kv hkv
  · exact ((kd_fdict kvs).1 h).2 kv hkv
  · rfl
  · exact h

def listEqB : List Item → List Item → Bool
  | [], [] => true
  | a :: as, b :: bs => itemEqB a b && listEqB as bs
  | _, _ => false

theorem listEqB_eq_all₂ : ∀ (as bs : List Item), listEqB as bs = all₂ itemEqB as bs :=
  eq_all₂_of_rec rfl (fun _ _ _ _ => rfl) (fun _ _ => rfl) (fun _ _ => rfl)

theorem listEqB_sound {as bs : List Item} (ha : ∀ a ∈ as, a.kd = true) (hb : ∀ b ∈ bs, b.kd = true)
    (h : listEqB as bs = true) : ValPermL (as.map Item.val) (bs.map Item.val) := by
  rw [listEqB_eq_all₂, all₂_iff] at h
  exact ValPermL_iff_forall₂.2 (.map (h.imp fun a haa b hbb e => itemEqB_sound (ha a haa) (hb b hbb) e))

def removeFirst (p : Item → Bool) : List Item → Option (List Item)
  | [] => none
  | b :: bs => if p b then some bs else (removeFirst p bs).map (b :: ·)

theorem removeFirst_some (p : Item → Bool) : ∀ (bs bs' : List Item), removeFirst p bs = some bs' →
    ∃ b, p b = true ∧ bs.Perm (b :: bs')
  | [], _, h => by simp [removeFirst] at h
  | b :: bs, bs', h => by
    simp only [removeFirst] at h
    split at h
    · rename_i hp
      simp only [Option.some.injEq] at h
      subst h
      exact ⟨b, hp, List.Perm.refl _⟩
    · obtain ⟨r, hr, rfl⟩ := Option.map_eq_some_iff.1 h
      obtain ⟨c, hc, hperm⟩ := removeFirst_some p bs r hr
      exact ⟨c, hc, (List.Perm.cons b hperm).trans (List.Perm.swap c b r)⟩

def permB : List Item → List Item → Bool
  | [], bs => bs.isEmpty
  | a :: as, bs =>
      match removeFirst (itemEqB a) bs with
      | some bs' => permB as bs'
      | none => false

theorem permB_sound : ∀ (as bs : List Item), (∀ a ∈ as, a.kd = true) → (∀ b ∈ bs, b.kd = true) →
    permB as bs = true → ValPermP (as.map Item.val) (bs.map Item.val)
  | [], bs, _, _, h => by
    have : bs = [] := by simpa [permB] using h
    subst this; exact .nil
  | a :: as, bs, ha, hbs, h => by
    simp only [permB] at h
    split at h
    · rename_i bs' hr
      obtain ⟨b, hb, hperm⟩ := removeFirst_some _ _ _ hr
      have hmem : ∀ x ∈ b :: bs', x.kd = true := fun x hx => hbs x (hperm.mem_iff.2 hx)
      have ih := permB_sound as bs' (fun x hx => ha x (by simp [hx])) (fun x hx => hmem x (by simp [hx])) h
      have h1 : ValPermP ((a :: as).map Item.val) ((b :: bs').map Item.val) := by
        simpa using ValPermP.cons (itemEqB_sound (ha a (by simp)) (hmem b (by simp)) hb) ih
      exact .permR h1 (hperm.symm.map Item.val)
    · cases h

def strOKB (a b : Str) (subs : List Script) : Bool :=
  subs.all (fun s => (classifyChar a b s).isSome) && sideChars true a b subs == a && sideChars false a b subs == b
    && a != b

theorem strOKB_sound {a b : Str} {subs : List Script} (h : strOKB a b subs = true) : StrOK a b subs := by
  simp only [strOKB, Bool.and_eq_true, List.all_eq_true, beq_iff_eq, bne_iff_ne, ne_eq] at h
  refine ⟨?_, h.1.1.2, h.1.2, h.2⟩
  intro s hs
  exact Option.isSome_iff_exists.1 (h.1.1.1 s hs)

def keyOKB (fk tk : Str) (ke : Script) : Bool :=
  (ke.kind == .match_ || ke.kind == .str) && (ke.cost != 0 || fk == tk) &&
  (ke.kind != .str || strOKB fk tk ke.subs)

theorem keyOKB_sound {fk tk : Str} {ke : Script} (h : keyOKB fk tk ke = true) : KeyOK fk tk ke := by
  simp only [keyOKB, Bool.and_eq_true, Bool.or_eq_true, beq_iff_eq, bne_iff_ne, ne_eq] at h
  exact ⟨h.1.1, fun hc => h.1.2.resolve_left fun n => n hc, fun hs => strOKB_sound (h.2.resolve_left fun n => n hs)⟩

def gateB (x y : Item) (s : Script) : Bool :=
  s.kind != .remove && s.kind != .insert && (s.cost != 0 || isCompound s.kind || itemEqB x y)

theorem gateB_sound {x y : Item} {s : Script} (hx : x.kd = true) (hy : y.kd = true) (h : gateB x y s = true) :
    Gate x y s := by
  simp only [gateB, Bool.and_eq_true, Bool.or_eq_true, bne_iff_ne, ne_eq] at h
  exact ⟨h.1.1, h.1.2, fun hc => h.2.elim (fun h' => .inl (h'.resolve_left fun n => n hc))
    fun h' => .inr (itemEqB_sound hx hy h')⟩

def coverB (x y : Item) (subs : List Script) : Bool :=
  match x.brackets, y.brackets with
  | some (o, c), some (o', c') =>
      o == o' && c == c' &&
      (if o == 91 then
        listEqB (sideItems true x.children y.children subs) x.children &&
        listEqB (sideItems false x.children y.children subs) y.children
      else
        permB (sideItems true x.children y.children subs) x.children &&
        permB (sideItems false x.children y.children subs) y.children)
  | _, _ => false

theorem sideItems_kd (side : Bool) (fcs tcs : List Item) (subs : List Script) (hf : ∀ a ∈ fcs, a.kd = true)
    (ht : ∀ b ∈ tcs, b.kd = true) : ∀ z ∈ sideItems side fcs tcs subs, z.kd = true := by
  intro z hz
  simp only [sideItems, List.mem_filterMap] at hz
  obtain ⟨s, _, hs⟩ := hz
  split at hs
  · cases hs
  · obtain ⟨p, hp, rfl⟩ := Option.map_eq_some_iff.1 hs
    obtain ⟨a, b⟩ := p
    have hab := resolve_forall hf ht hp
    cases side
    · exact hab.2
    · exact hab.1

theorem coverB_sound {x y : Item} {subs : List Script} (hx : x.kd = true) (hy : y.kd = true)
    (h : coverB x y subs = true) : Cover x y subs := by
  have hcx := children_kd x hx
  have hcy := children_kd y hy
  unfold coverB at h
  split at h
  · rename_i o c o' c' hx hy
    simp only [Bool.and_eq_true, beq_iff_eq] at h
    obtain ⟨⟨rfl, rfl⟩, h3⟩ := h
    refine ⟨o, c, hx, hy, ?_⟩
    by_cases ho : o = 91
    · simp only [ho, if_true, Bool.and_eq_true] at h3 ⊢
      exact ⟨listEqB_sound (sideItems_kd _ _ _ _ hcx hcy) hcx h3.1, listEqB_sound (sideItems_kd _ _ _ _ hcx hcy) hcy h3.2⟩
    · simp only [if_false, Bool.and_eq_true, ho] at h3 ⊢
      exact ⟨permB_sound _ _ (sideItems_kd _ _ _ _ hcx hcy) hcx h3.1,
        permB_sound _ _ (sideItems_kd _ _ _ _ hcx hcy) hcy h3.2⟩
  · cases h

mutual
def wfB : Item → Item → Script → Bool
  | x, y, .mk .match_ _ _ c _ => decide (c > 0) || itemEqB y x
  | _, _, .mk .replace _ _ c _ => decide (c > 0)
  | _, _, .mk .remove _ _ _ _ => true
  | _, _, .mk .insert _ _ _ _ => false      -- an Insert only occurs as a sub-edit; see `wfSubsB`
  | x, y, .mk .str _ _ _ subs =>
      match x, y with
      | .tree (.leaf (.str a)), .tree (.leaf (.str b)) => strOKB a b subs
      | _, _ => false
  | x, y, .mk .kvp _ _ _ subs =>
      match x, y, subs with
      | .kv fk fv, .kv tk tv, [ke, ve] =>
          keyOKB fk tk ke && wfB (.tree fv) (.tree tv) ve && gateB (.tree fv) (.tree tv) ve
      | _, _, _ => false
  | x, y, .mk .ed _ _ _ subs => coverB x y subs && wfSubsB x.children y.children subs
  | x, y, .mk .fixed _ _ _ subs => coverB x y subs && wfSubsB x.children y.children subs
  | x, y, .mk .ms _ _ _ subs => coverB x y subs && wfSubsB x.children y.children subs
  | x, y, .mk .fk _ _ _ subs => coverB x y subs && wfSubsB x.children y.children subs
def wfSubsB (fcs tcs : List Item) : List Script → Bool
  | [] => true
  | s :: rest =>
      (match resolve fcs tcs s with
        | some (x, y) => s.kind == .insert || wfB x y s
        | none => false) && wfSubsB fcs tcs rest
end

/-- what `wfB_sound` proves by induction over the script -/
def WfBSound (s : Script) : Prop := ∀ x y : Item, x.kd = true → y.kd = true → wfB x y s = true → WF x y s

theorem wfSubsB_sound (fcs tcs : List Item) (hf : ∀ a ∈ fcs, a.kd = true) (ht : ∀ b ∈ tcs, b.kd = true)
    (subs : List Script) (ih : ∀ s ∈ subs, WfBSound s)
    (h : wfSubsB fcs tcs subs = true) : WFSubs fcs tcs subs := by
  induction subs with
  | nil => simp [WFSubs]
  | cons s rest ihr =>
    simp only [wfSubsB, Bool.and_eq_true] at h
    obtain ⟨h1, h2⟩ := h
    refine ⟨?_, ihr (fun s hs => ih s (by simp [hs])) h2⟩
    split at h1
    · rename_i x y hres
      refine ⟨x, y, hres, ?_⟩
      simp only [Bool.or_eq_true, beq_iff_eq] at h1
      rcases h1 with hk | hw
      · obtain ⟨_, _, ⟨hr, _⟩ | ⟨_, _, rfl⟩ | ⟨_, hi, _⟩⟩ := resolve_some hres
        · rw [hk] at hr; cases hr
        · cases s with
          | mk k fi ti c sb => cases hk; simp [WF]
        · exact absurd hk hi
      · obtain ⟨hxk, hyk⟩ := resolve_forall hf ht hres
        exact ih s (by simp) x y hxk hyk hw
    · cases h1

theorem wfB_seq {k : Kind} (hk : isSeqKind k = true) (x y : Item) (fi ti : Ix) (c : Nat) (subs : List Script) :
    wfB x y (.mk k fi ti c subs) = (coverB x y subs && wfSubsB x.children y.children subs) := by
  cases k <;> simp [isSeqKind] at hk <;> rw [wfB]

theorem wfB_sound : ∀ s, WfBSound s := by
  apply scriptInd
  intro k fi ti c subs ih x y hx hy h
  induction k using kindCases with
  | match_ =>
    simp only [wfB, Bool.or_eq_true, decide_eq_true_eq] at h
    simp only [WF]
    exact h.imp_right (itemEqB_sound hy hx)
  | replace => simpa [wfB, WF] using h
  | remove => simp [WF]
  | insert => simp [wfB] at h
  | str =>
    match x, y, h with
    | .tree (.leaf (.str a)), .tree (.leaf (.str b)), h =>
      simp only [wfB] at h
      simp only [WF]
      exact ⟨a, b, rfl, rfl, strOKB_sound h⟩
  | kvp =>
    match x, y, subs, h, ih, hx, hy with
    | .kv fk fv, .kv tk tv, [ke, ve], h, ih, hx, hy =>
      simp only [wfB, Bool.and_eq_true] at h
      simp only [WF]
      exact ⟨keyOKB_sound h.1.1, ih ve (by simp) (.tree fv) (.tree tv) hx hy h.1.2,
        gateB_sound (x := .tree fv) (y := .tree tv) hx hy h.2⟩
  | seq k hk =>
    rw [wfB_seq hk, Bool.and_eq_true] at h
    rw [wf_seq hk]
    exact ⟨coverB_sound hx hy h.1, wfSubsB_sound _ _ (children_kd x hx) (children_kd y hy) _ ih h.2⟩

/-- the executable form of the pair `WF ∧ Gate` (which Props/C06 names `C06.ScriptWellFormed`) -/
def scriptOKB (f t : Tree) (s : Script) : Bool :=
  wfB (.tree f) (.tree t) s && gateB (.tree f) (.tree t) s

theorem scriptOKB_sound (f t : Tree) (s : Script) (hf : f.KeysDistinct) (ht : t.KeysDistinct)
    (h : scriptOKB f t s = true) : WF (.tree f) (.tree t) s ∧ Gate (.tree f) (.tree t) s := by
  simp only [scriptOKB, Bool.and_eq_true] at h
  exact ⟨wfB_sound s (.tree f) (.tree t) hf ht h.1, gateB_sound (x := .tree f) (y := .tree t) hf ht h.2⟩

end GtModel.Render
