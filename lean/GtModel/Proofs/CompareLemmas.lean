/- `BoundedComparator.__lt__/__le__` and `min_bounded`: exit conditions and consistency with the final costs. -/
import GtModel.Proofs.BoundedLemmas

namespace GtModel.Bounded
open GtModel

variable {σ : St} {fs : List Int}

theorem result_rest_nil_of_both_false {i j : Nat}
    (h1 : ¬ (tightenAt σ i).1 = true) (h2 : ¬ (tightenAt (tightenAt σ i).2 j).1 = true)
    {a b : Item} (ha : (tightenAt (tightenAt σ i).2 j).2[i]? = some a)
    (hb : (tightenAt (tightenAt σ i).2 j).2[j]? = some b) : a.rest = [] ∧ b.rest = [] := by
  simp only [Bool.not_eq_true] at h1 h2
  obtain ⟨a1, ha1, rfl⟩ := tightenAt_get_inv ha
  obtain ⟨a0, ha0, rfl⟩ := tightenAt_get_inv ha1
  obtain ⟨b1, hb1, rfl⟩ := tightenAt_get_inv hb
  obtain ⟨b0, hb0, rfl⟩ := tightenAt_get_inv hb1
  obtain ⟨ra, rb⟩ := rest_nil_of_both_false ha0 hb0 h1 h2
  exact ⟨(Item.rest_nil_ite (Item.rest_nil_ite ra _).1 _).1, (Item.rest_nil_ite (Item.rest_nil_ite rb _).1 _).1⟩

theorem ltLoop_exit (σ : St) (i j : Nat) : ∀ a b, (ltLoop σ i j)[i]? = some a → (ltLoop σ i j)[j]? = some b →
    a.cur.dominates b.cur = true ∨ b.cur.dominates a.cur = true ∨ (a.rest = [] ∧ b.rest = []) := by
  fun_induction ltLoop σ i j with
  | case1 σ a0 b0 hj hi hc =>
    intro a b ha hb
    rw [hi] at ha; rw [hj] at hb; cases ha; cases hb
    simp at hc; rcases hc with h | h
    · exact .inl h
    · exact .inr (.inl h)
  | case2 σ a b _ _ _ h1 ih => exact ih
  | case3 σ a b _ _ _ h1 h2 ih => exact ih
  | case4 σ a0 b0 _ _ _ h1 h2 =>
    intro a b ha hb
    exact .inr (.inr (result_rest_nil_of_both_false h1 h2 ha hb))
  | case5 σ hno =>
    intro a b ha hb
    exact (hno a b ha hb).elim

theorem fullTighten_exit (σ : St) (i j : Nat) : ∀ a b, (fullTighten σ i j)[i]? = some a →
    (fullTighten σ i j)[j]? = some b → a.rest = [] ∧ b.rest = [] := by
  fun_induction fullTighten σ i j with
  | case1 σ h1 ih => exact ih
  | case2 σ h1 h2 ih => exact ih
  | case3 σ h1 h2 => intro a b ha hb; exact result_rest_nil_of_both_false h1 h2 ha hb

theorem point_dominates {n m : Int} : (Range.point n).dominates (Range.point m) = true ↔ n ≤ m := by
  simp [Range.dominates, Range.point, Bound.fin_le_fin]

theorem point_eq {n m : Int} : Range.point n = Range.point m ↔ n = m := by
  simp [Range.point]

/-- the comparator's answer on two valid items that satisfy the exit condition of its loop -/
theorem cmp_sound {a b : Item} {na nb : Int} (va : a.Valid na) (vb : b.Valid nb) (idlt : Bool)
    (hex : a.cur.dominates b.cur = true ∨ b.cur.dominates a.cur = true ∨ (a.rest = [] ∧ b.rest = [])) :
    ((a.cur.dominates b.cur || (a.cur == b.cur && idlt)) = true → na ≤ nb) ∧
    ((a.cur.dominates b.cur || (a.cur == b.cur && idlt)) = false → nb ≤ na) := by
  -- an answer `True` through equal ranges: then `b` dominating `a` is `a` dominating `b`
  have heq : a.cur = b.cur → b.cur.dominates a.cur = true → na ≤ nb :=
    fun e h => dom_final va vb (by rw [e] at h ⊢; exact h)
  simp only [Bool.or_eq_true, Bool.and_eq_true, beq_iff_eq, Bool.or_eq_false_iff]
  rcases hex with h | h | ⟨ra, rb⟩
  · exact ⟨fun _ => dom_final va vb h, fun hf => by rw [h] at hf; cases hf.1⟩
  · exact ⟨fun ht => ht.elim (dom_final va vb) (fun e => heq e.1 h), fun _ => dom_final vb va h⟩
  · rw [va.last ra, vb.last rb, point_eq]
    refine ⟨fun ht => ht.elim point_dominates.mp (fun e => Int.le_of_eq e.1), fun hf => ?_⟩
    have : ¬ na ≤ nb := fun hle => by rw [point_dominates.mpr hle] at hf; cases hf.1
    omega

theorem ltCmp_eq {i j : Nat} {a b : Item} (ha : (ltLoop σ i j)[i]? = some a)
    (hb : (ltLoop σ i j)[j]? = some b) (idlt : Bool) :
    ltCmp σ i j idlt = (a.cur.dominates b.cur || (a.cur == b.cur && idlt), ltLoop σ i j) := by
  simp only [ltCmp, ha, hb]

theorem ltCmp_snd (σ : St) (i j : Nat) (idlt : Bool) : (ltCmp σ i j idlt).2 = ltLoop σ i j := by
  unfold ltCmp; dsimp only; split <;> rfl

theorem ltCmp_spec (hv : ValidSt σ fs) (i j : Nat) (idlt : Bool) {ni nj : Int}
    (hi : fs[i]? = some ni) (hj : fs[j]? = some nj) :
    Reach σ (ltCmp σ i j idlt).2 ∧ ((ltCmp σ i j idlt).1 = true → ni ≤ nj) ∧
      ((ltCmp σ i j idlt).1 = false → nj ≤ ni) := by
  have hr := ltLoop_reach σ i j
  obtain ⟨a, ha, va⟩ := (hr.valid hv).get_fs hi
  obtain ⟨b, hb, vb⟩ := (hr.valid hv).get_fs hj
  rw [ltCmp_eq ha hb]
  exact ⟨hr, cmp_sound va vb idlt (ltLoop_exit σ i j a b ha hb)⟩

theorem leCmp_spec (hv : ValidSt σ fs) (i j : Nat) (idlt : Bool) {ni nj : Int}
    (hi : fs[i]? = some ni) (hj : fs[j]? = some nj) :
    Reach σ (leCmp σ i j idlt).2 ∧ ((leCmp σ i j idlt).1 = true ↔ ni ≤ nj) := by
  obtain ⟨hr, ht, hf⟩ := ltCmp_spec hv i j idlt hi hj
  cases hres : (ltCmp σ i j idlt).1
  · -- `<` answered `False`: both items are tightened to the end and their points compared
    have hr2 := hr.trans (fullTighten_reach (ltCmp σ i j idlt).2 i j)
    obtain ⟨a, ha, va⟩ := (hr2.valid hv).get_fs hi
    obtain ⟨b, hb, vb⟩ := (hr2.valid hv).get_fs hj
    obtain ⟨ra, rb⟩ := fullTighten_exit _ i j a b ha hb
    have := hf hres
    simp only [leCmp, hres, curAt_of_get ha, curAt_of_get hb, Bool.false_eq_true, ↓reduceIte, beq_iff_eq,
      Option.some.injEq, va.last ra, vb.last rb, point_eq]
    exact ⟨hr2, by omega⟩
  · simp only [leCmp, hres, ↓reduceIte, true_iff]
    exact ⟨hr, ht hres⟩

def LE (fs : List Int) (x y : Nat) : Prop := ∃ nx ny, fs[x]? = some nx ∧ fs[y]? = some ny ∧ nx ≤ ny

theorem LE.trans {x y z : Nat} (h1 : LE fs x y) (h2 : LE fs y z) : LE fs x z := by
  obtain ⟨a, b, ha, hb, hab⟩ := h1
  obtain ⟨b', c, hb', hc, hbc⟩ := h2
  rw [hb] at hb'; cases hb'
  exact ⟨a, c, ha, hc, by omega⟩

theorem LE.refl {x : Nat} (h : x < fs.length) : LE fs x x :=
  ⟨fs[x], fs[x], List.getElem?_eq_getElem h, List.getElem?_eq_getElem h, Int.le_refl _⟩

theorem LE.le_of_get {x y : Nat} {nx ny : Int} (h : LE fs x y) (hx : fs[x]? = some nx)
    (hy : fs[y]? = some ny) : nx ≤ ny := by
  obtain ⟨a, b, ha, hb, hab⟩ := h
  rw [hx] at ha; rw [hy] at hb; cases ha; cases hb; exact hab

theorem ltCmp_le (hv : ValidSt σ fs) {i j : Nat} (hi : i < fs.length) (hj : j < fs.length)
    (idlt : Bool) : Reach σ (ltCmp σ i j idlt).2 ∧ ((ltCmp σ i j idlt).1 = true → LE fs i j) ∧
      ((ltCmp σ i j idlt).1 = false → LE fs j i) := by
  have gi := List.getElem?_eq_getElem hi
  have gj := List.getElem?_eq_getElem hj
  obtain ⟨r, t, f⟩ := ltCmp_spec hv i j idlt gi gj
  exact ⟨r, fun h => ⟨_, _, gi, gj, t h⟩, fun h => ⟨_, _, gj, gi, f h⟩⟩

theorem minLoop_some (orc : Nat → Bool) : ∀ (ks : List Nat) (σ : St) (b : Nat),
    ValidSt σ fs → b < fs.length → (∀ k ∈ ks, k < fs.length) →
    ∃ m, (minLoop orc σ ks (some b)).1 = some m ∧ Reach σ (minLoop orc σ ks (some b)).2 ∧
      m < fs.length ∧ ∀ k ∈ b :: ks, LE fs m k
  | [], σ, b, _, hb, _ => ⟨b, rfl, .refl _, hb, fun k hk => by
      rw [List.mem_singleton] at hk; subst hk; exact LE.refl hb⟩
  | k :: ks, σ, b, hv, hb, hks => by
    have hk := hks k (List.mem_cons_self ..)
    have hks' : ∀ k' ∈ ks, k' < fs.length := fun k' h' => hks k' (List.mem_cons_of_mem _ h')
    obtain ⟨c1, c2, c3⟩ := ltCmp_le hv hk hb (orc k)
    simp only [minLoop]
    cases hres : (ltCmp σ k b (orc k)).1
    · -- `b` stays: it is below `k`
      obtain ⟨m, e, r, hm, hle⟩ := minLoop_some orc ks _ b (c1.valid hv) hb hks'
      refine ⟨m, e, c1.trans r, hm, fun k' hk' => ?_⟩
      rcases List.mem_cons.mp hk' with rfl | hk'
      · exact hle _ (List.mem_cons_self ..)
      · rcases List.mem_cons.mp hk' with rfl | hk'
        · exact (hle b (List.mem_cons_self ..)).trans (c3 hres)
        · exact hle k' (List.mem_cons_of_mem _ hk')
    · -- `k` becomes the best: it is below `b`
      obtain ⟨m, e, r, hm, hle⟩ := minLoop_some orc ks _ k (c1.valid hv) hk hks'
      refine ⟨m, e, c1.trans r, hm, fun k' hk' => ?_⟩
      rcases List.mem_cons.mp hk' with rfl | hk'
      · exact (hle k (List.mem_cons_self ..)).trans (c2 hres)
      · exact hle k' hk'

end GtModel.Bounded
