/-
  Definitions shared by the ghost data (LazyBase) and the per-class proofs: initial upper bounds of a collection;
  tables, the greedy matrix over the cells' final costs, the invariant and the exposed interval of an EditDistance.
-/
import GtModel.Proofs.LazyGhost
import GtModel.Proofs.EditMatrix

namespace GtModel.Lazy
open GtModel.EditMatrix (Cell Move step spec lexLe goLeft goUp goDiag cellAt)

/-- every element's upper bound is at most its recorded initial upper bound (parallel lists of equal length) -/
def HiLe (g : Ghost) : List M → List Nat → Prop
  | [], [] => True
  | m :: ms, i :: is => (g.view m).hi ≤ i ∧ HiLe g ms is
  | _, _ => False

/-- what `EditCollection.bounds()` subtracts from the upper bound: Σ (initial upper bound − current upper bound) -/
def decOf (g : Ghost) : List M → List Nat → Nat
  | [], _ => 0
  | m :: ms, is => (is.headD 0 - (g.view m).hi) + decOf g ms is.tail


/-- a ghost that only knows the exposed intervals (used inside the invariant of `coll`) -/
def viewOnly (view : M → Iv) : Ghost :=
  { I := fun _ => True, Q := fun _ => True, view := view, fin := fun _ => 0, μ := fun _ => 0, script := fun _ => default }

/-- an `m × n` table -/
def TShape (t : List (List Nat)) (m n : Nat) : Prop := t.length = m ∧ ∀ row ∈ t, row.length = n

/-- the cell matrix has `m` rows of `n` cells -/
def MShape (t : List (List M)) (m n : Nat) : Prop := t.length = m ∧ ∀ row ∈ t, row.length = n

/-- the matrix of the cells' final costs -/
def finM (g : Ghost) (t : List (List M)) : List (List Nat) := t.map (·.map g.fin)

def sumLo (g : Ghost) : List M → Nat
  | [] => 0
  | m :: ms => (g.view m).lo + sumLo g ms
def sumHi (g : Ghost) : List M → Nat
  | [] => 0
  | m :: ms => (g.view m).hi + sumHi g ms
def sumFin (g : Ghost) : List M → Nat
  | [] => 0
  | m :: ms => g.fin m + sumFin g ms
def sumMu (g : Ghost) : List M → Nat
  | [] => 0
  | m :: ms => g.μ m + sumMu g ms

def muLLg (g : Ghost) : List (List M) → Nat
  | [] => 0
  | r :: rs => sumMu g r + muLLg g rs

/-- the matrix of the cells' scripts -/
def scrM (g : Ghost) (t : List (List M)) : List (List DScript) := t.map (·.map g.script)

/-- the greedy matrix over the final costs `fm` of the cells -/
def edT (s : EdSt) (fm : List (List Nat)) : Nat → Nat → Cell := spec s.rem s.ins fm

/-- the final cost of the EditDistance -/
def edFinOf (s : EdSt) (fm : List (List Nat)) : Nat := (edT s fm s.nt s.nf).cost

/-- table entry (r, c) holds the greedy matrix' cost and path length -/
def Match (s : EdSt) (fm : List (List Nat)) (r c : Nat) : Prop :=
  tget s.costs r c = .ok (edT s fm r c).cost ∧ tget s.paths r c = .ok (edT s fm r c).path

/-- the tables have the right shape and agree with the greedy matrix on the set `P` -/
structure TabOK (s : EdSt) (fm : List (List Nat)) (P : Nat → Nat → Prop) : Prop where
  shC : TShape s.costs (s.nt + 1) (s.nf + 1)
  shP : TShape s.paths (s.nt + 1) (s.nf + 1)
  ok : ∀ r c, r ≤ s.nt → c ≤ s.nf → P r c → Match s fm r c

/-- where the fringe is -/
structure Pos (s : EdSt) : Prop where
  lo : -1 ≤ s.fr
  hi : s.fr ≤ s.nt
  fc : s.fc ≤ s.nf
  z : s.fr < s.nt → s.fc = 0      -- the fringe runs down column 0, then right along the bottom row

/-- number of anti-diagonals started so far = index of the next one -/
def started (s : EdSt) : Nat := (s.fr + 1).toNat + s.fc

def kOf (s : EdSt) : Nat := s.fr.toNat + s.fc

/-- the move that enters (row, col) in the greedy matrix -/
def moveAt (s : EdSt) (fm : List (List Nat)) (row col : Nat) : Move :=
  if row == 0 then .left else if col == 0 then .up else (edT s fm row col).script.headD .left

def predOf (mv : Move) (row col : Nat) : Nat × Nat :=
  match mv with
  | .diag => (row - 1, col - 1) | .up => (row - 1, col) | .left => (row, col - 1)

/-- the path from (row, col) back to the origin in the greedy matrix, corner first: what `edits()` caches -/
def ptrace (s : EdSt) (fm : List (List Nat)) : Nat → Nat → Nat → List (Move × Nat × Nat)
  | 0, _, _ => []
  | k + 1, row, col =>
      if row == 0 && col == 0 then []
      else (moveAt s fm row col, row, col) ::
        ptrace s fm k (predOf (moveAt s fm row col) row col).1 (predOf (moveAt s fm row col) row col).2

/-- the inner cells in `D` are definitive -/
def DefOn (g : Ghost) (cells : List (List M)) (D : Nat → Nat → Prop) : Prop :=
  ∀ r c m, 1 ≤ r → 1 ≤ c → D r c → mget cells (r - 1) (c - 1) = .ok m → (g.view m).lo = (g.view m).hi

def minD : List Nat → Nat
  | [] => 0
  | x :: xs => xs.foldl Nat.min x

def costsOn (s : EdSt) (fm : List (List Nat)) (l : List (Nat × Nat)) : List Nat :=
  l.map fun rc => (edT s fm rc.1 rc.2).cost

/-- min over the current and the last fringe diagonal -/
def fringeMin (s : EdSt) (fm : List (List Nat)) : Nat :=
  Nat.min (minD (costsOn s fm (diag s.fr s.fc s.nf))) (minD (costsOn s fm s.lastFringe))

/-- what `bounds()` returns -/
def edViewOf (s : EdSt) (fm : List (List Nat)) : Iv :=
  if edComplete s then Iv.point (edFinOf s fm)
  else if s.fr ≤ 0 then ⟨s.lb0, s.ub0⟩
  else ⟨Nat.max s.lb0 (fringeMin s fm), s.ub0⟩

/-- which table entries are filled in.  An inner corner cell lies on the last diagonal but is written only by the
    back-trace of `edits()` (the loop stops before sweeping it), hence the last disjunct -/
def Filled (s : EdSt) (r c : Nat) : Prop :=
  (r = 0 ∧ c = 0) ∨
    (0 ≤ s.fr ∧ r + c ≤ kOf s ∧ (r = 0 ∨ c = 0 ∨ r + c < s.nt + s.nf ∨ s.cache.isSome = true))

/-- which inner cells have been tightened to a single value -/
def DefSet (s : EdSt) (r c : Nat) : Prop :=
  r ≤ s.nt ∧ c ≤ s.nf ∧ 0 ≤ s.fr ∧ r + c ≤ kOf s ∧ (r + c < s.nt + s.nf ∨ s.cache.isSome = true)

/-- static facts about the costs -/
structure EdStat (s : EdSt) (fm : List (List Nat)) : Prop where
  remPos : ∀ x ∈ s.rem, 0 < x
  insPos : ∀ x ∈ s.ins, 0 < x
  total : s.rem.sum + s.ins.sum ≤ s.ub0
  lbFin : s.lb0 ≤ edFinOf s fm
  lbLt : 0 < s.nf → 0 < s.nt → s.lb0 < s.ub0

/-- `last`: `_last_fringe` is the diagonal before the current one; `jf`: matrix freed ↔ script cached; `jc`: cached ⇒ the
    corner diagonal is reached; `cv`: the cache (`__edits`) is the greedy back-trace `ptrace` -/
structure EdInv (g : Ghost) (s : EdSt) (cells : List (List M)) : Prop where
  nz : 0 < s.nt + s.nf
  pos : Pos s
  shape : MShape cells s.nt s.nf
  cellsI : ∀ row ∈ cells, ∀ m ∈ row, g.I m
  tab : TabOK s (finM g cells) (Filled s)
  defs : DefOn g cells (DefSet s)
  last : 0 ≤ s.fr → ∀ r c, (r, c) ∈ s.lastFringe ↔ (r ≤ s.nt ∧ c ≤ s.nf ∧ r + c + 1 = kOf s)
  jf : s.freed = true ↔ s.cache.isSome = true
  jc : s.cache.isSome = true → 0 ≤ s.fr ∧ s.nt + s.nf ≤ kOf s
  cv : ∀ tr, s.cache = some tr → tr = ptrace s (finM g cells) (s.nt + s.nf + 1) s.nt s.nf
  stat : EdStat s (finM g cells)

/-- diagonals still to be swept -/
def edMu0 (s : EdSt) : Nat := (s.nt + s.nf + 1) - started s

/-- the sub-edit scripts along a path -/
def edPathScripts (s : EdSt) (scr : List (List DScript)) : List (Move × Nat × Nat) → List DScript
  | [] => []
  | (mv, r, c) :: rest =>
      (match mv with
        | .diag => (scr.getD (r - 1) []).getD (c - 1) default
        | .up => .mk .insert (.at (r - 1 + s.pre)) .none (Iv.point (s.ins.getD (r - 1) 0)) []
        | .left => .mk .remove (.at (c - 1 + s.pre)) .none (Iv.point (s.rem.getD (c - 1) 0)) [])
      :: edPathScripts s scr rest

end GtModel.Lazy
