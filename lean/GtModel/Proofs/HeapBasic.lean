/-
  Facts about the heap model of `Model/Heap.lean` that all operations share: comparator laws, flattening, the multiset
  of (id, key, deleted) triples of a forest and what an equation between two such multisets transfers, heap order.
  The specifications are stated over `Multiset` (Mathlib): `ms`, and in `Props/C16` the live identities of a history.
  `GtModel.C16.idsM`, the identities of a forest as a multiset (what the history of `Props/C16` is compared with), stands
  here next to `ids` with its lemmas, in its own namespace.
-/
import GtModel.Model.Heap
import Mathlib.Algebra.Order.Group.Multiset

namespace GtModel.Heap
variable {K : Type}

/-- laws of a total preorder given by its strict part; satisfied by `intMin` and `intMax` -/
structure Total (cmp : Cmp K) : Prop where
  asymm : ∀ a b, cmp.lt a b = true → cmp.lt b a = false
  ntrans : ∀ a b c, cmp.lt a b = false → cmp.lt b c = false → cmp.lt a c = false
  eq_iff : ∀ a b, cmp.eq a b = true ↔ (cmp.lt a b = false ∧ cmp.lt b a = false)

theorem Total.irrefl {cmp : Cmp K} (T : Total cmp) (a : K) : cmp.lt a a = false := by
  cases h : cmp.lt a a
  · rfl
  · exact h.symm.trans (T.asymm a a h)

/-- `ReversedComparator` keeps the laws -/
theorem Total.flip {cmp : Cmp K} (T : Total cmp) : Total ⟨fun a b => cmp.lt b a, cmp.eq⟩ where
  asymm a b h := T.asymm b a h
  ntrans a b c hab hbc := T.ntrans c b a hbc hab
  eq_iff a b := (T.eq_iff a b).trans And.comm

theorem intMin_lt_false {a b : Int} : intMin.lt a b = false ↔ b ≤ a := by
  simp only [intMin, decide_eq_false_iff_not, Int.not_lt]

theorem intMax_lt_false {a b : Int} : intMax.lt a b = false ↔ a ≤ b := by
  simp only [intMax, decide_eq_false_iff_not, Int.not_lt]

theorem total_intMin : Total intMin where
  asymm a b h := intMin_lt_false.2 (Int.le_of_lt (of_decide_eq_true h))
  ntrans a b c hab hbc := intMin_lt_false.2 (Int.le_trans (intMin_lt_false.1 hbc) (intMin_lt_false.1 hab))
  eq_iff a b := by
    rw [intMin_lt_false, intMin_lt_false, ← Int.le_antisymm_iff]
    exact beq_iff_eq.trans eq_comm

theorem total_intMax : Total intMax := total_intMin.flip

theorem HNode.ind {P : HNode K → Prop} (h : ∀ n, (∀ c ∈ n.kids, P c) → P n) (n : HNode K) : P n :=
  HNode.rec (motive_1 := P) (motive_2 := fun l => ∀ c ∈ l, P c)
    (fun i k m d ks ih => h ⟨i, k, m, d, ks⟩ ih)
    (fun _ hc => nomatch hc)
    (fun _ _ hc hcs _ hx => (List.mem_cons.1 hx).elim (· ▸ hc) (hcs _))
    n

@[simp] theorem flat_eq (n : HNode K) : flat n = n :: flats n.kids := by
  cases n; simp [flat]

@[simp] theorem flats_nil : flats ([] : List (HNode K)) = [] := by simp [flats]
@[simp] theorem flats_cons (x : HNode K) (xs) : flats (x :: xs) = x :: flats x.kids ++ flats xs := by
  simp [flats]

@[simp] theorem flats_append (a b : List (HNode K)) : flats (a ++ b) = flats a ++ flats b := by
  induction a with
  | nil => simp
  | cons x xs ih => simp [ih]

theorem mem_flats {l : List (HNode K)} {x : HNode K} : x ∈ flats l ↔ ∃ r ∈ l, x = r ∨ x ∈ flats r.kids := by
  induction l with
  | nil => simp
  | cons y ys ih =>
    simp only [flats_cons, List.cons_append, List.mem_cons, List.mem_append, ih, exists_eq_or_imp, or_assoc]

theorem mem_flats_of_mem {l : List (HNode K)} {r : HNode K} (h : r ∈ l) : r ∈ flats l :=
  mem_flats.2 ⟨r, h, Or.inl rfl⟩

theorem flats_sub_of_mem {l : List (HNode K)} {r : HNode K} (h : r ∈ l) {x} (hx : x ∈ flats r.kids) : x ∈ flats l :=
  mem_flats.2 ⟨r, h, Or.inr hx⟩

theorem sublist_flats (l : List (HNode K)) : l.Sublist (flats l) := by
  induction l with
  | nil => simp
  | cons x xs ih =>
    rw [flats_cons, List.cons_append]
    exact (ih.trans (List.sublist_append_right _ _)).cons_cons x

theorem length_le_flats (l : List (HNode K)) : l.length ≤ (flats l).length := (sublist_flats l).length_le

def item (x : HNode K) : Nat × K × Bool := (x.id, x.key, x.deleted)

/-- in `nodes()` order -/
def items (rs : List (HNode K)) : List (Nat × K × Bool) := (flats rs).map item

def ms (rs : List (HNode K)) : Multiset (Nat × K × Bool) := (items rs : Multiset _)

@[simp] theorem items_nil : items ([] : List (HNode K)) = [] := by simp [items]
@[simp] theorem items_cons (x : HNode K) (xs) : items (x :: xs) = item x :: (items x.kids ++ items xs) := by
  simp [items]
@[simp] theorem items_append (a b : List (HNode K)) : items (a ++ b) = items a ++ items b := by
  simp [items]

theorem mem_items_of_mem_flats {rs : List (HNode K)} {x} (h : x ∈ flats rs) : item x ∈ items rs :=
  List.mem_map_of_mem h

theorem mem_items_of_mem {l : List (HNode K)} {r : HNode K} (h : r ∈ l) : item r ∈ items l :=
  mem_items_of_mem_flats (mem_flats_of_mem h)

theorem mem_items_root {l : List (HNode K)} {i} (h : i ∈ items l) : ∃ s ∈ l, i ∈ items [s] := by
  obtain ⟨x, hx, rfl⟩ := List.mem_map.1 h
  obtain ⟨r, hr, hxr⟩ := mem_flats.1 hx
  exact ⟨r, hr, mem_items_of_mem_flats (by simpa using hxr)⟩

theorem items_sub_of_mem {l : List (HNode K)} {s} (hs : s ∈ l) {i} (hi : i ∈ items [s]) : i ∈ items l := by
  obtain ⟨x, hx, rfl⟩ := List.mem_map.1 hi
  exact mem_items_of_mem_flats (mem_flats.2 ⟨s, hs, by simpa using hx⟩)

@[simp] theorem ms_nil : ms ([] : List (HNode K)) = 0 := rfl
@[simp] theorem ms_append (a b : List (HNode K)) : ms (a ++ b) = ms a + ms b := by
  simp [ms]
@[simp] theorem ms_cons (x : HNode K) (xs) : ms (x :: xs) = {item x} + ms x.kids + ms xs := by
  simp only [ms, items_cons, ← Multiset.coe_add, ← Multiset.cons_coe, ← Multiset.singleton_add, add_assoc]

theorem ms_cons_eq_add (x : HNode K) (xs) : ms (x :: xs) = ms [x] + ms xs := ms_append [x] xs

theorem ms_setMark (c : HNode K) (b : Bool) (l) : ms ({ c with mark := b } :: l) = ms (c :: l) := by
  simp only [ms_cons, item]

theorem ms_eq_iff {a b : List (HNode K)} : ms a = ms b ↔ (items a).Perm (items b) := Multiset.coe_eq_coe

theorem items_perm_of_ms_cons {l g : List (HNode K)} {i} (h : ms l = {i} + ms g) : (items l).Perm (i :: items g) :=
  Multiset.coe_eq_coe.1 (by rw [← Multiset.cons_coe, ← Multiset.singleton_add]; exact h)

theorem ms_perm {a b : List (HNode K)} (h : a.Perm b) : ms a = ms b := by
  induction h with
  | nil => rfl
  | cons x _ ih => exact (ms_cons_eq_add x _).trans ((congrArg (ms [x] + ·) ih).trans (ms_cons_eq_add x _).symm)
  | swap x y l =>
    rw [ms_cons_eq_add y (x :: l), ms_cons_eq_add x l, ms_cons_eq_add x (y :: l), ms_cons_eq_add y l, add_left_comm]
  | trans _ _ ih1 ih2 => exact ih1.trans ih2

theorem mem_ms {rs : List (HNode K)} {i} : i ∈ ms rs ↔ i ∈ items rs := Multiset.mem_coe

theorem mem_items_of_ms_cons {a b : List (HNode K)} {i i' j rest}
    (ha : ms a = {i} + rest) (hb : ms b = {i'} + rest) (hj : j ∈ items b) : j = i' ∨ j ∈ items a :=
  (Multiset.mem_add.1 (hb ▸ mem_ms.2 hj)).imp Multiset.mem_singleton.1
    fun h => mem_ms.1 (ha ▸ Multiset.mem_add.2 (Or.inr h))

theorem card_ms (rs : List (HNode K)) : Multiset.card (ms rs) = (flats rs).length := by simp [ms, items]

def ids (rs : List (HNode K)) : List Nat := (items rs).map (·.1)

def NoDel (rs : List (HNode K)) : Prop := ∀ i ∈ items rs, i.2.2 = false

theorem mem_ids_of_mem_flats {rs : List (HNode K)} {x} (h : x ∈ flats rs) : x.id ∈ ids rs :=
  List.mem_map_of_mem (mem_items_of_mem_flats h)

theorem nodel_flats {rs : List (HNode K)} (h : NoDel rs) {x} (hx : x ∈ flats rs) : x.deleted = false :=
  h (item x) (mem_items_of_mem_flats hx)

theorem ids_perm_of_ms {a b : List (HNode K)} (h : ms a = ms b) : (ids a).Perm (ids b) :=
  (ms_eq_iff.1 h).map _

theorem nodup_of_ms {a b : List (HNode K)} (h : ms a = ms b) (hn : (ids a).Nodup) : (ids b).Nodup :=
  (ids_perm_of_ms h).nodup hn

theorem nodel_of_ms {a b : List (HNode K)} (h : ms a = ms b) (hn : NoDel a) : NoDel b :=
  fun i hi => hn i ((ms_eq_iff.1 h).mem_iff.2 hi)

theorem length_flats_of_ms {a b : List (HNode K)} (h : ms a = ms b) : (flats a).length = (flats b).length := by
  rw [← card_ms, ← card_ms, h]

end GtModel.Heap

namespace GtModel.C16
open GtModel.Heap
variable {K : Type}

def idsM (rs : List (HNode K)) : Multiset Nat := (ms rs).map (·.1)

theorem coe_ids (rs : List (HNode K)) : (ids rs : Multiset Nat) = idsM rs := rfl

theorem mem_idsM {rs : List (HNode K)} {i : Nat} : i ∈ idsM rs ↔ i ∈ ids rs := Multiset.mem_coe

theorem card_idsM (rs : List (HNode K)) : Multiset.card (idsM rs) = (flats rs).length := by
  rw [idsM, Multiset.card_map, card_ms]

theorem nodup_ids_iff (rs : List (HNode K)) : (ids rs).Nodup ↔ (idsM rs).Nodup := by
  rw [← coe_ids, Multiset.coe_nodup]

theorem idsM_of_ms {l : List (HNode K)} {i} {r : Multiset (Nat × K × Bool)} (h : ms l = {i} + r) :
    idsM l = i.1 ::ₘ r.map (·.1) := by
  rw [idsM, h, Multiset.map_add, Multiset.map_singleton, Multiset.singleton_add]

theorem idsM_erase_of_ms {l g : List (HNode K)} {i} (h : ms l = {i} + ms g) : idsM g = (idsM l).erase i.1 := by
  rw [idsM_of_ms h]
  exact (Multiset.erase_cons_head _ _).symm

end GtModel.C16

namespace GtModel.Heap
open GtModel.C16
variable {K : Type}

theorem ids_perm_of_ms_cons {l g : List (HNode K)} {i} (h : ms l = {i} + ms g) : (ids l).Perm (i.1 :: ids g) :=
  (items_perm_of_ms_cons h).map _

theorem top_ids_nodup {l : List (HNode K)} (h : (ids l).Nodup) : (l.map (·.id)).Nodup := by
  have : (l.map (·.id)).Sublist (ids l) := by
    simp only [ids, items, List.map_map]
    exact (sublist_flats l).map _
  exact this.nodup h

theorem item_unique {rs : List (HNode K)} (hn : (ids rs).Nodup) {i j} (hi : i ∈ items rs) (hj : j ∈ items rs)
    (he : i.1 = j.1) : i = j :=
  List.inj_on_of_nodup_map hn hi hj he

theorem node_unique {rs : List (HNode K)} (hn : (ids rs).Nodup) {x y : HNode K} (hx : x ∈ flats rs) (hy : y ∈ flats rs)
    (he : x.id = y.id) : x = y := by
  rw [ids, items, List.map_map] at hn
  exact List.inj_on_of_nodup_map hn hx hy he

theorem find?_id_eq {l : List (HNode K)} (hn : (l.map (·.id)).Nodup) {x : HNode K} (hx : x ∈ l) {t : Nat}
    (hxt : x.id = t) : l.find? (·.id == t) = some x := by
  cases hf : l.find? (·.id == t) with
  | none => exact absurd (beq_iff_eq.2 hxt) (List.find?_eq_none.1 hf x hx)
  | some m =>
    have hm : m.id = t := eq_of_beq (List.find?_some (p := fun y : HNode K => y.id == t) hf)
    rw [List.inj_on_of_nodup_map hn (List.mem_of_find?_eq_some hf) hx (hm.trans hxt.symm)]

theorem findNode_eq {t : Nat} {rs : List (HNode K)} (hn : (ids rs).Nodup) {x} (hx : x ∈ flats rs) (hxt : x.id = t) :
    findNode t rs = some x := by
  rw [ids, items, List.map_map] at hn
  exact find?_id_eq hn hx hxt

theorem insert1_perm {α : Type} (c : α) (l : List α) : (insert1 c l).Perm (c :: l) := by
  cases l with
  | nil => rfl
  | cons r rs => exact List.Perm.swap _ _ _

theorem mem_insert1 {α : Type} {c x : α} {l : List α} : x ∈ insert1 c l ↔ x = c ∨ x ∈ l := by
  rw [(insert1_perm c l).mem_iff, List.mem_cons]

theorem appendAll_perm {α : Type} (rs cs : List α) : (appendAll rs cs).Perm (cs ++ rs) := by
  induction cs generalizing rs with
  | nil => rfl
  | cons c cs ih => exact (ih _).trans (((insert1_perm c rs).append_left cs).trans List.perm_middle)

/-- repeated `_append_root` into a non-empty ring: the new nodes end up right of the entry node, last one first -/
theorem appendAll_cons {α : Type} (r : α) (cs rs : List α) : appendAll (r :: rs) cs = r :: (cs.reverse ++ rs) := by
  induction cs generalizing rs with
  | nil => rfl
  | cons c cs ih =>
    rw [appendAll, List.foldl_cons, ← appendAll, insert1, ih, List.reverse_cons, List.append_assoc]
    rfl

theorem mem_appendAll {α : Type} {x : α} {rs cs : List α} : x ∈ appendAll rs cs ↔ x ∈ cs ∨ x ∈ rs := by
  rw [(appendAll_perm rs cs).mem_iff, List.mem_append]

theorem ms_insert1 (c : HNode K) (l) : ms (insert1 c l) = ms [c] + ms l := by
  rw [ms_perm (insert1_perm c l), ms_cons_eq_add]

theorem ms_appendAll (rs cs : List (HNode K)) : ms (appendAll rs cs) = ms cs + ms rs := by
  rw [ms_perm (appendAll_perm rs cs), ms_append]

theorem ms_link (p c : HNode K) : ms [link p c] = ms [p] + ms [c] := by
  rw [ms_cons, ms_cons p, ms_nil, add_zero, add_zero]
  show {item p} + ms (insert1 { c with mark := false } p.kids) = _
  rw [ms_insert1, ms_setMark, add_comm (ms [c]), add_assoc]

theorem ms_link_cons (p c : HNode K) (rest) : ms (link p c :: rest) = ms [p] + ms [c] + ms rest := by
  rw [ms_cons_eq_add, ms_link]

mutual
def Ord (cmp : Cmp K) : HNode K → Prop
  | ⟨_, k, _, _, ks⟩ => OrdK cmp k ks
def OrdK (cmp : Cmp K) (k : K) : List (HNode K) → Prop
  | [] => True
  | c :: cs => cmp.lt c.key k = false ∧ Ord cmp c ∧ OrdK cmp k cs
end

theorem ordK_cons {cmp : Cmp K} {k : K} {c : HNode K} {cs : List (HNode K)} :
    OrdK cmp k (c :: cs) ↔ cmp.lt c.key k = false ∧ Ord cmp c ∧ OrdK cmp k cs := by
  simp only [OrdK]

theorem ord_def {cmp : Cmp K} (n : HNode K) : Ord cmp n ↔ OrdK cmp n.key n.kids := by
  cases n; simp only [Ord]

theorem ordK_iff (cmp : Cmp K) (k : K) (ks : List (HNode K)) :
    OrdK cmp k ks ↔ ∀ c ∈ ks, cmp.lt c.key k = false ∧ Ord cmp c := by
  induction ks with
  | nil => simp [OrdK]
  | cons c cs ih => rw [ordK_cons, ih, List.forall_mem_cons, and_assoc]

theorem ord_iff (cmp : Cmp K) (n : HNode K) :
    Ord cmp n ↔ ∀ c ∈ n.kids, cmp.lt c.key n.key = false ∧ Ord cmp c := by
  rw [ord_def, ordK_iff]

def Ords (cmp : Cmp K) (rs : List (HNode K)) : Prop := ∀ r ∈ rs, Ord cmp r

theorem ord_congr {cmp : Cmp K} {a b : HNode K} (hk : a.key = b.key) (hc : a.kids = b.kids) : Ord cmp a ↔ Ord cmp b := by
  rw [ord_iff, ord_iff, hk, hc]

theorem ord_setMark {cmp : Cmp K} {c : HNode K} (b : Bool) : Ord cmp { c with mark := b } ↔ Ord cmp c :=
  ord_congr rfl rfl

theorem ords_append {cmp : Cmp K} {a b : List (HNode K)} : Ords cmp (a ++ b) ↔ Ords cmp a ∧ Ords cmp b :=
  List.forall_mem_append

theorem ords_cons {cmp : Cmp K} {x : HNode K} {l : List (HNode K)} : Ords cmp (x :: l) ↔ Ord cmp x ∧ Ords cmp l :=
  List.forall_mem_cons

theorem ords_appendAll {cmp : Cmp K} {rs cs : List (HNode K)} (hr : Ords cmp rs) (hc : Ords cmp cs) :
    Ords cmp (appendAll rs cs) :=
  fun r h => (mem_appendAll.1 h).elim (hc r) (hr r)

theorem ord_link {cmp : Cmp K} {p c : HNode K} (hp : Ord cmp p) (hc : Ord cmp c) (h : cmp.lt c.key p.key = false) :
    Ord cmp (link p c) := by
  rw [ord_iff] at hp ⊢
  intro x hx
  rcases mem_insert1.1 hx with rfl | hx
  · exact ⟨h, (ord_setMark false).2 hc⟩
  · exact hp x hx

theorem ord_of_key_le {cmp : Cmp K} (T : Total cmp) {a b : HNode K} (ha : Ord cmp a) (hc : b.kids = a.kids)
    (hk : cmp.lt a.key b.key = false) : Ord cmp b := by
  rw [ord_iff] at ha ⊢
  intro y hy
  have := ha y (hc ▸ hy)
  exact ⟨T.ntrans _ _ _ this.1 hk, this.2⟩

theorem root_le_all {cmp : Cmp K} (T : Total cmp) (n : HNode K) :
    Ord cmp n → ∀ i ∈ items [n], cmp.lt i.2.1 n.key = false := by
  induction n using HNode.ind with
  | h n ih =>
    intro ho i hi
    rw [items_cons, items_nil, List.append_nil, List.mem_cons] at hi
    rcases hi with rfl | hi
    · exact T.irrefl _
    · obtain ⟨c, hc, hic⟩ := mem_items_root hi
      have hoc := (ord_iff cmp n).1 ho c hc
      exact T.ntrans _ _ _ (ih c hc hoc.2 i hic) hoc.1

theorem root_le_all.root_le_all_kids {cmp : Cmp K} (T : Total cmp) (k : K) :
    ∀ (ks : List (HNode K)), (∀ c ∈ ks, cmp.lt c.key k = false ∧ Ord cmp c) → ∀ i ∈ items ks, cmp.lt i.2.1 k = false :=
  fun _ h i hi =>
    let ⟨c, hc, hic⟩ := mem_items_root hi
    T.ntrans _ _ _ (root_le_all T c (h c hc).2 i hic) (h c hc).1

end GtModel.Heap
