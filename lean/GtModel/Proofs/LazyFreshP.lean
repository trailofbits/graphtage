/-
  Fresh machines: `InvP` and `FreshP`, the rules by which a machine of each class has
  them when its parts do (`FreshP.coll` for a collection, `InvP.ms` for a MultiSetEdit, which is never fresh in the sense
  of `FreshP`: its first `bounds()` is not `initIv`), and both for strings and leaves.
-/
import GtModel.Proofs.LazyDomain
import GtModel.Proofs.LazyEdFresh
import GtModel.Proofs.ZeroLev
import GtModel.Proofs.LazyMk

namespace GtModel.Lazy
open GtModel.EditMatrix (middle trimLens)

@[simp] theorem viewG_relabel (a : Ghost) (m : M) (f t : Ix) : viewG a (m.relabel f t) = viewG a m := by
  cases m <;> rfl
@[simp] theorem initIv_relabel (m : M) (f t : Ix) : initIv (m.relabel f t) = initIv m := by
  cases m <;> rfl
theorem finG_relabel (a : Ghost) (m : M) (f t : Ix) : finG a (m.relabel f t) = finG a m := by
  cases m <;> rfl
@[simp] theorem muG_relabel (a : Ghost) (m : M) (f t : Ix) : muG a (m.relabel f t) = muG a m := by
  cases m <;> rfl
@[simp] theorem invG_relabel (a : Ghost) (F : Nat) (m : M) (f t : Ix) : invG a F (m.relabel f t) ↔ invG a F m := by
  cases m <;> exact Iff.rfl
@[simp] theorem height_relabel (m : M) (f t : Ix) : height (m.relabel f t) = height m := by
  cases m <;> rfl
/-- what a fresh machine is shown to have: the structural invariant, whatever loop bound above its measure is chosen later -/
structure InvP (a : Ghost) (m : M) : Prop where
  inv : ∀ F, muG a m < F → invG a F m

namespace InvP
variable {a : Ghost}

theorem relabel {m : M} (h : InvP a m) (f t : Ix) : InvP a (m.relabel f t) :=
  ⟨fun F hF => (invG_relabel a F m f t).mpr (h.inv F (by rwa [muG_relabel] at hF))⟩

theorem const (a : Ghost) (l : Lbl) (c : Nat) : InvP a (.const l c) := ⟨fun _ _ => trivial⟩

theorem kvp {k v : M} (hk : InvP a k) (hv : InvP a v) (l : Lbl) : InvP a (.kvp l k v) :=
  ⟨fun F hF => ⟨hk.inv F (Nat.lt_of_le_of_lt (Nat.le_add_right _ _) hF),
    hv.inv F (Nat.lt_of_le_of_lt (Nat.le_add_left _ _) hF)⟩⟩

theorem str {e : M} (he : InvP a e) (l : Lbl) : InvP a (.str l e) := ⟨he.inv⟩

theorem invL {F : Nat} : ∀ {ms : List M}, (∀ m ∈ ms, InvP a m) → muL a ms < F → invL a F ms
  | [], _, _ => trivial
  | m :: _, h, hF =>
    ⟨(h m List.mem_cons_self).inv F (Nat.lt_of_le_of_lt (Nat.le_add_right _ _) hF),
      invL (fun x hx => h x (List.mem_cons_of_mem m hx)) (Nat.lt_of_le_of_lt (Nat.le_add_left _ _) hF)⟩

theorem invLL2 {F : Nat} : ∀ {cells : List (List M)}, (∀ row ∈ cells, ∀ m ∈ row, InvP a m) → muLL2 a cells < F →
    invLL2 a F cells
  | [], _, _ => trivial
  | r :: _, h, hF =>
    ⟨invL (h r List.mem_cons_self) (Nat.lt_of_le_of_lt (Nat.le_add_right _ _) hF),
      invLL2 (fun x hx => h x (List.mem_cons_of_mem r hx)) (Nat.lt_of_le_of_lt (Nat.le_add_left _ _) hF)⟩

theorem fixed {subs : List M} (h : ∀ m ∈ subs, InvP a m) (l : Lbl) (tail : List Script) :
    InvP a (.fixed l subs tail) :=
  ⟨fun _ hF => invL h (Nat.lt_of_le_of_lt (Nat.le_add_right _ _) hF)⟩

theorem ed {cells : List (List M)} {s : EdSt} (h : ∀ row ∈ cells, ∀ m ∈ row, InvP a m) (l : Lbl)
    (inv : EdInv (ghostOf a) s cells) : InvP a (.ed l s cells) :=
  ⟨fun _ hF => ⟨hF, invLL2 h (Nat.lt_of_le_of_lt (Nat.le_add_left _ _) hF), inv⟩⟩

end InvP

theorem viewL_eq_initIvL (a : Ghost) (ms : List M) (h : ∀ m ∈ ms, viewG a m = initIv m) : viewL a ms = initIvL ms := by
  induction ms with
  | nil => rfl
  | cons m ms ih => simp only [viewL, initIvL, h m (by simp), ih (fun x hx => h x (by simp [hx]))]

/-- … and its first `bounds()` is `initIv m` (what an EditCollection records for its pending sub-edits) -/
structure FreshP (a : Ghost) (m : M) : Prop extends InvP a m where
  view : viewG a m = initIv m

namespace FreshP
variable {a : Ghost}

theorem relabel {m : M} (h : FreshP a m) (f t : Ix) : FreshP a (m.relabel f t) :=
  ⟨h.toInvP.relabel f t, by rw [viewG_relabel, initIv_relabel]; exact h.view⟩

theorem const (a : Ghost) (l : Lbl) (c : Nat) : FreshP a (.const l c) := ⟨InvP.const a l c, rfl⟩

theorem kvp {k v : M} (hk : FreshP a k) (hv : FreshP a v) (l : Lbl) : FreshP a (.kvp l k v) :=
  ⟨hk.toInvP.kvp hv.toInvP l, by simp only [viewG, initIv, hk.view, hv.view]⟩

theorem str {e : M} (he : FreshP a e) (l : Lbl) : FreshP a (.str l e) :=
  ⟨he.toInvP.str l, by simp only [viewG, initIv, he.view]⟩

theorem fixed {subs : List M} (h : ∀ m ∈ subs, FreshP a m) (l : Lbl) (tail : List Script) :
    FreshP a (.fixed l subs tail) :=
  ⟨InvP.fixed (fun m hm => (h m hm).toInvP) l tail,
    by simp only [viewG, initIv, viewL_eq_initIvL a subs fun m hm => (h m hm).view]⟩

theorem ed {cells : List (List M)} {l : Lbl} {ps : Nat × Nat} {fs ts : List Nat} {pen : Nat}
    (h : InvP a (.ed l (edInit ps fs ts pen) cells)) : FreshP a (.ed l (edInit ps fs ts pen) cells) :=
  ⟨h, by simp [viewG, initIv, edViewOf, edComplete, edInit]⟩

end FreshP


theorem orMatch {P : M → Prop} (h0 : P (mkConst .match_ 0)) {m : M} (h : P m) (c : Bool) :
    P (if c then mkConst .match_ 0 else m) := by
  split
  · exact h0
  · exact h

theorem HiLe_map (a : Ghost) (p : List M) (h : ∀ m ∈ p, viewG a m = initIv m) :
    HiLe (viewOnly (viewG a)) p (p.map fun m => (initIv m).hi) :=
  HiLe.iff.2 (.map_self _ fun m hm => Nat.le_of_eq (congrArg Iv.hi (h m hm)))

theorem FreshP.coll {a : Ghost} {p : List M} (hp : ∀ m ∈ p, FreshP a m) (hne : p ≠ []) (l : Lbl) (ub0 : Nat)
    (hsum : (p.map fun m => (initIv m).hi).sum ≤ ub0) :
    FreshP a (.coll l { ub0 := ub0, inits := [], pinits := p.map fun m => (initIv m).hi } p []) := by
  refine ⟨⟨fun F hF => ?_⟩, congrArg (Iv.mk 0) (Nat.min_self ub0)⟩
  have h1 : muL a [] + muL a p + p.length + 1 < F := Nat.lt_of_le_of_lt (Nat.le_add_right _ _) hF
  have h2 : muL a p < F := by rw [muL, Nat.zero_add] at h1; omega
  exact ⟨h1, trivial, InvP.invL (fun m hm => (hp m hm).toInvP) h2, trivial, HiLe_map a _ (fun m hm => (hp m hm).view),
    by rw [List.sum_nil, Nat.zero_add]; exact hsum, (fun h => nomatch h), (fun _ h => nomatch h), Or.inl hne⟩

theorem InvP.ms {a : Ghost} {k : List M} {e : List (List M)} (hk : ∀ m ∈ k, InvP a m)
    (he : ∀ row ∈ e, ∀ m ∈ row, InvP a m) (l : Lbl) (s : MsSt) (w : WmSt) (hsh : MShape e w.nf w.nt)
    (hw : AssignOK w) (hm : w.mtch = none) (hb : w.memo = none) (hr : s.remCosts.length = w.nf)
    (hi : s.insCosts.length = w.nt) : InvP a (.ms l s k w e) :=
  ⟨fun F hF => by
    have h0 : muL a k + muLL2 a e + wmFlags w < F := Nat.lt_of_le_of_lt (Nat.le_add_right _ _) hF
    refine ⟨by omega, InvP.invL hk (by omega), InvP.invLL2 he (by omega), hsh, hw, ?_, ?_, hr, hi⟩
    · intro _ h
      rw [hm] at h
      cases h
    · intro _ h
      rw [hb] at h
      cases h⟩

theorem trim_nz {α : Type} [BEq α] (d : α) (x y : List α)
    (hne : ¬ (x.length = y.length ∧ ∀ i, i < x.length → (x.getD i d == y.getD i d) = true)) :
    0 < (y.length - (trimLens x y).1 - (trimLens x y).2) + (x.length - (trimLens x y).1 - (trimLens x y).2) := by
  apply Nat.pos_of_ne_zero
  intro h0
  apply hne
  apply trim_all d x y
  · rw [middle_length, middle_length]; omega
  · intro i hi
    rw [middle_length] at hi; omega

theorem sum_map_const_add {α : Type} (l : List α) (c p : Nat) :
    ((l.map fun _ => c).map (· + p)).sum = l.length * (c + p) := by
  induction l with
  | nil => rw [List.length_nil, Nat.zero_mul]; rfl
  | cons x xs ih => rw [List.map_cons, List.map_cons, List.sum_cons, ih, List.length_cons, Nat.succ_mul, Nat.add_comm]

theorem mkStr_fresh (a : Ghost) (x y : Str) :
    FreshP a (mkStr x y) ∧ (initIv (mkStr x y)).hi ≤ x.length + y.length + 1 := by
  unfold mkStr
  split
  · exact ⟨FreshP.const a _ 0, Nat.zero_le _⟩
  · next hxy =>
    split
    · exact ⟨FreshP.const a _ 1, Nat.le_add_left _ _⟩
    · refine ⟨FreshP.str (FreshP.ed (InvP.ed ?_ _ (edInit_inv _ _ _ _ (ghostOf a) _
        (by rw [List.length_map]; exact trim_le_left x y) (by rw [List.length_map]; exact trim_le_right x y)
        ?_ ?_ ?_ ?_ (fun _ _ _ _ => trivial)))) _, ?_⟩
      · exact List.forall_mem_map.mpr fun _ _ => List.forall_mem_map.mpr fun _ _ => InvP.const a _ _
      · exact List.forall_mem_map.mpr fun _ _ => Nat.one_pos
      · exact List.forall_mem_map.mpr fun _ _ => Nat.one_pos
      · rw [List.length_map, List.length_map]
        refine trim_nz 0 x y fun ⟨hl, hi⟩ => ?_
        have : x = y := list_eq_of_getD 0 x y hl fun i h => by simpa using hi i h
        simp [this] at hxy
      · simpa [middle_length] using MShape.map_map (middle y (trimLens x y)).zipIdx (middle x (trimLens x y)).zipIdx _
      · simp only [initIv]
        rw [edInit_ub0, sum_map_const_add, sum_map_const_add]
        omega

theorem leafLeaf_cost (x y : Scalar) : (leafLeaf x y).cost ≤ max (max x.pyStr.length y.pyStr.length) 1 := by
  have := lev_le_max x.pyStr y.pyStr
  simp only [leafLeaf, mkMatch_cost]
  split <;> omega

/-- `None` prints with four characters but has size zero; its weight in `nw` makes up for that -/
theorem pyStr_length_le (s : Scalar) : s.pyStr.length ≤ (Tree.leaf s).size + 1 + 3 * (Tree.leaf s).nw := by
  by_cases h : s = .null
  · subst h; decide
  · rw [Tree.size.eq_2 s h]; omega

theorem mkReplace_cost_le (a b k : Nat) : (mkReplace a b).cost ≤ a + b + 1 + k :=
  Nat.le_add_right_of_le (Nat.succ_le_succ (Nat.max_le.mpr ⟨Nat.le_add_right a b, Nat.le_add_left b a⟩))

theorem leafEdits_cost (x : Scalar) (t : Tree) (hs : ¬ ∃ u v, x = .str u ∧ t = .leaf (.str v)) :
    (leafEdits x t).cost ≤ (Tree.leaf x).size + t.size + 1 + 3 * t.nw := by
  unfold leafEdits
  split
  · exact Nat.zero_le _
  · exact mkReplace_cost_le _ _ _
  · exact absurd ⟨_, _, rfl, rfl⟩ hs
  · next b _ hx _ =>
    have h1 := leafLeaf_cost x b
    have h2 := pyStr_length_le b
    rw [Tree.size.eq_2 x hx]
    omega
  · exact mkReplace_cost_le _ _ _

theorem mkLeaf_fresh (a : Ghost) (x : Scalar) (t : Tree) :
    FreshP a (mkLeaf x t) ∧ (initIv (mkLeaf x t)).hi ≤ (Tree.leaf x).size + t.size + 1 + 3 * t.nw := by
  unfold mkLeaf
  split
  · next u v =>
    refine ⟨(mkStr_fresh a u v).1, Nat.le_trans (mkStr_fresh a u v).2 ?_⟩
    simp only [Tree.size, Scalar.pyStr]
    omega
  · next h => exact ⟨FreshP.const _ _ _, leafEdits_cost x t fun ⟨u, v, hu, hv⟩ => h u v hu hv⟩

end GtModel.Lazy
