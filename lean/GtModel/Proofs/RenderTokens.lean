/-
  A JSON tokenizer over code points (strings as single tokens, punctuation, maximal runs of other characters as
  literals), `T` = its tokens without the commas.
-/
import GtModel.Model.Render

namespace GtModel.Render
open GtModel

inductive Tok where
  | str (body : List Nat)     -- the escaped text between the quotes
  | punct (c : Nat)
  | lit (cs : List Nat)
deriving DecidableEq, Repr

/-- `[ ] { } : ,` -/
def isPunct (c : Nat) : Bool := c == 91 || c == 93 || c == 123 || c == 125 || c == 58 || c == 44

/-- a character that can be part of a literal (number, true, false, null) -/
def litChar (c : Nat) : Bool := !isPunct c && c != 34

inductive TS where
  | out
  | lit (acc : List Nat)
  | str (acc : List Nat) (esc : Bool)

def step : TS → Nat → List Tok × TS
  | .out, c =>
      if c == 34 then ([], .str [] false) else if isPunct c then ([.punct c], .out) else ([], .lit [c])
  | .lit acc, c =>
      if c == 34 then ([.lit acc], .str [] false)
      else if isPunct c then ([.lit acc, .punct c], .out) else ([], .lit (acc ++ [c]))
  | .str acc esc, c =>
      if esc then ([], .str (acc ++ [c]) false)
      else if c == 92 then ([], .str (acc ++ [c]) true)
      else if c == 34 then ([.str acc], .out)
      else ([], .str (acc ++ [c]) false)

/-- what is emitted at the end of the text (an unterminated string is emitted as it stands) -/
def flush : TS → List Tok
  | .out => []
  | .lit acc => [.lit acc]
  | .str acc _ => [.str acc]

def run : TS → List Nat → List Tok
  | st, [] => flush st
  | st, c :: cs => (step st c).1 ++ run (step st c).2 cs

def tokens (x : List Nat) : List Tok := run .out x

def dropCommas (l : List Tok) : List Tok := l.filter (fun t => t != .punct 44)

/-- "separator placement aside": the rendering may put a comma where the document has none (and the reverse) -/
def T (x : List Nat) : List Tok := dropCommas (tokens x)

theorem dropCommas_append (a b : List Tok) : dropCommas (a ++ b) = dropCommas a ++ dropCommas b := by
  simp [dropCommas]

theorem punct_ne_quote {p : Nat} (hp : isPunct p = true) : (p == 34) = false :=
  Bool.eq_false_iff.2 fun h => absurd (beq_iff_eq.1 h ▸ hp) (by decide)

theorem tokens_punct (p : Nat) (w : List Nat) (hp : isPunct p = true) : tokens (p :: w) = .punct p :: tokens w := by
  simp [tokens, run, step, punct_ne_quote hp, hp]

theorem T_comma (w : List Nat) : T (44 :: w) = T w := by
  simp [T, tokens_punct 44 w (by decide), dropCommas]

theorem T_punct (p : Nat) (w : List Nat) (hp : isPunct p = true) (h : p ≠ 44) : T (p :: w) = .punct p :: T w := by
  simp [T, tokens_punct p w hp, dropCommas, h]

def StartsPunct (b : List Nat) : Prop := ∃ p rest, b = p :: rest ∧ isPunct p = true

/-- the text is a complete value: followed by punctuation or by nothing, its tokens do not depend on what follows -/
def ClosedT (v : List Nat) : Prop := ∀ b, (b = [] ∨ StartsPunct b) → T (v ++ b) = T v ++ T b

theorem T_nil : T [] = [] := rfl

theorem closedT_nil : ClosedT [] := by intro b _; simp [T_nil]

theorem closedT_of_T {v : List Nat} {ts : List Tok} (h : ∀ w, T (v ++ w) = ts ++ T w) : ClosedT v ∧ T v = ts := by
  have h0 : T v = ts := by simpa [T_nil] using h []
  exact ⟨fun b _ => by rw [h b, h0], h0⟩

theorem step_lit (c : Nat) (hc : litChar c = true) :
    step .out c = ([], .lit [c]) ∧ ∀ acc, step (.lit acc) c = ([], .lit (acc ++ [c])) := by
  simp only [litChar, Bool.and_eq_true, Bool.not_eq_true', bne_iff_ne, ne_eq] at hc
  simp [step, hc.1, hc.2]

theorem run_lit (acc v w : List Nat) (hv : v.all litChar = true) :
    run (.lit acc) (v ++ w) = run (.lit (acc ++ v)) w := by
  induction v generalizing acc with
  | nil => simp
  | cons c v ih =>
    rw [List.all_cons, Bool.and_eq_true] at hv
    rw [List.cons_append, run, (step_lit c hv.1).2, ih _ hv.2, List.nil_append, List.append_assoc,
      List.singleton_append]

theorem tokens_lit (v w : List Nat) (hv : v.all litChar = true) (hne : v ≠ []) :
    tokens (v ++ w) = run (.lit v) w := by
  cases v with
  | nil => exact absurd rfl hne
  | cons c v =>
    rw [List.all_cons, Bool.and_eq_true] at hv
    rw [tokens, List.cons_append, run, (step_lit c hv.1).1, run_lit _ _ _ hv.2, List.nil_append,
      List.singleton_append]

theorem closedT_lit (v : List Nat) (hv : v.all litChar = true) : ClosedT v := by
  intro b hb
  by_cases hne : v = []
  · subst hne; rfl
  have hT : T v = [.lit v] := by
    have := tokens_lit v [] hv hne
    rw [List.append_nil] at this
    rw [T, this]; rfl
  rcases hb with rfl | ⟨p, rest, rfl, hp⟩
  · simp [T_nil]
  · rw [hT, T, T, tokens_lit v _ hv hne, tokens_punct p rest hp, run]
    simp [step, punct_ne_quote hp, hp, dropCommas, tokens]

/-- a text that, read inside a string literal, neither ends it nor leaves an escape pending -/
def Inert (e : List Nat) : Prop :=
  ∀ acc w, run (.str acc false) (e ++ w) = run (.str (acc ++ e) false) w

theorem Inert.nil : Inert [] := by intro acc w; simp

theorem Inert.append {a b : List Nat} (ha : Inert a) (hb : Inert b) : Inert (a ++ b) := by
  intro acc w
  rw [List.append_assoc, ha, hb, List.append_assoc]

theorem inert_plain (c : Nat) (h1 : c ≠ 34) (h2 : c ≠ 92) : Inert [c] := by
  intro acc w; simp [run, step, h1, h2]

theorem inert_esc (c : Nat) : Inert [92, c] := by
  intro acc w; simp [run, step]

theorem hexDigit_ok (n : Nat) : hexDigit (n % 16) ≠ 34 ∧ hexDigit (n % 16) ≠ 92 := by
  unfold hexDigit; split <;> omega

theorem inert_hex4 (n : Nat) : Inert (hex4 n) :=
  have d (m : Nat) : Inert [hexDigit (m % 16)] := inert_plain _ (hexDigit_ok m).1 (hexDigit_ok m).2
  (inert_esc 117).append ((d _).append ((d _).append ((d _).append (d _))))

theorem escChar_cases {P : Str → Prop} (c : Nat) (esc : ∀ e, P [92, e]) (self : c ≠ 34 → c ≠ 92 → P [c])
    (hex : ∀ n, P (hex4 n)) (pair : ∀ m n, P (hex4 m ++ hex4 n)) : P (escChar c) := by
  by_cases hs : c ∈ [34, 92, 10, 13, 9, 8, 12]
  · simp only [List.mem_cons, List.mem_nil_iff, or_false] at hs
    rcases hs with rfl | rfl | rfl | rfl | rfl | rfl | rfl <;> exact esc _
  · simp only [List.mem_cons, List.mem_nil_iff, or_false, not_or] at hs
    simp only [escChar, beq_iff_eq, hs, if_false]
    by_cases h8 : (32 ≤ c && c ≤ 126) = true
    · rw [if_pos h8]; exact self hs.1 hs.2.1
    rw [if_neg h8]
    by_cases h9 : c < 65536
    · rw [if_pos h9]; exact hex _
    · rw [if_neg h9]; exact pair _ _

theorem inert_escChar (c : Nat) : Inert (escChar c) :=
  escChar_cases c inert_esc (inert_plain c) inert_hex4 fun m n => (inert_hex4 m).append (inert_hex4 n)

theorem inert_escStr (s : List Nat) : Inert (escStr s) := by
  induction s with
  | nil => exact .nil
  | cons c s ih => exact (inert_escChar c).append ih

theorem tokens_quote (s w : List Nat) : tokens (quote s ++ w) = .str (escStr s) :: tokens w := by
  simp only [quote, tokens, List.cons_append, List.append_assoc, List.nil_append]
  rw [show run .out (34 :: (escStr s ++ (34 :: w))) = run (.str [] false) (escStr s ++ 34 :: w) by simp [run, step]]
  rw [inert_escStr]
  simp [run, step]

theorem T_quote (s w : List Nat) : T (quote s ++ w) = .str (escStr s) :: T w := by
  simp [T, tokens_quote, dropCommas]

theorem closedT_quote (s : List Nat) : ClosedT (quote s) :=
  (closedT_of_T (ts := [.str (escStr s)]) fun w => T_quote s w).1

theorem ClosedT.append {a b : List Nat} (ha : ClosedT a) (hb : ClosedT b) (hs : b = [] ∨ StartsPunct b) :
    ClosedT (a ++ b) := by
  intro c hc
  rcases hs with rfl | hs
  · simpa using ha c hc
  · have hbc : StartsPunct (b ++ c) := by
      obtain ⟨p, rest, rfl, hp⟩ := hs
      exact ⟨p, rest ++ c, rfl, hp⟩
    rw [List.append_assoc, ha _ (Or.inr hbc), hb c hc, ha b (Or.inr hs), List.append_assoc]

end GtModel.Render
