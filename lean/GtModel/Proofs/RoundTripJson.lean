/-
  Lemmas for C12 (JSON): reading back what `printJson` wrote.
-/
import GtModel.Model.RoundTrip

namespace GtModel.RoundTrip

/-- what may follow a printed value -/
def delimHead : Str → Bool
  | [] => true
  | c :: _ => c = 44 || c = 10

theorem delimHead_cases {rest : Str} (h : delimHead rest = true) :
    rest = [] ∨ ∃ t, rest = 44 :: t ∨ rest = 10 :: t := by
  cases rest with
  | nil => exact .inl rfl
  | cons c t =>
    simp [delimHead] at h
    rcases h with rfl | rfl <;> simp

theorem natDigits_lt (n : Nat) (h : n < 10) : natDigits n = [48 + n] := by
  rw [natDigits]; simp [h]

theorem natDigits_ge (n : Nat) (h : ¬ n < 10) : natDigits n = natDigits (n / 10) ++ [48 + n % 10] := by
  rw [natDigits]; simp [h]

theorem digitsToNat_natDigits (n : Nat) : digitsToNat (natDigits n) = n := by
  induction n using Nat.strongRecOn with
  | _ n ih =>
    by_cases h : n < 10
    · rw [natDigits_lt n h]; simp [digitsToNat]
    · rw [natDigits_ge n h]
      have := ih (n / 10) (by omega)
      simp only [digitsToNat] at this ⊢
      rw [List.foldl_append, this]; simp; omega

theorem validIntPart_snoc (ip : Str) (d : Nat) (h : validIntPart ip = true) (h0 : ip ≠ [48])
    (hd : isDigit d = true) : validIntPart (ip ++ [d]) = true := by
  match ip, h with
  | [c], h =>
    have : c ≠ 48 := fun e => h0 (by rw [e])
    simp [validIntPart] at h
    simp [validIntPart, allDigits, h, hd, this]
  | c :: e :: t, h =>
    simp [validIntPart, allDigits] at h ⊢
    exact ⟨h.1, h.2.1, h.2.2, hd⟩

theorem validIntPart_natDigits (n : Nat) : validIntPart (natDigits n) = true := by
  induction n using Nat.strongRecOn with
  | _ n ih =>
    by_cases h : n < 10
    · rw [natDigits_lt n h]; simp [validIntPart, isDigit]; omega
    · rw [natDigits_ge n h]
      refine validIntPart_snoc _ _ (ih _ (by omega)) (fun e => ?_) (by simp [isDigit]; omega)
      -- a leading '0' would mean n / 10 = 0
      have := digitsToNat_natDigits (n / 10)
      rw [e] at this
      simp [digitsToNat] at this; omega

/-- where `takeDigits` stops -/
def nonDigitHead : Str → Bool
  | [] => true
  | c :: _ => !isDigit c

theorem takeDigits_append (ds rest : Str) (hd : allDigits ds = true) (hr : nonDigitHead rest = true) :
    takeDigits (ds ++ rest) = (ds, rest) := by
  induction ds with
  | nil =>
    cases rest with
    | nil => rfl
    | cons c t => simp [nonDigitHead] at hr; simp [takeDigits, hr]
  | cons d ds ih =>
    rw [allDigits, List.all_cons, Bool.and_eq_true] at hd
    simp [takeDigits, hd.1, ih hd.2]

theorem lexIntPart_ok (ip more : Str) (hv : validIntPart ip = true) (hm : nonDigitHead more = true) :
    lexIntPart (ip ++ more) = some (ip, more) := by
  match ip, hv with
  | [c], hv =>
    by_cases hc : c = 48
    · subst hc; simp [lexIntPart]
    · have := takeDigits_append [] more rfl hm
      simp [validIntPart] at hv this
      simp [lexIntPart, hc, hv, this]
  | c :: d :: t, hv =>
    simp [validIntPart] at hv
    have := takeDigits_append (d :: t) more hv.2 hm
    simp at this
    simp [lexIntPart, hv.1, this]

theorem lexFrac_ok (frac more : Str) (hv : allDigits frac = true) (hm : nonDigitHead more = true)
    (hdot : more.head? ≠ some 46) :
    lexFrac ((if frac = [] then [] else 46 :: frac) ++ more) = some (frac, more) := by
  by_cases hf : frac = []
  · subst hf
    cases more with
    | nil => rfl
    | cons c t =>
      have hc : c ≠ 46 := by simpa using hdot
      simp [lexFrac, hc]
  · simp [hf, lexFrac, takeDigits_append frac more hv hm]

theorem expTail_head (exp : Option (Option Nat × Str)) (rest : Str) (hr : delimHead rest = true) :
    nonDigitHead (printExp exp ++ rest) = true ∧ (printExp exp ++ rest).head? ≠ some 46 := by
  rcases exp with _ | ⟨_ | sg, ds⟩
  · rcases delimHead_cases hr with rfl | ⟨t, rfl | rfl⟩ <;> simp [printExp, nonDigitHead, isDigit]
  · simp [printExp, nonDigitHead, isDigit]
  · simp [printExp, nonDigitHead, isDigit]

theorem lexExp_ok (exp : Option (Option Nat × Str)) (rest : Str) (hv : validExp exp = true)
    (hr : delimHead rest = true) : lexExp (printExp exp ++ rest) = some (exp, rest) := by
  match exp, hv with
  | none, _ => rcases delimHead_cases hr with rfl | ⟨t, rfl | rfl⟩ <;> simp [printExp, lexExp]
  | some (sg, ds), hv =>
    simp [validExp] at hv
    obtain ⟨⟨hsg, hne⟩, hd⟩ := hv
    have htd := takeDigits_append ds rest hd (expTail_head none rest hr).1
    cases ds with
    | nil => exact absurd rfl hne
    | cons d ds' =>
      have hdd : isDigit d = true := by simp [allDigits] at hd; exact hd.1
      simp [isDigit] at hdd
      have hd1 : d ≠ 43 ∧ d ≠ 45 := by omega
      simp at htd
      rcases hsg with (rfl | rfl) | rfl <;> simp [printExp, lexExp, hd1, htd]

theorem lexNumber_print (neg : Bool) (ip frac : Str) (exp : Option (Option Nat × Str)) (rest : Str)
    (hip : validIntPart ip = true) (hfr : allDigits frac = true) (hex : validExp exp = true)
    (hr : delimHead rest = true) :
    lexNumber neg (ip ++ ((if frac = [] then [] else 46 :: frac) ++ (printExp exp ++ rest))) =
      if frac = [] ∧ exp = none then
        some (.int (if neg then -(digitsToNat ip : Int) else (digitsToNat ip : Int)), rest)
      else some (.float (.num neg ip frac exp), rest) := by
  obtain ⟨hE, hdot⟩ := expTail_head exp rest hr
  have hF : nonDigitHead ((if frac = [] then [] else 46 :: frac) ++ (printExp exp ++ rest)) = true := by
    by_cases hf : frac = []
    · simpa [hf] using hE
    · simp [hf, nonDigitHead, isDigit]
  simp only [lexNumber, lexIntPart_ok ip _ hip hF, lexFrac_ok frac _ hfr hE hdot, lexExp_ok exp rest hex hr]

theorem lexAtom_number (ip X : Str) (hip : validIntPart ip = true) :
    lexAtom (45 :: (ip ++ X)) = lexNumber true (ip ++ X) ∧ lexAtom (ip ++ X) = lexNumber false (ip ++ X) := by
  obtain ⟨c, t, rfl, hd⟩ : ∃ c t, ip = c :: t ∧ isDigit c = true := by
    match ip, hip with
    | [c], h => exact ⟨c, [], rfl, by simpa [validIntPart] using h⟩
    | c :: d :: t, h => simp [validIntPart] at h; exact ⟨c, d :: t, rfl, h.1.1⟩
  simp [isDigit] at hd
  have hc : c ≠ 110 ∧ c ≠ 116 ∧ c ≠ 102 ∧ c ≠ 78 ∧ c ≠ 73 ∧ c ≠ 45 := by omega
  simp [lexAtom, hc]

theorem lexAtom_int (i : Int) (rest : Str) (hr : delimHead rest = true) :
    lexAtom (intStr i ++ rest) = some (.int i, rest) := by
  have hv := validIntPart_natDigits i.natAbs
  have hn := fun neg => lexNumber_print neg (natDigits i.natAbs) [] none rest hv rfl rfl hr
  simp [printExp, digitsToNat_natDigits] at hn
  by_cases hi : i < 0
  · rw [intStr, if_pos hi, List.cons_append, (lexAtom_number _ rest hv).1, hn.2]; simp; omega
  · rw [intStr, if_neg hi, (lexAtom_number _ rest hv).2, hn.1]; simp; omega

theorem lexAtom_float (f : FloatLit) (rest : Str) (hv : f.valid = true) (hr : delimHead rest = true) :
    lexAtom (f.text ++ rest) = some (.float f, rest) := by
  match f, hv with
  | .nan, _ => simp [FloatLit.text, lexAtom, dropPrefix]
  | .inf false, _ => simp [FloatLit.text, lexAtom, dropPrefix]
  | .inf true, _ => simp [FloatLit.text, lexAtom, dropPrefix]
  | .num neg ip frac exp, hv =>
    simp [FloatLit.valid] at hv
    obtain ⟨⟨⟨hip, hfr⟩, hex⟩, hne⟩ := hv
    obtain ⟨h1, h2⟩ := lexAtom_number ip ((if frac = [] then [] else 46 :: frac) ++ (printExp exp ++ rest)) hip
    have hne' : ¬ (frac = [] ∧ exp = none) := fun ⟨a, b⟩ => hne.elim (· a) (· b)
    cases neg <;>
      simp only [FloatLit.text, Bool.false_eq_true, if_true, if_false, List.append_assoc, List.cons_append,
        List.nil_append, h1, h2, lexNumber_print _ ip frac exp rest hip hfr hex hr, if_neg hne']

theorem hexVal_hexDigit (n : Nat) (h : n < 16) : hexVal (hexDigit n) = some n := by
  unfold hexDigit hexVal
  by_cases h1 : n < 10
  · simp [h1]; omega
  · simp [h1]
    have a : ¬ (48 ≤ 87 + n ∧ 87 + n ≤ 57) := by omega
    have b : 97 ≤ 87 + n ∧ 87 + n ≤ 102 := by omega
    simp [a, b]

/-- Horner evaluation of the four hexadecimal digits -/
theorem hex4_value (u : Nat) : ((u / 4096 * 16 + u / 256 % 16) * 16 + u / 16 % 16) * 16 + u % 16 = u := by
  have h1 : u / 256 = u / 16 / 16 := by rw [Nat.div_div_eq_div_mul]
  have h2 : u / 4096 = u / 16 / 16 / 16 := by rw [Nat.div_div_eq_div_mul, Nat.div_div_eq_div_mul]
  rw [h1, h2, Nat.div_add_mod', Nat.div_add_mod', Nat.div_add_mod']

theorem readHex4_hex4 (u : Nat) (rest : Str) (h : u < 65536) : readHex4 (hex4 u ++ rest) = some (u, rest) := by
  simp only [hex4, List.cons_append, List.nil_append, readHex4]
  rw [hexVal_hexDigit _ (by omega), hexVal_hexDigit _ (by omega), hexVal_hexDigit _ (by omega), hexVal_hexDigit _ (by omega)]
  show some (_, rest) = _
  rw [hex4_value]

theorem escapeChar_bmp (c : Nat) (h1 : 127 ≤ c) (h2 : c < 65536) : escapeChar c = 92 :: 117 :: hex4 c := by
  have : ∀ k, k < 127 → c ≠ k := fun k hk e => by omega
  simp [escapeChar, this, h2, show ¬ c < 127 by omega]

theorem escapeChar_astral (c : Nat) (h : 65536 ≤ c) :
    escapeChar c = 92 :: 117 :: hex4 (55296 + (c - 65536) / 1024) ++ 92 :: 117 :: hex4 (56320 + (c - 65536) % 1024) := by
  have : ∀ k, k < 65536 → c ≠ k := fun k hk e => by omega
  simp [escapeChar, this, Nat.not_lt.2 h, show ¬ c < 127 by omega]

theorem escapeChar_cases (c : Nat) :
    (∃ x, escapeChar c = [92, x] ∧ simpleEscape x = some c ∧ x ≠ 117)
    ∨ (escapeChar c = [c] ∧ 32 ≤ c ∧ c ≠ 34 ∧ c ≠ 92)
    ∨ (escapeChar c = 92 :: 117 :: hex4 c ∧ c < 65536)
    ∨ (escapeChar c = 92 :: 117 :: hex4 (55296 + (c - 65536) / 1024) ++ 92 :: 117 :: hex4 (56320 + (c - 65536) % 1024)
        ∧ 65536 ≤ c) := by
  by_cases hs : c ∈ [34, 92, 10, 13, 9, 8, 12]
  · simp only [List.mem_cons, List.not_mem_nil, or_false] at hs
    rcases hs with rfl | rfl | rfl | rfl | rfl | rfl | rfl <;> exact .inl ⟨_, rfl, rfl, by decide⟩
  · simp only [List.mem_cons, List.not_mem_nil, or_false, not_or] at hs
    by_cases h8 : 32 ≤ c ∧ c < 127
    · exact .inr (.inl ⟨by simp [escapeChar, hs, h8], by omega⟩)
    by_cases h9 : c < 65536
    · exact .inr (.inr (.inl ⟨by simp [escapeChar, hs, h8, h9], h9⟩))
    · exact .inr (.inr (.inr ⟨escapeChar_astral c (Nat.le_of_not_lt h9), Nat.le_of_not_lt h9⟩))

theorem peekLow_u (r : Str) : peekLow (92 :: 117 :: r)
    = match readHex4 r with
      | some (l, r') => if isLow l then some (l, r') else none
      | none => none := by
  rfl

theorem astral_units (c : Nat) (h1 : 65536 ≤ c) (h2 : c < 1114112) :
    isHigh (55296 + (c - 65536) / 1024) = true ∧ isLow (55296 + (c - 65536) / 1024) = false ∧
      isLow (56320 + (c - 65536) % 1024) = true := by
  simp [isHigh, isLow]; omega

theorem peekLow_escapeChar (c : Nat) (R : Str) (hlt : c < 1114112) (hlow : isLow c = false) :
    peekLow (escapeChar c ++ R) = none := by
  rcases escapeChar_cases c with ⟨x, e, _, hx⟩ | ⟨e, _, _, h92⟩ | ⟨e, hc⟩ | ⟨e, hc⟩ <;> rw [e]
  · simp [peekLow, hx]
  · simp [peekLow, h92]
  · simp only [List.cons_append]
    rw [peekLow_u, readHex4_hex4 c _ hc]; simp [hlow]
  · simp only [List.cons_append, List.append_assoc]
    rw [peekLow_u, readHex4_hex4 _ _ (by omega)]; simp [(astral_units c hc hlt).2.1]

/-- the strings for which printing and reading agree, per reader variant -/
def okStr (comb : Bool) (s : Str) : Bool := if comb then validStr s else bmpStr s

theorem okStr_true : okStr true = validStr := rfl
theorem okStr_false : okStr false = bmpStr := rfl

theorem validStr_cons (c : Nat) (t : Str) (h : validStr (c :: t) = true) : c < 1114112 ∧ validStr t = true := by
  cases t with
  | nil => simp [validStr] at h ⊢; exact h
  | cons b r => simp only [validStr, Bool.and_eq_true, decide_eq_true_eq] at h; exact ⟨h.1.1, h.2⟩

/-- the third part is what Python's reader needs: an escaped high surrogate is not followed by an escaped low one -/
theorem okStr_cons (comb : Bool) (c : Nat) (s rest : Str) (h : okStr comb (c :: s) = true) :
    okStr comb s = true ∧ (if comb then c < 1114112 else c < 65536) ∧
      (comb = true → isHigh c = true → peekLow (printStrBody s ++ 34 :: rest) = none) := by
  cases comb with
  | false => simpa [okStr, bmpStr, and_comm] using h
  | true =>
    obtain ⟨hc, hs⟩ := validStr_cons c s h
    refine ⟨hs, hc, fun _ hh => ?_⟩
    cases s with
    | nil => rfl
    | cons b t =>
      simp [okStr, validStr, hh] at h
      rw [printStrBody, List.append_assoc]
      exact peekLow_escapeChar b _ (validStr_cons b t hs).1 h.1.2

theorem astral_arith (c : Nat) (h1 : 65536 ≤ c) (h2 : c < 1114112) :
    65536 + (55296 + (c - 65536) / 1024 - 55296) * 1024 + (56320 + (c - 65536) % 1024 - 56320) = c := by omega

/-- One escaped surrogate pair is decoded to one character (reader variant of Python's `json`).  Over variables:
    with `55296 + (c - 65536) / 1024` in place of `hi` the kernel exhausts its stack on `hi - 55296`. -/
theorem readStrBody_pair (hi lo f : Nat) (R : Str) (h1 : isHigh hi = true) (h2 : isLow lo = true) :
    readStrBody true (f + 1) (92 :: 117 :: (hex4 hi ++ 92 :: 117 :: (hex4 lo ++ R)))
      = (readStrBody true f R).map (fun p => ((65536 + (hi - 55296) * 1024 + (lo - 56320)) :: p.1, p.2)) := by
  have a : hi < 65536 := by simp [isHigh] at h1; omega
  have b : lo < 65536 := by simp [isLow] at h2; omega
  simp only [readStrBody, readHex4_hex4 hi _ a]
  rw [peekLow_u, readHex4_hex4 lo _ b]
  simp [h1, h2]

theorem readStrBody_escapeChar (comb : Bool) (c f : Nat) (R : Str)
    (hlt : if comb then c < 1114112 else c < 65536)
    (hpk : comb = true → isHigh c = true → peekLow R = none) :
    readStrBody comb (f + 1) (escapeChar c ++ R) = (readStrBody comb f R).map (fun p => (c :: p.1, p.2)) := by
  rcases escapeChar_cases c with ⟨x, e, hx, hxu⟩ | ⟨e, h32, h34, h92⟩ | ⟨e, hc⟩ | ⟨e, hc⟩ <;> rw [e]
  · simp only [List.cons_append, List.nil_append, readStrBody]
    simp [hxu, hx]
  · simp only [List.cons_append, List.nil_append, readStrBody]
    simp [h34, h92, Nat.not_lt.2 h32]
  · simp only [List.cons_append, readStrBody, readHex4_hex4 c _ hc]
    cases comb with
    | false => simp
    | true =>
      by_cases hh : isHigh c = true
      · simp [hh, hpk rfl hh]
      · simp [hh]
  · cases comb with
    | false => simp at hlt; omega
    | true =>
      simp at hlt
      obtain ⟨h1, _, h2⟩ := astral_units c hc hlt
      simp only [List.cons_append, List.append_assoc]
      rw [readStrBody_pair _ _ f _ h1 h2, astral_arith c hc hlt]

theorem readStrBody_print (comb : Bool) (s : Str) :
    ∀ (f : Nat) (rest : Str), s.length < f → okStr comb s = true →
      readStrBody comb f (printStrBody s ++ 34 :: rest) = some (s, rest) := by
  induction s with
  | nil =>
    intro f rest hf _
    obtain ⟨f, rfl⟩ : ∃ g, f = g + 1 := ⟨f - 1, by omega⟩
    simp [printStrBody, readStrBody]
  | cons c t ih =>
    intro f rest hf hok
    obtain ⟨f, rfl⟩ : ∃ g, f = g + 1 := ⟨f - 1, by omega⟩
    obtain ⟨ht, hlt, hpk⟩ := okStr_cons comb c t rest hok
    rw [printStrBody, List.append_assoc, readStrBody_escapeChar comb c f _ hlt hpk,
      ih f rest (Nat.lt_of_succ_lt_succ hf) ht]
    rfl

theorem printStrBody_length (s : Str) : s.length ≤ (printStrBody s).length := by
  induction s with
  | nil => simp [printStrBody]
  | cons c t ih =>
    simp only [printStrBody, List.length_append, List.length_cons]
    have : 1 ≤ (escapeChar c).length := by
      rcases escapeChar_cases c with ⟨x, e, _, _⟩ | ⟨e, _⟩ | ⟨e, _⟩ | ⟨e, _⟩ <;> rw [e] <;> simp
    omega

theorem readStr_print (comb : Bool) (s rest : Str) (h : okStr comb s = true) :
    readStr comb (printStrBody s ++ 34 :: rest) = some (s, rest) := by
  unfold readStr
  apply readStrBody_print comb s _ rest _ h
  have := printStrBody_length s
  simp; omega

theorem skipWs_ws_append (ws x : Str) (h : ws.all isWs = true) : skipWs (ws ++ x) = skipWs x := by
  induction ws with
  | nil => rfl
  | cons c t ih =>
    simp only [List.all_cons, Bool.and_eq_true] at h
    simp [skipWs, h.1, ih h.2]

theorem skipWs_idem (x : Str) : skipWs (skipWs x) = skipWs x := by
  induction x with
  | nil => rfl
  | cons c t ih => by_cases h : isWs c = true <;> simp [skipWs, h, ih]

theorem nl_all_ws (d : Nat) : (nl d).all isWs = true := by
  simp [nl, isWs, List.all_replicate]

theorem nl_length (d : Nat) : (nl d).length = 4 * d + 1 := by simp [nl]

/-! Statements about the reader alone, up to `parseElems_last`: they hold for every input, printed or not. -/

section Compose
variable {comb : Bool} {f : Nat} {v : JVal} {r : Str}

theorem lexAtom_head {c : Nat} {t : Str} {p : JVal × Str} (h : lexAtom (c :: t) = some p) :
    isWs c = false ∧ c ≠ 91 ∧ c ≠ 123 ∧ c ≠ 34 := by
  have hc : isDigit c = true ∨ c = 45 ∨ c = 110 ∨ c = 116 ∨ c = 102 ∨ c = 78 ∨ c = 73 := by
    refine Decidable.by_contra fun hn => ?_
    simp only [not_or] at hn
    have h48 : c ≠ 48 := by rintro rfl; simp [isDigit] at hn
    simp [lexAtom, lexNumber, lexIntPart, hn, h48] at h
  rcases hc with h | rfl | rfl | rfl | rfl | rfl | rfl
  · simp [isDigit] at h
    simp [isWs]; omega
  all_goals decide

theorem parseVal_skipWs (comb : Bool) (f : Nat) (x : Str) : parseVal comb f (skipWs x) = parseVal comb f x := by
  cases f with
  | zero => simp [parseVal]
  | succ f => simp only [parseVal, skipWs_idem]

theorem parseVal_ws (comb : Bool) (f : Nat) (ws x : Str) (h : ws.all isWs = true) :
    parseVal comb f (ws ++ x) = parseVal comb f x := by
  rw [← parseVal_skipWs, skipWs_ws_append _ _ h, parseVal_skipWs]

theorem parseVal_head {x : Str} {p : JVal × Str} (h : parseVal comb f x = some p) :
    ∃ c t, skipWs x = c :: t ∧ c ≠ 93 := by
  cases f with
  | zero => simp [parseVal] at h
  | succ f =>
    rw [parseVal] at h
    cases hs : skipWs x with
    | nil => simp [hs] at h
    | cons c t =>
      refine ⟨c, t, rfl, ?_⟩
      rintro rfl
      simp [hs, lexAtom, lexNumber, lexIntPart, isDigit] at h

theorem parseVal_atom (comb : Bool) (f : Nat) {X : Str} (hl : lexAtom X = some (v, r)) :
    parseVal comb (f + 1) X = some (v, r) := by
  cases X with
  | nil => simp [lexAtom] at hl
  | cons c t =>
    obtain ⟨a1, a2, a3, a4⟩ := lexAtom_head hl
    simp [parseVal, skipWs, a1, a2, a3, a4, hl]

theorem parseVal_arr {X : Str} {l : JList} (h : parseElems comb f X = some (l, r)) :
    parseVal comb (f + 1) (91 :: X) = some (.arr l, r) := by
  cases f with
  | zero => simp [parseElems] at h
  | succ f =>
    have h' := h
    rw [parseElems] at h'
    cases hv : parseVal comb f X with
    | none => simp [hv] at h'
    | some p =>
      obtain ⟨c, t, hs, hc⟩ := parseVal_head hv
      have e : parseElems comb (f + 1) (c :: t) = some (l, r) := by
        rw [← h, ← hs, parseElems, parseElems, parseVal_skipWs]
      simp [parseVal, skipWs, isWs, hs, hc, e]

theorem parseVal_obj {X : Str} {m : JObj} (h : parseMembers comb f X = some (m, r)) :
    parseVal comb (f + 1) (123 :: X) = some (.obj m, r) := by
  cases f with
  | zero => simp [parseMembers] at h
  | succ f =>
    have h' := h
    rw [parseMembers] at h'
    cases hs : skipWs X with
    | nil => simp [hs] at h'
    | cons q t =>
      have hq : q = 34 := Decidable.by_contra fun hq => by simp [hs, hq] at h'
      subst hq
      have e : parseMembers comb (f + 1) (34 :: t) = some (m, r) := by
        rw [← h, ← hs, parseMembers, parseMembers, skipWs_idem]
      simp [parseVal, skipWs, isWs, hs, e]

theorem parseElems_cons {inp X : Str} {l : JList}
    (hv : parseVal comb f inp = some (v, 44 :: X)) (ht : parseElems comb f X = some (l, r)) :
    parseElems comb (f + 1) inp = some (.cons v l, r) := by
  simp [parseElems, hv, skipWs, isWs, ht]

theorem parseElems_last {inp ws : Str}
    (hv : parseVal comb f inp = some (v, ws ++ 93 :: r)) (hws : ws.all isWs = true) :
    parseElems comb (f + 1) inp = some (.cons v .nil, r) := by
  simp [parseElems, hv, skipWs_ws_append _ _ hws, skipWs, isWs]


variable {ws k X : Str} (hws : ws.all isWs = true) (hk : okStr comb k = true)
include hws hk

theorem parseMembers_cons {Y : Str} {m : JObj}
    (hv : parseVal comb f X = some (v, 44 :: Y)) (ht : parseMembers comb f Y = some (m, r)) :
    parseMembers comb (f + 1) (ws ++ (printStr k ++ 58 :: X)) = some (.cons k v m, r) := by
  rw [parseMembers, skipWs_ws_append _ _ hws]
  simp [printStr, skipWs, isWs, readStr_print comb k _ hk, hv, ht]

theorem parseMembers_last {ws' : Str}
    (hv : parseVal comb f X = some (v, ws' ++ 125 :: r)) (hws' : ws'.all isWs = true) :
    parseMembers comb (f + 1) (ws ++ (printStr k ++ 58 :: X)) = some (.cons k v .nil, r) := by
  rw [parseMembers, skipWs_ws_append _ _ hws]
  simp [printStr, skipWs, isWs, readStr_print comb k _ hk, hv, skipWs_ws_append _ _ hws']

end Compose

mutual
/-- Fuel that suffices to read the printed value back: 0 for scalars; a container needs 5 more than its first value and
    its remaining items together: 2 are used (`fuel_split`: one call each for the container and its item list), 3 are
    slack; a further item needs 2 more than its parts. -/
def need : JVal → Nat
  | .arr (.cons v t) => need v + needL t + 5
  | .obj (.cons _ v t) => need v + needO t + 5
  | _ => 0
def needL : JList → Nat
  | .nil => 0
  | .cons v t => need v + needL t + 2
def needO : JObj → Nat
  | .nil => 0
  | .cons _ v t => need v + needO t + 2
end

/-- the fuel of a container covers its first value with two units to spare, and the remaining items with one -/
theorem fuel_split {a b c f : Nat} (h : a + b + (c + 2) ≤ f) : ∃ g, f = g + 2 ∧ a ≤ g ∧ b ≤ g + 1 := by
  obtain ⟨g, rfl⟩ := Nat.exists_eq_add_of_le' (Nat.le_trans (Nat.le_add_left 2 (a + b + c)) h)
  exact ⟨g, rfl, by omega, by omega⟩

theorem JList.validWith_cons (P : Str → Bool) (v : JVal) (t : JList) :
    (JList.cons v t).validWith P = true ↔ v.validWith P = true ∧ t.validWith P = true := by
  rw [JList.validWith, Bool.and_eq_true]

theorem JObj.validWith_cons (P : Str → Bool) (k : Str) (v : JVal) (t : JObj) :
    (JObj.cons k v t).validWith P = true ↔ (P k = true ∧ v.validWith P = true) ∧ t.validWith P = true := by
  rw [JObj.validWith, Bool.and_eq_true, Bool.and_eq_true]

theorem printItems_delim (d d' : Nat) (t : JList) (c : Nat) (rest : Str) :
    delimHead (printItems d t ++ (nl d' ++ c :: rest)) = true := by
  cases t <;> simp [printItems, nl, delimHead]

theorem printMembers_delim (d d' : Nat) (t : JObj) (c : Nat) (rest : Str) :
    delimHead (printMembers d t ++ (nl d' ++ c :: rest)) = true := by
  cases t <;> simp [printMembers, nl, delimHead]

/-- The round trip at every level of a document, by induction along the equations of the printer
    (`printVal.mutual_induct`: an empty container, or a first value followed by further items). -/
theorem print_all (comb : Bool) :
    (∀ (d : Nat) (v : JVal), v.validWith (okStr comb) = true → ∀ (f : Nat) (rest : Str), need v ≤ f →
      delimHead rest = true → parseVal comb (f + 1) (printVal d v ++ rest) = some (v, rest)) ∧
    (∀ (d : Nat) (t : JObj), t.validWith (okStr comb) = true → ∀ (f d' : Nat) (k : Str) (v : JVal) (ws X rest : Str),
      needO t ≤ f → okStr comb k = true → ws.all isWs = true →
      parseVal comb f X = some (v, printMembers d t ++ (nl d' ++ 125 :: rest)) →
      parseMembers comb (f + 1) (ws ++ (printStr k ++ 58 :: X)) = some (.cons k v t, rest)) ∧
    (∀ (d : Nat) (t : JList), t.validWith (okStr comb) = true → ∀ (f d' : Nat) (v : JVal) (inp rest : Str),
      needL t ≤ f → parseVal comb f inp = some (v, printItems d t ++ (nl d' ++ 93 :: rest)) →
      parseElems comb (f + 1) inp = some (.cons v t, rest)) := by
  refine printVal.mutual_induct _ _ _ ?null ?tt ?ff ?int ?float ?str ?arr0 ?arr ?obj0 ?obj ?lnil ?lcons ?onil ?ocons
  case null | tt | ff => exact fun _ _ f _ _ _ => parseVal_atom comb f (by simp [printVal, lexAtom, dropPrefix])
  case int => exact fun _ i _ f rest _ hr => parseVal_atom comb f (lexAtom_int i rest hr)
  case float => exact fun _ x hv f rest _ hr => parseVal_atom comb f (lexAtom_float x rest hv hr)
  case str =>
    intro _ s hv _ rest _ _
    simp [parseVal, printVal, printStr, skipWs, isWs, readStr_print comb s rest hv]
  case arr0 | obj0 => exact fun _ _ _ _ _ _ => rfl
  case arr =>
    intro d v t ihv iht hv f rest hf _
    obtain ⟨g, rfl, hg, hg'⟩ := fuel_split (a := need v) (c := 3) hf
    obtain ⟨hv1, hv2⟩ := (JList.validWith_cons _ v t).1 hv
    simp only [printVal, List.cons_append, List.append_assoc, List.nil_append]
    exact parseVal_arr (iht hv2 (g + 1) d v _ rest hg'
      ((parseVal_ws _ _ _ _ (nl_all_ws _)).trans (ihv hv1 g _ hg (printItems_delim ..))))
  case obj =>
    intro d k v t ihv iht hv f rest hf _
    obtain ⟨g, rfl, hg, hg'⟩ := fuel_split (a := need v) (c := 3) hf
    obtain ⟨⟨hk, hv1⟩, hv2⟩ := (JObj.validWith_cons _ k v t).1 hv
    simp only [printVal, List.cons_append, List.append_assoc, List.nil_append]
    exact parseVal_obj (iht hv2 (g + 1) d k v (nl (d + 1)) _ rest hg' hk (nl_all_ws _)
      ((parseVal_ws _ _ [32] _ rfl).trans (ihv hv1 g _ hg (printMembers_delim ..))))
  case lnil => exact fun _ _ f d' v inp rest _ hval => parseElems_last hval (nl_all_ws d')
  case lcons =>
    intro d v' t' ihv iht hv f d' v inp rest hf hval
    obtain ⟨g, rfl, hg, hg'⟩ := fuel_split (a := need v') (c := 0) hf
    obtain ⟨hv1, hv2⟩ := (JList.validWith_cons _ v' t').1 hv
    rw [printItems, List.cons_append, List.append_assoc, List.append_assoc] at hval
    exact parseElems_cons hval (iht hv2 (g + 1) d' v' _ rest hg'
      ((parseVal_ws _ _ _ _ (nl_all_ws d)).trans (ihv hv1 g _ hg (printItems_delim ..))))
  case onil => exact fun _ _ f d' k v ws X rest _ hk hws hval => parseMembers_last hws hk hval (nl_all_ws d')
  case ocons =>
    intro d k' v' t' ihv iht hv f d' k v ws X rest hf hk hws hval
    obtain ⟨g, rfl, hg, hg'⟩ := fuel_split (a := need v') (c := 0) hf
    obtain ⟨⟨hk', hv1⟩, hv2⟩ := (JObj.validWith_cons _ k' v' t').1 hv
    rw [printMembers, List.cons_append, List.append_assoc, List.append_assoc, List.cons_append, List.cons_append,
      List.append_assoc] at hval
    exact parseMembers_cons hws hk hval (iht hv2 (g + 1) d' k' v' (nl d) _ rest hg' hk'
      (nl_all_ws d) ((parseVal_ws _ _ [32] _ rfl).trans (ihv hv1 g _ hg (printMembers_delim ..))))

theorem parseVal_print (comb : Bool) : ∀ (v : JVal) (f d : Nat) (rest : Str),
    need v ≤ f → delimHead rest = true → v.validWith (okStr comb) = true →
    parseVal comb (f + 1) (printVal d v ++ rest) = some (v, rest) :=
  fun v f d rest hf hr hv => (print_all comb).1 d v hv f rest hf hr
theorem parseElems_tail (comb : Bool) : ∀ (t : JList) (f d d' : Nat) (v : JVal) (inp rest : Str),
    needL t ≤ f → t.validWith (okStr comb) = true →
    parseVal comb f inp = some (v, printItems d t ++ (nl d' ++ 93 :: rest)) →
    parseElems comb (f + 1) inp = some (.cons v t, rest) :=
  fun t f d d' v inp rest hf hv h => (print_all comb).2.2 d t hv f d' v inp rest hf h
theorem parseMembers_tail (comb : Bool) : ∀ (t : JObj) (f d d' : Nat) (k : Str) (v : JVal) (ws X rest : Str),
    needO t ≤ f → t.validWith (okStr comb) = true → okStr comb k = true → ws.all isWs = true →
    parseVal comb f X = some (v, printMembers d t ++ (nl d' ++ 125 :: rest)) →
    parseMembers comb (f + 1) (ws ++ (printStr k ++ 58 :: X)) = some (.cons k v t, rest) :=
  fun t f d d' k v ws X rest hf hv hk hws h => (print_all comb).2.1 d t hv f d' k v ws X rest hf hk hws h

theorem need_all :
    (∀ (d : Nat) (v : JVal), need v ≤ (printVal d v).length) ∧
    (∀ (d : Nat) (t : JObj), needO t ≤ (printMembers d t).length) ∧
    (∀ (d : Nat) (t : JList), needL t ≤ (printItems d t).length) := by
  refine printVal.mutual_induct _ _ _ ?null ?tt ?ff ?int ?float ?str ?arr0 ?arr ?obj0 ?obj ?lnil ?lcons ?onil ?ocons
  case arr | lcons =>
    intros
    simp only [need, needL, printVal, printItems, List.length_cons, List.length_append, List.length_nil, nl_length]
    omega
  case obj | ocons =>
    intros
    simp only [need, needO, printVal, printMembers, printStr, List.length_cons, List.length_append, List.length_nil,
      nl_length]
    omega
  all_goals intros; exact Nat.zero_le _

theorem need_le : ∀ (v : JVal) (d : Nat), need v ≤ (printVal d v).length := fun v d => need_all.1 d v
theorem needL_le : ∀ (t : JList) (d : Nat), needL t ≤ (printItems d t).length := fun t d => need_all.2.2 d t
theorem needO_le : ∀ (t : JObj) (d : Nat), needO t ≤ (printMembers d t).length := fun t d => need_all.2.1 d t

theorem readDoc_printJson (comb : Bool) (v : JVal) (hv : v.validWith (okStr comb) = true) :
    readDoc comb (printJson v) = some v := by
  have h := parseVal_print comb v (printVal 0 v).length 0 [] (need_le v 0) rfl hv
  rw [List.append_nil] at h
  simp [readDoc, printJson, h, skipWs]

end GtModel.RoundTrip
