/-
  Basic facts used by the C02 / C08 proofs: scalar equality is Leibniz equality, `eqL` is `all₂ Tree.eq`, membership
  characterisation of `subKV`, costs of the script constructors, zero sums, shared prefix/suffix trimming (for any
  `BEq`: `trim_forall₂`).
-/
import GtModel.Proofs.EditMatrix
import GtModel.Proofs.EditsBasic

namespace GtModel
open GtModel.EditMatrix (sharedPrefixLen trimLens middle)

theorem Scalar.eq_iff (a b : Scalar) : a.eq b = true ↔ a = b := by
  cases a <;> cases b <;> simp [Scalar.eq]

theorem Scalar.eq_refl (a : Scalar) : a.eq a = true := (Scalar.eq_iff a a).2 rfl

@[simp] theorem mkMatch_costZ (c : Nat) : (mkMatch c).cost = c := rfl
@[simp] theorem mkReplace_cost (a b : Nat) : (mkReplace a b).cost = Nat.max a b + 1 := rfl
@[simp] theorem mkRemove_costZ (i s p : Nat) : (mkRemove i s p).cost = s + p := rfl
@[simp] theorem mkInsert_costZ (i s p : Nat) : (mkInsert i s p).cost = s + p := rfl
@[simp] theorem mkCompound_costZ (k : Kind) (l : List Script) : (mkCompound k l).cost = sumCosts l := rfl
@[simp] theorem relabel_cost (s : Script) (f t : Ix) : (s.relabel f t).cost = s.cost := rfl
@[simp] theorem relabel_kind (s : Script) (f t : Ix) : (s.relabel f t).kind = s.kind := rfl
@[simp] theorem relabel_subs (s : Script) (f t : Ix) : (s.relabel f t).subs = s.subs := rfl
@[simp] theorem mk_cost (k : Kind) (f t : Ix) (c : Nat) (l : List Script) : (Script.mk k f t c l).cost = c := rfl

theorem mkReplace_pos (a b : Nat) : 0 < (mkReplace a b).cost := by simp

@[simp] theorem sumCosts_nilZ : sumCosts [] = 0 := rfl

theorem sumCosts_eq_zero {l : List Script} : sumCosts l = 0 ↔ ∀ s ∈ l, s.cost = 0 := by
  induction l with
  | nil => simp
  | cons s l ih => simp [ih]

/-- default tree for `getD` (what the model uses) -/
abbrev dT : Tree := .leaf .null
abbrev dKV : Str × Tree := ([], .leaf .null)

theorem eqL_eq_all₂ : ∀ (as bs : List Tree), eqL as bs = all₂ Tree.eq as bs :=
  eq_all₂_of_rec (by rw [eqL]) (fun _ _ _ _ => by rw [eqL]) (fun _ _ => by simp [eqL]) (fun _ _ => by simp [eqL])

theorem eqL_iff_forall₂ {as bs : List Tree} : eqL as bs = true ↔ Forall2 (fun a b => a.eq b = true) as bs := by
  rw [eqL_eq_all₂, all₂_iff]

theorem eqL_iff (as bs : List Tree) : eqL as bs = true ↔
    as.length = bs.length ∧ ∀ i, i < as.length → (as.getD i dT).eq (bs.getD i dT) = true :=
  eqL_iff_forall₂.trans (Builder.Forall2.iff_getD dT dT)

theorem eqL_append_cons (pre : List Tree) (x y : Tree) (r r' : List Tree)
    (h : eqL (pre ++ x :: r) (pre ++ y :: r') = true) : x.eq y = true := by
  induction pre with
  | nil => simp only [List.nil_append, eqL, Bool.and_eq_true] at h; exact h.1
  | cons p pre ih => simp only [List.cons_append, eqL, Bool.and_eq_true] at h; exact ih h.2

theorem findKV_iff (k : Str) (v : Tree) : ∀ (bs : List (Str × Tree)),
    findKV k v bs = true ↔ ∃ q ∈ bs, k = q.1 ∧ v.eq q.2 = true := by
  intro bs
  induction bs with
  | nil => simp [findKV]
  | cons b bs ih =>
    obtain ⟨k', v'⟩ := b
    simp [findKV, ih]

theorem subKV_iff : ∀ (as bs : List (Str × Tree)),
    subKV as bs = true ↔ ∀ p ∈ as, ∃ q ∈ bs, p.1 = q.1 ∧ p.2.eq q.2 = true := by
  intro as
  induction as with
  | nil => simp [subKV]
  | cons a as ih =>
    intro bs
    obtain ⟨k, v⟩ := a
    simp only [subKV, Bool.and_eq_true, ih bs, findKV_iff, List.mem_cons, forall_eq_or_imp]

section Trim
variable {α : Type} [BEq α]

omit [BEq α] in
theorem middle_getD (d : α) (a : List α) (ps : Nat × Nat) (i : Nat) (h : i < a.length - ps.1 - ps.2) :
    (middle a ps).getD i d = a.getD (i + ps.1) d := by
  simp only [middle, List.getD_eq_getElem?_getD, List.getElem?_take, h, if_true, List.getElem?_drop]
  congr 2; omega

omit [BEq α] in
theorem mem_middle {a : List α} {ps : Nat × Nat} {x : α} (h : x ∈ middle a ps) : x ∈ a :=
  List.mem_of_mem_drop (List.mem_of_mem_take h)

/-- what `EditDistance.__init__` trims off agrees position by position -/
theorem trim_forall₂ {R : α → α → Prop} (hR : ∀ x y, (x == y) = true → R x y) (a b : List α)
    (hm : Forall2 R (middle a (trimLens a b)) (middle b (trimLens a b))) : Forall2 R a b := by
  obtain ⟨pa, pb, sa, sb, ha, hb, hp, hs⟩ := trim_split a b
  have := (hp.imp fun x _ y _ => hR x y).append (hm.append (hs.imp fun x _ y _ => hR x y))
  rwa [← ha.eq, ← hb.eq] at this

theorem trim_all (d : α) (a b : List α)
    (hl : (middle a (trimLens a b)).length = (middle b (trimLens a b)).length)
    (hm : ∀ i, i < (middle a (trimLens a b)).length →
      ((middle a (trimLens a b)).getD i d == (middle b (trimLens a b)).getD i d) = true) :
    a.length = b.length ∧ ∀ i, i < a.length → (a.getD i d == b.getD i d) = true :=
  (Builder.Forall2.iff_getD d d).1 (trim_forall₂ (fun _ _ e => e) a b ((Builder.Forall2.iff_getD d d).2 ⟨hl, hm⟩))

theorem sharedPrefixLen_congr {β : Type} [BEq β] {R : α → β → Prop}
    (hR : ∀ a a' b b', R a a' → R b b' → (a == b) = (a' == b')) {as bs : List α} {as' bs' : List β}
    (h : Forall2 R as as') (h' : Forall2 R bs bs') : sharedPrefixLen as bs = sharedPrefixLen as' bs' := by
  induction h generalizing bs bs' with
  | nil => cases h' <;> rfl
  | cons h1 _ ih => cases h' with
    | nil => rfl
    | cons h1' h2' => simp only [sharedPrefixLen, hR _ _ _ _ h1 h1', ih h2']

end Trim

theorem list_eq_of_getD {α : Type} (d : α) (a b : List α) (hl : a.length = b.length)
    (h : ∀ i, i < a.length → a.getD i d = b.getD i d) : a = b :=
  ((Builder.Forall2.iff_getD d d).2 ⟨hl, h⟩).eq

end GtModel
