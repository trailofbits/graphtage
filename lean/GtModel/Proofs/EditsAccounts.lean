/-
  C01: `Accounts` = at every nesting level the sub-edits of a compound edit account for every child of both
  containers exactly once (in order for sequences).
-/
import GtModel.Proofs.EditsEqSymm
namespace GtModel

/-- sequences (and the key/value pair): sub-edits come in the order of both containers -/
def Kind.ordered : Kind → Bool
  | .ed | .fixed | .str | .kvp => true
  | _ => false

/-- which node pairs an edit with sub-edits may relate -/
def kindFits : Kind → Nd → Nd → Prop
  | .kvp, .kv _ _, .kv _ _ => True
  | .fixed, .tree (.list _), .tree (.list _) => True
  | .ed, .tree (.list _), .tree (.list _) => True
  | .ms, .tree (.dict _), .tree (.dict _) => True
  | .fk, .tree (.fdict _), .tree (.fdict _) => True
  | .str, .tree (.leaf (.str _)), .tree (.leaf (.str _)) => True
  | _, _, _ => False

/-- one compound edit accounts for the children of the two nodes it relates -/
def LocalAcc (a b : Nd) (k : Kind) (subs : List Script) : Prop :=
  k.hasSubs = true → kindFits k a b ∧
    (if k.ordered then
      fromIdx subs = ixRange a.children.length ∧ toIdx (resolveSame a b) subs = ixRange b.children.length
    else
      (fromIdx subs).Perm (ixRange a.children.length) ∧
      (toIdx (resolveSame a b) subs).Perm (ixRange b.children.length))

/-- the script accounts for both documents at every nesting level -/
def Accounts (a b : Nd) (s : Script) : Prop := Walk LocalAcc a b s

theorem kvSymm_of_eqSymm (fkv tkv : List (Str × Tree)) (h : ∀ x ∈ fkv, ∀ y ∈ tkv, x.2.eq y.2 = y.2.eq x.2) :
    KvSymm fkv tkv := by
  intro i j hi hj
  have e1 : fkv.getD i dkv = fkv[i] := getD_eq_getElem _ _ hi
  have e2 : tkv.getD j dkv = tkv[j] := getD_eq_getElem _ _ hj
  rw [e1, e2]
  simp only [kvEq, h _ (List.getElem_mem hi) _ (List.getElem_mem hj)]
  congr 1
  rw [Bool.eq_iff_iff]; simp only [beq_iff_eq]; exact eq_comm

@[simp] theorem Nd.children_list (cs : List Tree) : (Nd.tree (.list cs)).children.length = cs.length := by
  simp [Nd.children]
@[simp] theorem Nd.children_dict (kvs : List (Str × Tree)) : (Nd.tree (.dict kvs)).children.length = kvs.length := by
  simp [Nd.children]
@[simp] theorem Nd.children_fdict (kvs : List (Str × Tree)) : (Nd.tree (.fdict kvs)).children.length = kvs.length := by
  simp [Nd.children]
@[simp] theorem Nd.children_str (s : Str) : (Nd.tree (.leaf (.str s))).children.length = s.length := by
  simp [Nd.children]
@[simp] theorem Nd.children_kv (k : Str) (v : Tree) : (Nd.kv k v).children.length = 2 := rfl

theorem leafEdits_hasSubs {a : Scalar} {t : Tree} (h : (leafEdits a t).kind.hasSubs = true) :
    ∃ s s', a = .str s ∧ t = .leaf (.str s') ∧
      leafEdits a t = .mk .str .none .none (strSubs s s').2 (strSubs s s').1 := by
  unfold leafEdits at h ⊢
  split at h <;> try (simp [leafLeaf, Kind.hasSubs] at h; done)
  rename_i s s'
  refine ⟨s, s', rfl, rfl, ?_⟩
  unfold strEdits at h ⊢
  split at h
  · simp [Kind.hasSubs] at h
  · split at h
    · simp [Kind.hasSubs] at h
    · rename_i h1 h2; simp [h1, h2]

theorem localAcc_ordered {a b : Nd} {k : Kind} {subs : List Script} (ho : k.ordered = true) (hfit : kindFits k a b)
    (h : fromIdx subs = ixRange a.children.length ∧ toIdx (resolveSame a b) subs = ixRange b.children.length) :
    LocalAcc a b k subs := fun _ => ⟨hfit, by rw [if_pos ho]; exact h⟩

theorem localAcc_unordered {a b : Nd} {k : Kind} {subs : List Script} (ho : k.ordered = false) (hfit : kindFits k a b)
    (h : (fromIdx subs).Perm (ixRange a.children.length) ∧
      (toIdx (resolveSame a b) subs).Perm (ixRange b.children.length)) :
    LocalAcc a b k subs := fun _ => ⟨hfit, by rw [if_neg (by rw [ho]; exact Bool.false_ne_true)]; exact h⟩

theorem localAcc_edits (o : Opts) (orc : Oracle) (fp tp : List Nat) (f t : Tree) (hf : f.KeysDistinct) (ht : t.KeysDistinct) :
    LocalAcc (.tree f) (.tree t) (edits o orc fp tp f t).kind (edits o orc fp tp f t).subs := by
  refine edits_ind treeInv_kd (P := fun f t s => LocalAcc (.tree f) (.tree t) s.kind s.subs)
    o orc ?_ (fun _ _ _ _ _ => nofun) (fun _ _ _ _ => nofun) ?_ ?_ ?_ ?_ f fp tp t hf ht
  · intro a t hsub
    obtain ⟨s, s', rfl, rfl, e⟩ := leafEdits_hasSubs hsub
    rw [e]
    exact localAcc_ordered rfl trivial (by simpa using strSubs_idx _ s s') rfl
  · intro fp tp fcs tcs _ _ _ _ _
    exact localAcc_ordered rfl trivial (by simpa using fixedScript_idx _ fcs tcs _ (listTbl_top o orc fp tp fcs tcs))
  · intro fp tp fcs tcs _ _ _ _
    exact localAcc_ordered rfl trivial (by simpa using edScript_idx _ fcs tcs _ _ (listTbl_top o orc fp tp fcs tcs))
  · intro fp tp fkv tkv hf ht _ _
    rw [kd_dict] at hf ht
    exact localAcc_unordered rfl trivial (by
      simpa using ⟨msScript_fromIdx o.amk orc fp tp fkv tkv _, msScript_toIdx o.amk orc fp tp fkv tkv _ hf.1 ht.1
        (kvSymm_of_eqSymm _ _ fun x hx y hy => Tree.eq_symm _ _ (hf.2 x hx) (ht.2 y hy))⟩)
  · intro fp tp fkv tkv hf ht _ _
    rw [kd_fdict] at hf ht
    exact localAcc_unordered rfl trivial (by
      simpa using ⟨fkScript_fromIdx fkv tkv _, fkScript_toIdx _ fkv tkv _ hf.1 ht.1⟩)

theorem localAcc_kvp (o : Opts) (orc : Oracle) (fp tp : List Nat) (k : Str) (v : Tree) (k' : Str) (v' : Tree) :
    LocalAcc (.kv k v) (.kv k' v') .kvp (kvpScript k k' (v.eq v') (edits o orc fp tp v v')).subs :=
  localAcc_ordered rfl trivial (kvpScript_idx _ k k' (v.eq v') _ (edits_kind_top o orc fp tp v v'))

theorem accounts_edits (o : Opts) (orc : Oracle) (fp tp : List Nat) (f t : Tree) (hf : f.KeysDistinct) (ht : t.KeysDistinct) :
    Accounts (.tree f) (.tree t) (edits o orc fp tp f t) :=
  walk_edits o orc treeInv_kd (fun fp tp f t hf ht => localAcc_edits o orc fp tp f t hf ht)
    (fun fp tp k v k' v' _ _ => localAcc_kvp o orc fp tp k v k' v') f fp tp t hf ht

end GtModel
