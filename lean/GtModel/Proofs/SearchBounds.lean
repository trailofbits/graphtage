/- `IterativeTighteningSearch`: `best_match`, `bounds()` and `goal_test()` under the invariant.  `bounds()` contains the
   minimum final cost, and does not widen when stale lower bounds only go up and candidates' upper bounds only go
   down. -/
import GtModel.Proofs.SearchInv

namespace GtModel.Bounded
open GtModel

variable {fs : List Int} {s s' : SS}

/-- `m` is one of the (at most two) nodes `best_match` chooses from -/
def Cand (s : SS) (m : HEntry) : Prop := s.u.min = some m ∨ s.t.min = some m

theorem Cand.node (hc : SCore fs s) {m : HEntry} (h : Cand s m) : Node s m :=
  h.imp hc.uHeap.min_mem hc.tHeap.min_mem

theorem bestMatch_pending {l : List Nat} (h : s.unproc = some l) : bestMatch s = none := by
  unfold bestMatch; simp [h]

theorem bestMatch_eq (hu : HeapOK s.u) (ht : HeapOK s.t) (hun : s.unproc = none) :
    bestMatch s = match s.u.min, s.t.min with
      | none, none => none
      | some mu, none => some mu.item
      | none, some mt => some mt.item
      | some mu, some mt =>
        match curAt s.σ mu.item, curAt s.σ mt.item with
        | some bx, some by' => if Range.lt bx by' then some mu.item else some mt.item
        | _, _ => none := by
  have eu : s.u.isEmpty = s.u.min.isNone := Bool.eq_iff_iff.mpr (by rw [hu.isEmpty_iff, Option.isNone_iff_eq_none])
  have et : s.t.isEmpty = s.t.min.isNone := Bool.eq_iff_iff.mpr (by rw [ht.isEmpty_iff, Option.isNone_iff_eq_none])
  unfold bestMatch
  rw [eu, et, peek_eq, peek_eq, hun]
  cases s.u.min <;> cases s.t.min <;> rfl

theorem bestMatch_cand (hu : HeapOK s.u) (ht : HeapOK s.t) {b : Nat} (h : bestMatch s = some b) :
    s.unproc = none ∧ ∃ m, Cand s m ∧ m.item = b := by
  cases hun : s.unproc with
  | some l => rw [bestMatch_pending hun] at h; cases h
  | none =>
    refine ⟨rfl, ?_⟩
    rw [bestMatch_eq hu ht hun] at h
    split at h
    · cases h
    · rename_i hmu _; cases h; exact ⟨_, .inl hmu, rfl⟩
    · rename_i _ hmt; cases h; exact ⟨_, .inr hmt, rfl⟩
    · rename_i hmu hmt
      split at h
      · split at h <;> cases h
        · exact ⟨_, .inl hmu, rfl⟩
        · exact ⟨_, .inr hmt, rfl⟩
      · cases h

/-- `best_match` is the candidate with the smaller current upper bound -/
theorem best_hi (hc : SCore fs s) (hun : s.unproc = none) {m0 : HEntry} (h0 : Cand s m0) :
    ∃ mb ab, Cand s mb ∧ bestMatch s = some mb.item ∧ s.σ[mb.item]? = some ab ∧
      ∀ m a, Cand s m → s.σ[m.item]? = some a → Bound.le ab.cur.hi a.cur.hi = true := by
  have getU : ∀ m, s.u.min = some m → ∃ a, s.σ[m.item]? = some a := fun m hm =>
    let ⟨a, ha, _⟩ := hc.uOK m (hc.uHeap.min_mem hm); ⟨a, ha⟩
  have getT : ∀ m, s.t.min = some m → ∃ a, s.σ[m.item]? = some a := fun m hm =>
    let ⟨a, ha, _⟩ := hc.tOK m (hc.tHeap.min_mem hm); ⟨a, ha⟩
  have same : ∀ {o : Option HEntry} {m m' : HEntry} {a a' : Item}, o = some m → o = some m' →
      s.σ[m.item]? = some a → s.σ[m'.item]? = some a' → a = a' := fun h1 h2 h3 h4 => by
    rw [h1] at h2; cases h2; rw [h3] at h4; cases h4; rfl
  rw [bestMatch_eq hc.uHeap hc.tHeap hun]
  cases hmu : s.u.min with
  | none =>
    cases hmt : s.t.min with
    | none => rcases h0 with h | h <;> simp [hmu, hmt] at h
    | some mt =>
      obtain ⟨at', hat⟩ := getT mt hmt
      refine ⟨mt, at', .inr hmt, rfl, hat, fun m a hm ha => ?_⟩
      rcases hm with h | h
      · rw [hmu] at h; cases h
      · exact same hmt h hat ha ▸ Bound.le_refl _
  | some mu =>
    obtain ⟨au, hau⟩ := getU mu hmu
    cases hmt : s.t.min with
    | none =>
      refine ⟨mu, au, .inl hmu, rfl, hau, fun m a hm ha => ?_⟩
      rcases hm with h | h
      · exact same hmu h hau ha ▸ Bound.le_refl _
      · rw [hmt] at h; cases h
    | some mt =>
      obtain ⟨at', hat⟩ := getT mt hmt
      simp only [curAt_of_get hau, curAt_of_get hat]
      cases hlt : Range.lt au.cur at'.cur with
      | true =>
        refine ⟨mu, au, .inl hmu, rfl, hau, fun m a hm ha => ?_⟩
        rcases hm with h | h
        · exact same hmu h hau ha ▸ Bound.le_refl _
        · exact same hmt h hat ha ▸ Range.hi_le_of_lt hlt
      | false =>
        refine ⟨mt, at', .inr hmt, rfl, hat, fun m a hm ha => ?_⟩
        rcases hm with h | h
        · exact same hmu h hau ha ▸ Range.hi_le_of_not_lt hlt
        · exact same hmt h hat ha ▸ Bound.le_refl _

def CandBelow (s : SS) (b : Bound) : Prop := ∃ m a, Cand s m ∧ s.σ[m.item]? = some a ∧ Bound.le a.cur.hi b = true

theorem CandBelow.mono {b c : Bound} (h : CandBelow s b) (hbc : Bound.le b c = true) : CandBelow s c :=
  let ⟨m, a, hm, ha, hle⟩ := h
  ⟨m, a, hm, ha, Bound.le_trans hle hbc⟩

/-- the heap's minimum by stale key bounds the current upper bound of its item by the stale upper key of any node -/
theorem node_cand (hc : SCore fs s) {e : HEntry} (he : Node s e) : CandBelow s e.key.hi := by
  rcases he with he | he
  · cases hm : s.u.min with
    | none => rw [hc.uHeap.es_nil hm] at he; cases he
    | some m =>
      obtain ⟨mem, mn⟩ := hc.uHeap.isMin m hm
      obtain ⟨a, ha, _, _, l2⟩ := hc.uOK m mem
      exact ⟨m, a, .inl hm, ha, Bound.le_trans l2 (Range.hi_le_of_not_lt (mn e he))⟩
  · cases hm : s.t.min with
    | none => rw [hc.tHeap.es_nil hm] at he; cases he
    | some m =>
      obtain ⟨mem, mn⟩ := hc.tHeap.isMin m hm
      obtain ⟨a, ha, _, hk⟩ := hc.tOK m mem
      exact ⟨m, a, .inr hm, ha, hk ▸ Range.hi_le_of_not_lt (mn e he)⟩

/-- the lower bound `bounds()` starts from: `lb` after the `initial_bounds` clamp -/
def lbOf (s : SS) : Bound :=
  if (staleLb s == .posInf || Bound.lt (staleLb s) s.ib.lo) = true then s.ib.lo else staleLb s

theorem boundsOf_some {b : Nat} {a : Item} (h1 : bestMatch s = some b) (h2 : s.σ[b]? = some a) :
    boundsOf s = ⟨Bound.min' (lbOf s) a.cur.hi, a.cur.hi⟩ := by
  unfold boundsOf lbOf; rw [h1]; dsimp only; rw [curAt_of_get h2]

theorem boundsOf_none (h1 : bestMatch s = none) : boundsOf s = s.ib := by
  unfold boundsOf; rw [h1]

theorem goalTest_facts (hg : goalTest s = true) :
    ∃ best bb, s.unproc = none ∧ bestMatch s = some best ∧ curAt s.σ best = some bb ∧
      bb.dominates (boundsOf s) = true := by
  unfold goalTest at hg
  split at hg
  · cases hg
  · rename_i hun
    split at hg
    · cases hg
    · rename_i best hb
      split at hg
      · cases hg
      · rename_i bb hbb
        exact ⟨best, bb, Option.not_isSome_iff_eq_none.mp hun, hb, hbb, hg⟩

theorem dominatedByBest_facts {item : Nat} {b : Range} (h : dominatedByBest s item b = true) :
    ∃ bm bb, bestMatch s = some bm ∧ bm ≠ item ∧ curAt s.σ bm = some bb ∧ bb.dominates b = true := by
  unfold dominatedByBest at h
  split at h
  · cases h
  · rename_i bm hbm
    simp only [Bool.and_eq_true, bne_iff_ne, ne_eq] at h
    obtain ⟨hne, h2⟩ := h
    split at h2
    · rename_i bb hbb; exact ⟨bm, bb, hbm, hne, hbb, h2⟩
    · cases h2

theorem SCore.node_final (hc : SCore fs s) {e : HEntry} (he : Node s e) :
    ∃ a n, s.σ[e.item]? = some a ∧ fs[e.item]? = some n ∧ a.Valid n ∧ Bound.le e.key.lo (.fin n) = true ∧
      Bound.le e.key.lo a.cur.lo = true := by
  rcases he with he | he
  · obtain ⟨a, ha, _, l1, _⟩ := hc.uOK e he
    obtain ⟨n, hn, va⟩ := hc.valid.get ha
    exact ⟨a, n, ha, hn, va, Bound.le_trans l1 va.contains.1, l1⟩
  · obtain ⟨a, ha, _, hk⟩ := hc.tOK e he
    obtain ⟨n, hn, va⟩ := hc.valid.get ha
    exact ⟨a, n, ha, hn, va, by rw [hk]; exact va.contains.1, by rw [hk]; exact Bound.le_refl _⟩

theorem SCore.lb_eq (hc : SCore fs s) {e : HEntry} (he : Node s e) :
    lbOf s = staleLb s := by
  obtain ⟨a, n, _, _, _, l, _⟩ := hc.node_final he
  have h1 := Bound.le_trans (staleLb_le he) l
  unfold lbOf
  rw [hc.ib, Bound.lt_negInf]
  cases hs : staleLb s
  · rfl
  · rfl
  · rw [hs] at h1; cases h1

theorem SInv.staleLb_le_final (h : SInv fs s) (hun : s.unproc = none) {k : Nat} {nk : Int}
    (hk : fs[k]? = some nk) : (∃ e, Node s e) ∧ Bound.le (staleLb s) (.fin nk) = true := by
  have hne : fs ≠ [] := fun h0 => by rw [h0] at hk; cases hk
  obtain ⟨i, ⟨ni, hni, hmin⟩, hal⟩ := h.alive hne
  obtain ⟨e, he, rfl⟩ := hal.node hun
  obtain ⟨_, n, _, hn, _, lfin, _⟩ := h.node_final he
  rw [hni] at hn; cases hn
  exact ⟨⟨e, he⟩, Bound.le_trans (Bound.le_trans (staleLb_le he) lfin) (Bound.fin_le_fin.mpr (hmin k nk hk))⟩

theorem bounds_contains (h : SInv fs s) {j : Nat} {n : Int} (hj : fs[j]? = some n)
    (hmin : ∀ (k : Nat) (nk : Int), fs[k]? = some nk → n ≤ nk) :
    (boundsOf s).contains (Range.point n) = true := by
  cases hb : bestMatch s with
  | none => rw [boundsOf_none hb, h.ib]; exact Range.top_contains _
  | some b =>
    obtain ⟨hun, m, hm, rfl⟩ := bestMatch_cand h.uHeap h.tHeap hb
    obtain ⟨a, nb, hab, hnb, va, _, _⟩ := h.node_final (hm.node h.toSCore)
    obtain ⟨⟨e, he⟩, hlb⟩ := h.staleLb_le_final hun hj
    rw [boundsOf_some hb hab, h.lb_eq he]
    exact Range.contains_iff.mpr ⟨Bound.le_trans (min'_le_left _ _) hlb,
      Bound.le_trans (Bound.fin_le_fin.mpr (hmin _ nb hnb)) va.contains.2⟩

theorem goal_opt (h : SInv fs s) {best : Nat} {bb : Range} (hun : s.unproc = none)
    (hb : bestMatch s = some best) (hbb : curAt s.σ best = some bb) (hd : bb.dominates (boundsOf s) = true) :
    OptIdx fs best := by
  cases hab : s.σ[best]? with
  | none => rw [curAt, hab] at hbb; cases hbb
  | some a =>
    rw [curAt_of_get hab] at hbb; cases hbb
    obtain ⟨n, hn, va⟩ := h.valid.get hab
    refine ⟨n, hn, fun k nk hk => ?_⟩
    -- `n ≤ hi ≤ bounds().lo ≤` the minimum stale lower bound `≤ nk`
    obtain ⟨⟨e, he⟩, hlb⟩ := h.staleLb_le_final hun hk
    rw [boundsOf_some hb hab, h.lb_eq he] at hd
    exact Bound.fin_le_fin.mp
      (Bound.le_trans (Bound.le_trans va.contains.2 (Bound.le_trans hd (min'_le_left _ _))) hlb)

def Mono (s s' : SS) : Prop := (boundsOf s).contains (boundsOf s') = true

theorem Mono.refl (s : SS) : Mono s s := Range.contains_refl _
theorem Mono.trans {a b c : SS} (h1 : Mono a b) (h2 : Mono b c) : Mono a c := Range.contains_trans h1 h2

theorem mono_of_no_best (hc : SCore fs s) (hb : bestMatch s = none) (s' : SS) : Mono s s' := by
  unfold Mono; rw [boundsOf_none hb, hc.ib]; exact Range.top_contains _

/-- `LbUp` and `HiDown`: the two facts about a step from which `mono_of` derives that `bounds()` did not widen -/
def LbUp (s s' : SS) : Prop := ∀ e', Node s' e' → ∃ e, Node s e ∧ Bound.le e.key.lo e'.key.lo = true

def HiDown (s s' : SS) : Prop := ∀ m a, Cand s m → s.σ[m.item]? = some a → CandBelow s' a.cur.hi

theorem LbUp.refl (s : SS) : LbUp s s := fun e he => ⟨e, he, Bound.le_refl _⟩

theorem LbUp.trans {a b c : SS} (h1 : LbUp a b) (h2 : LbUp b c) : LbUp a c := fun e he =>
  let ⟨e1, he1, l1⟩ := h2 e he
  let ⟨e0, he0, l0⟩ := h1 e1 he1
  ⟨e0, he0, Bound.le_trans l0 l1⟩

theorem HiDown.refl (s : SS) : HiDown s s := fun m a hm ha => ⟨m, a, hm, ha, Bound.le_refl _⟩

theorem HiDown.trans {a b c : SS} (h1 : HiDown a b) (h2 : HiDown b c) : HiDown a c := fun m x hm hx =>
  let ⟨m1, x1, hm1, hx1, l1⟩ := h1 m x hm hx
  (h2 m1 x1 hm1 hx1).mono l1

theorem staleLb_mono (h : LbUp s s') : Bound.le (staleLb s) (staleLb s') = true := by
  refine (foldLb_spec _ _).2.2 (staleLb s) (Bound.le_posInf _) fun e' he' => ?_
  obtain ⟨e, he, hle⟩ := h e' (List.mem_append.mp he')
  exact Bound.le_trans (staleLb_le he) hle

/-- the generic argument: stale lower bounds only go up, candidates' upper bounds only go down, and both bounds
contain the optimum — so `bounds()` does not widen -/
theorem mono_of (h : SInv fs s) (h' : SInv fs s') (hun : s.unproc = none → s'.unproc = none)
    (hlb : LbUp s s') (hhi : HiDown s s') : Mono s s' := by
  cases hb : bestMatch s with
  | none => exact mono_of_no_best h.toSCore hb s'
  | some b =>
    obtain ⟨hun0, m0, hm0, _⟩ := bestMatch_cand h.uHeap h.tHeap hb
    obtain ⟨mb, ab, cmb, hbm, hab, hA⟩ := best_hi h.toSCore hun0 hm0
    obtain ⟨m', a', cm', ha', hle⟩ := hhi mb ab cmb hab
    obtain ⟨mb', ab', cmb', hbm', hab', hA'⟩ := best_hi h'.toSCore (hun hun0) cm'
    have hfs : fs ≠ [] := fun h0 => by
      obtain ⟨n, hn, _⟩ := h.valid.get hab
      rw [h0] at hn; cases hn
    obtain ⟨j, n, hj, hmin⟩ := exists_opt fs hfs
    have c1 := bounds_contains h hj hmin
    have c2 := bounds_contains h' hj hmin
    unfold Mono
    rw [boundsOf_some hbm hab, h.lb_eq (cmb.node h.toSCore)] at c1 ⊢
    rw [boundsOf_some hbm' hab', h'.lb_eq (cmb'.node h'.toSCore)] at c2 ⊢
    rw [Range.contains_iff] at c1 c2 ⊢
    refine ⟨le_min' ?_ ?_, Bound.le_trans (hA' m' a' cm' ha') hle⟩
    · exact Bound.le_trans (min'_le_left _ _) (staleLb_mono hlb)
    · exact Bound.le_trans c1.1 c2.2

end GtModel.Bounded
