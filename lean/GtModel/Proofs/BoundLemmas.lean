/- Order lemmas about `Bound` / `Range` (Bool-valued comparisons of the L0 model).
   `Bound.lt` is a strict total order (three facts proved by cases); the other order facts follow from them, the facts
   about `fin` and the two infinities go by cases. -/
import GtModel.Model.Range

namespace GtModel
namespace Bound

theorem lt_irrefl (a : Bound) : lt a a = false := by cases a <;> simp [lt]

theorem lt_trans {a b c : Bound} (h1 : lt a b = true) (h2 : lt b c = true) : lt a c = true := by
  cases a <;> cases b <;> cases c <;> simp_all [lt] <;> omega

theorem lt_trichotomy (a b : Bound) : lt a b = true ∨ a = b ∨ lt b a = true := by
  cases a <;> cases b <;> simp [lt] <;> omega

theorem lt_asymm {a b : Bound} (h : lt a b = true) : lt b a = false :=
  Bool.eq_false_iff.mpr fun h' => by have := lt_trans h h'; rw [lt_irrefl] at this; cases this

theorem le_iff {a b : Bound} : le a b = true ↔ lt a b = true ∨ a = b := by simp [le]

theorem le_refl (a : Bound) : le a a = true := le_iff.mpr (.inr rfl)

theorem le_of_lt {a b : Bound} (h : lt a b = true) : le a b = true := le_iff.mpr (.inl h)

theorem not_lt_iff_le {a b : Bound} : lt a b = false ↔ le b a = true := by
  constructor
  · intro h
    rcases lt_trichotomy a b with h' | rfl | h'
    · rw [h] at h'; cases h'
    · exact le_refl _
    · exact le_of_lt h'
  · intro h
    rcases le_iff.mp h with h | rfl
    · exact lt_asymm h
    · exact lt_irrefl _

theorem not_le_iff_lt {a b : Bound} : le a b = false ↔ lt b a = true := by
  rw [← Bool.not_eq_true, ← not_lt_iff_le, Bool.not_eq_false]

theorem lt_of_lt_of_le {a b c : Bound} (h1 : lt a b = true) (h2 : le b c = true) : lt a c = true := by
  rcases le_iff.mp h2 with h2 | rfl
  · exact lt_trans h1 h2
  · exact h1

theorem lt_of_le_of_lt {a b c : Bound} (h1 : le a b = true) (h2 : lt b c = true) : lt a c = true := by
  rcases le_iff.mp h1 with h1 | rfl
  · exact lt_trans h1 h2
  · exact h2

theorem le_trans {a b c : Bound} (h1 : le a b = true) (h2 : le b c = true) : le a c = true := by
  rcases le_iff.mp h1 with h1 | rfl
  · exact le_of_lt (lt_of_lt_of_le h1 h2)
  · exact h2

theorem le_total (a b : Bound) : le a b = true ∨ le b a = true := by
  rcases lt_trichotomy a b with h | rfl | h
  · exact .inl (le_of_lt h)
  · exact .inl (le_refl _)
  · exact .inr (le_of_lt h)

theorem le_antisymm {a b : Bound} (h1 : le a b = true) (h2 : le b a = true) : a = b := by
  rcases le_iff.mp h1 with h1 | rfl
  · rw [← not_lt_iff_le, h1] at h2; cases h2
  · rfl

theorem fin_le_fin {a b : Int} : le (fin a) (fin b) = true ↔ a ≤ b := by simp [le, lt]; omega
theorem fin_lt_fin {a b : Int} : lt (fin a) (fin b) = true ↔ a < b := by simp [lt]

theorem negInf_le (a : Bound) : le negInf a = true := by cases a <;> rfl
theorem le_posInf (a : Bound) : le a posInf = true := by cases a <;> rfl
theorem lt_negInf (a : Bound) : lt a negInf = false := by cases a <;> rfl

theorem isFin_of_between {a : Bound} {x y : Int} (h1 : le (fin x) a = true) (h2 : le a (fin y) = true) :
    a.isFin = true := by
  cases a
  · cases h1
  · rfl
  · cases h2

end Bound

namespace Range

theorem contains_iff {a b : Range} : a.contains b = true ↔ Bound.le a.lo b.lo = true ∧ Bound.le b.hi a.hi = true := by
  simp [Range.contains]

theorem contains_refl (a : Range) : a.contains a = true := contains_iff.mpr ⟨Bound.le_refl _, Bound.le_refl _⟩

theorem contains_trans {a b c : Range} (h1 : a.contains b = true) (h2 : b.contains c = true) :
    a.contains c = true := by
  rw [contains_iff] at *
  exact ⟨Bound.le_trans h1.1 h2.1, Bound.le_trans h2.2 h1.2⟩

theorem top_contains (a : Range) : (⟨.negInf, .posInf⟩ : Range).contains a = true :=
  contains_iff.mpr ⟨Bound.negInf_le _, Bound.le_posInf _⟩

theorem eq_point_of_contains {x : Range} {v n : Int} (h1 : (point v).contains x = true)
    (h2 : x.contains (point n) = true) : x = point v := by
  obtain ⟨c1, c2⟩ := contains_iff.mp h1
  obtain ⟨n1, n2⟩ := contains_iff.mp h2
  have lohi := Bound.le_trans n1 n2
  rcases x with ⟨l, u⟩
  exact congr (congrArg Range.mk (Bound.le_antisymm (Bound.le_trans lohi c2) c1))
    (Bound.le_antisymm c2 (Bound.le_trans c1 lohi))

theorem definitive_iff {a : Range} : a.definitive = true ↔ ∃ v, a = point v := by
  constructor
  · intro h
    rcases a with ⟨lo, hi⟩
    simp only [definitive, Bool.and_eq_true, beq_iff_eq] at h
    obtain ⟨rfl, hf⟩ := h
    cases lo
    · cases hf
    · exact ⟨_, rfl⟩
    · cases hf
  · rintro ⟨v, rfl⟩
    simp [definitive, point, Bound.isFin]

theorem lt_iff (a b : Range) : Range.lt a b = true ↔
    Bound.lt a.hi b.hi = true ∨ (a.hi = b.hi ∧ Bound.lt a.lo b.lo = true) := by
  simp [Range.lt]

theorem not_lt_iff (a b : Range) : Range.lt a b = false ↔
    Bound.lt a.hi b.hi = false ∧ (a.hi = b.hi → Bound.lt a.lo b.lo = false) := by
  simp [Range.lt]

theorem lt_irrefl (a : Range) : Range.lt a a = false := by
  rw [not_lt_iff]; exact ⟨Bound.lt_irrefl _, fun _ => Bound.lt_irrefl _⟩

theorem lt_trans {a b c : Range} (h1 : Range.lt a b = true) (h2 : Range.lt b c = true) : Range.lt a c = true := by
  rw [lt_iff] at *
  rcases h1 with h1 | ⟨e1, l1⟩ <;> rcases h2 with h2 | ⟨e2, l2⟩
  · exact .inl (Bound.lt_trans h1 h2)
  · exact .inl (by rw [← e2]; exact h1)
  · exact .inl (by rw [e1]; exact h2)
  · exact .inr ⟨e1.trans e2, Bound.lt_trans l1 l2⟩

theorem lt_asymm {a b : Range} (h : Range.lt a b = true) : Range.lt b a = false :=
  Bool.eq_false_iff.mpr fun h' => by have := lt_trans h h'; rw [lt_irrefl] at this; cases this

theorem not_lt_trans {a b c : Range} (h1 : Range.lt a b = false) (h2 : Range.lt b c = false) :
    Range.lt a c = false := by
  rw [not_lt_iff] at *
  obtain ⟨p1, q1⟩ := h1
  obtain ⟨p2, q2⟩ := h2
  have l1 := Bound.not_lt_iff_le.mp p1
  have l2 := Bound.not_lt_iff_le.mp p2
  refine ⟨Bound.not_lt_iff_le.mpr (Bound.le_trans l2 l1), ?_⟩
  intro he
  have e1 : a.hi = b.hi := Bound.le_antisymm (by rw [he]; exact l2) l1
  have e2 : b.hi = c.hi := by rw [← e1, he]
  have m1 := Bound.not_lt_iff_le.mp (q1 e1)
  have m2 := Bound.not_lt_iff_le.mp (q2 e2)
  exact Bound.not_lt_iff_le.mpr (Bound.le_trans m2 m1)

theorem hi_le_of_not_lt {x m : Range} (h : Range.lt x m = false) : Bound.le m.hi x.hi = true :=
  Bound.not_lt_iff_le.mp ((not_lt_iff x m).mp h).1

theorem hi_le_of_lt {a b : Range} (h : Range.lt a b = true) : Bound.le a.hi b.hi = true := by
  rcases (lt_iff a b).mp h with h | ⟨e, _⟩
  · exact Bound.le_of_lt h
  · rw [e]; exact Bound.le_refl _

end Range
end GtModel
