/-
  Key-order permutations of documents (`Doc.PermEq`) and what `build_tree` makes of them.
-/
import GtModel.Proofs.ZeroBuild

namespace GtModel

mutual
/-- `PermEq a b`: `b` is `a` with the pairs of any objects, at any depth, arbitrarily re-ordered
    (list order is kept). -/
inductive Doc.PermEq : Doc → Doc → Prop
  | scalar (s : Scalar) : Doc.PermEq (.scalar s) (.scalar s)
  | list {as bs : List Doc} : PermEqL as bs → Doc.PermEq (.list as) (.list bs)
  /-- re-order (`cs ~ bs`) after rewriting the values in place (`as → cs`) -/
  | obj {as cs bs : List (Str × Doc)} : PermEqKV as cs → List.Perm cs bs → Doc.PermEq (.obj as) (.obj bs)
inductive PermEqL : List Doc → List Doc → Prop
  | nil : PermEqL [] []
  | cons {a b : Doc} {as bs : List Doc} : Doc.PermEq a b → PermEqL as bs → PermEqL (a :: as) (b :: bs)
inductive PermEqKV : List (Str × Doc) → List (Str × Doc) → Prop
  | nil : PermEqKV [] []
  | cons {k : Str} {v w : Doc} {as bs : List (Str × Doc)} :
      Doc.PermEq v w → PermEqKV as bs → PermEqKV ((k, v) :: as) ((k, w) :: bs)
end

def DocPairRel (p q : Str × Doc) : Prop := p.1 = q.1 ∧ Doc.PermEq p.2 q.2

theorem PermEqL_iff_forall₂ {as bs : List Doc} : PermEqL as bs ↔ Forall2 Doc.PermEq as bs :=
  Builder.Forall2.iff_of_rec .nil ⟨fun | .cons h1 h2 => ⟨h1, h2⟩, fun h => .cons h.1 h.2⟩ nofun nofun

theorem PermEqKV_iff_forall₂ {as bs : List (Str × Doc)} : PermEqKV as bs ↔ Forall2 DocPairRel as bs :=
  Builder.Forall2.iff_of_rec .nil
    (@fun (_, _) (_, _) _ _ => ⟨fun h => by cases h with | cons h1 h2 => exact ⟨⟨rfl, h1⟩, h2⟩,
      fun h => by obtain ⟨⟨rfl, h1⟩, h2⟩ := h; exact .cons h1 h2⟩) nofun nofun

theorem build_perm_dict (o : Opts) (hake : o.ake = true) (a : Doc) : ∀ (b : Doc),
    Doc.PermEq a b → a.distinctKeys = true → build o a = build o b := by
  induction a using Doc.ind with
  | scalar s => intro b h _; cases h; rfl
  | list as ih =>
    intro b h hd
    cases h with
    | list hL =>
      rw [Doc.distinctKeys_list] at hd
      rw [build_list, build_list, (PermEqL_iff_forall₂.1 hL).map_eq fun a ha b _ r => ih a ha b r (hd a ha)]
  | obj as ih =>
    intro b h hd
    cases h with
    | @obj _ cs bs hKV hperm =>
      rw [Doc.distinctKeys_obj] at hd
      have e : as.map (fun p => (p.1, build o p.2)) = cs.map fun p => (p.1, build o p.2) :=
        (PermEqKV_iff_forall₂.1 hKV).map_eq fun p hp q _ r => by rw [r.1, ih p hp _ r.2 (hd.2 p hp)]
      rw [build_obj, build_obj, if_pos hake, if_pos hake, buildKV_eq_map, buildKV_eq_map, e]
      congr 1
      apply sortKV_perm_eq _ (hperm.map _)
      rw [← e, List.map_map]
      exact hd.1

theorem perm_equal (o : Opts) (a : Doc) : ∀ (b : Doc), Doc.PermEq a b → (build o a).eq (build o b) = true := by
  induction a using Doc.ind with
  | scalar s => intro b h; cases h; exact Tree.eq_refl _
  | list as ih =>
    intro b h
    cases h with
    | list hL =>
      rw [build_list, build_list, Tree.eq, eqL_iff_forall₂]
      exact .map ((PermEqL_iff_forall₂.1 hL).imp fun a ha b _ => ih a ha b)
  | obj as ih =>
    intro b h
    cases h with
    | @obj _ cs bs hKV hperm =>
      have key : kvRel (build.buildKV o as) (build.buildKV o bs) := by
        rw [buildKV_eq_map, buildKV_eq_map]
        exact (kvRel_of_forall₂ (.map ((PermEqKV_iff_forall₂.1 hKV).imp fun p hp q _ r => ⟨r.1, ih p hp _ r.2⟩))).perm_right
          (hperm.map _)
      rw [build_obj, build_obj]
      split
      · rw [dict_eq_iff, kvRel_sortKV]; exact key
      · rw [fdict_eq_iff]; exact key

theorem Doc.PermEq.distinctKeys {a b : Doc} (h : Doc.PermEq a b) (hd : a.distinctKeys = true) :
    b.distinctKeys = true := by
  induction a using Doc.ind generalizing b with
  | scalar s => cases h; rfl
  | list as ih =>
    cases h with
    | list hL =>
      rw [Doc.distinctKeys_list] at hd ⊢
      intro b hb
      obtain ⟨a, ha, hab⟩ := (PermEqL_iff_forall₂.1 hL).mem_right hb
      exact ih a ha hab (hd a ha)
  | obj as ih =>
    cases h with
    | @obj _ cs bs hKV hperm =>
      rw [PermEqKV_iff_forall₂] at hKV
      rw [Doc.distinctKeys_obj] at hd ⊢
      refine ⟨(hperm.map Prod.fst).nodup ((hKV.map_eq fun _ _ _ _ r => r.1) ▸ hd.1), fun q hq => ?_⟩
      obtain ⟨p, hp, r⟩ := hKV.mem_right (hperm.symm.subset hq)
      exact ih p hp r.2 (hd.2 p hp)

end GtModel
