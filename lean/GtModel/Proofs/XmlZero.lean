/-
  C02 for XML: the fully refined script of `XMLElement.edits` has cost 0 exactly when the two elements compare
  equal (`XTree.eq` = `XMLElement.__eq__`), for elements whose attribute mappings have distinct names.
  `XMLElement.__eq__` swaps its operands at every level, hence the symmetry of node equality on trees with distinct
  keys (`treeEq_symm`).
-/
import GtModel.Proofs.XmlBasic
import GtModel.Proofs.ZeroBuild
namespace GtModel.Xml
open GtModel

mutual
/-- distinct attribute names in every element -/
def XTree.WF : XTree → Bool
  | .mk _ a _ cs => a.WF && xwfL cs
def xwfL : List XTree → Bool
  | [] => true
  | c :: cs => c.WF && xwfL cs
end

theorem xwfL_iff (cs : List XTree) : xwfL cs = true ↔ ∀ c ∈ cs, c.WF = true := by
  induction cs with
  | nil => simp [xwfL]
  | cons c cs ih => simp [xwfL, ih]

theorem xwf_mk (tag : Str) (a : Tree) (x : Option Str) (cs : List XTree) :
    (XTree.mk tag a x cs).WF = true ↔ a.WF = true ∧ ∀ c ∈ cs, c.WF = true := by
  simp [XTree.WF, xwfL_iff]

theorem xeqL_comm_of (as bs : List XTree) (ih : ∀ a ∈ as, ∀ b ∈ bs, a.eq b = b.eq a) :
    xeqL as bs = xeqL bs as := by
  rw [xeqL_eq_all₂, xeqL_eq_all₂, all₂_comm_of ih]

theorem xtreeEq_symm (f : XTree) : ∀ t : XTree, f.WF = true → t.WF = true → f.eq t = t.eq f := by
  induction f using XTree.ind with
  | mk ftag fattr ftext fcs ih =>
    intro t hf ht
    obtain ⟨ttag, tattr, ttext, tcs⟩ := t
    rw [xwf_mk] at hf ht
    rw [XTree.eq_mk, XTree.eq_mk]
    rw [treeEq_symm tattr fattr ht.1 hf.1,
      xeqL_comm_of tcs fcs (fun b hb a ha => (ih a ha b (hf.2 a ha) (ht.2 b hb)).symm)]
    rw [Bool.beq_comm (a := ftag), Bool.beq_comm (a := eqText ftext)]

theorem kidsFixed_cost_zero (fcs tcs : List XTree) (tbl : List (List XScript))
    (H : ∀ i, i < fcs.length → i < tcs.length →
      ((tbl.getD i []).getD i (xMatch 0)).cost = 0 → (fcs.getD i dX).eq (tcs.getD i dX) = true)
    (h : (kidsFixed fcs tcs tbl).cost = 0) : xeqL fcs tcs = true := by
  simp only [kidsFixed, xCompound_cost, xsum_append] at h
  simp only [xsum, List.map_map] at h
  obtain ⟨hl, hp⟩ := fixed_sums_zero h (fun _ => Nat.succ_pos _) (fun _ => Nat.succ_pos _)
  exact (xeqL_iff _ _).2 ⟨hl, fun i hi => H i hi (hl ▸ hi) (by simpa using hp i hi)⟩

theorem kidsEd_cost_zero (fcs tcs : List XTree) (pen : Nat) (hpen : 0 < pen) (tbl : List (List XScript))
    (H : ∀ i j, i < fcs.length → j < tcs.length →
      ((tbl.getD i []).getD j (xMatch 0)).cost = 0 → (fcs.getD i dX).eq (tcs.getD j dX) = true)
    (h : (kidsEd fcs tcs pen tbl).cost = 0) : xeqL fcs tcs = true :=
  (xeqL_iff _ _).2 (solve_trimmed_zero dX fcs tcs _ _ (fun i j => ((tbl.getD i []).getD j (xMatch 0)).cost)
    (fun _ _ => Nat.add_pos_right _ hpen) (fun _ _ => Nat.add_pos_right _ hpen) H h)

theorem kidsScript_cost_zero (o : Opts) (fcs tcs : List XTree) (tbl : List (List XScript))
    (H : ∀ i j, i < fcs.length → j < tcs.length →
      ((tbl.getD i []).getD j (xMatch 0)).cost = 0 → (fcs.getD i dX).eq (tcs.getD j dX) = true)
    (h : (kidsScript o fcs tcs tbl).cost = 0) : xeqL fcs tcs = true := by
  unfold kidsScript at h
  split at h
  · assumption
  · split at h
    · exact kidsFixed_cost_zero fcs tcs tbl (fun i hi hj => H i i hi hj) h
    · exact kidsEd_cost_zero fcs tcs 1 (by omega) tbl H h

theorem textEdit_cost_zero (ft tt : Option Str)
    (h : (match textEdit ft tt with | some e => e.cost | none => 0) = 0) : ft = tt := by
  cases ft <;> cases tt <;> simp [textEdit] at h ⊢
  exact (strEdits_cost_zero_iff _ _).1 h

theorem xml_eq_imp_cost_zero (o : Opts) (orc : Oracle) (fp tp : List Nat) (f t : XTree) (h : f.eq t = true) :
    (xmlEdits o orc fp tp f t).cost = 0 := by
  obtain ⟨ftag, fattr, ftext, fcs⟩ := f
  obtain ⟨ttag, tattr, ttext, tcs⟩ := t
  rw [xmlEdits_eq, h]; rfl

theorem xml_cost_zero_imp_eq (o : Opts) (orc : Oracle) (f : XTree) : ∀ (fp tp : List Nat) (t : XTree),
    f.WF = true → t.WF = true → (xmlEdits o orc fp tp f t).cost = 0 → f.eq t = true := by
  induction f using XTree.ind with
  | mk ftag fattr ftext fcs ih =>
    intro fp tp t hf ht h
    obtain ⟨ttag, tattr, ttext, tcs⟩ := t
    rw [xmlEdits_eq] at h
    split at h
    · assumption
    · rw [elemScript_cost] at h
      rw [xwf_mk] at hf ht
      have h1 : (strEdits ftag ttag).cost = 0 := by omega
      have h2 : (edits o orc (fp ++ [1]) (tp ++ [1]) fattr tattr).cost = 0 := by omega
      have h3 := (Nat.add_eq_zero_iff.1 (Nat.add_eq_zero_iff.1 h).1).2
      have h4 : (kidsScript o fcs tcs (kidsTbl o orc fp tp (kidsIx ftext) (kidsIx ttext) fcs tcs)).cost = 0 := by omega
      have e1 := (strEdits_cost_zero_iff _ _).1 h1
      have e2 := cost_zero_imp_eq o orc fattr _ _ tattr hf.1 ht.1 h2
      have e3 := textEdit_cost_zero _ _ h3
      have e4 := kidsScript_cost_zero o fcs tcs _ (fun i j hi hj hc => by
        rw [kidsTbl_getD _ _ _ _ _ _ _ _ _ _ _ hi hj] at hc
        have e : fcs.getD i dX = fcs[i] := getD_eq_getElem _ _ hi
        have e' : tcs.getD j dX = tcs[j] := getD_eq_getElem _ _ hj
        rw [e, e']
        exact ih _ (List.getElem_mem hi) _ _ _ (hf.2 _ (List.getElem_mem hi)) (ht.2 _ (List.getElem_mem hj)) hc) h4
      rw [XTree.eq_mk]
      subst e1 e3
      -- `XTree.eq_mk` compares `other.x == self.x`: the attribute and child tests are swapped back before `e2`, `e4` apply
      rw [treeEq_symm _ _ ht.1 hf.1, e2,
        xeqL_comm_of tcs fcs (fun b hb a ha => xtreeEq_symm b a (ht.2 b hb) (hf.2 a ha)), e4]
      simp

mutual
/-- every element of the document has pairwise distinct attribute names (what an XML parser delivers) -/
def XDoc.wf : XDoc → Bool
  | .mk _ a _ _ cs => (attrDoc a).distinctKeys && xdocWfL cs
def xdocWfL : List XDoc → Bool
  | [] => true
  | c :: cs => c.wf && xdocWfL cs
end

mutual
/-- equality of two elements as graphtage sees the data: same tag, same attributes (as a finite map, order
    ignored), same text up to surrounding white space (absent = empty), pairwise equal children in order.
    The `tail`s are NOT compared (defect D23: `build_tree` drops them). -/
def XDoc.dataEq : XDoc → XDoc → Bool
  | .mk t1 a1 x1 _ c1, .mk t2 a2 x2 _ c2 =>
      t1 == t2 && Doc.dataEq (attrDoc a1) (attrDoc a2) && eqText x1 == eqText x2 && xdataEqL c1 c2
def xdataEqL : List XDoc → List XDoc → Bool
  | [], [] => true
  | a :: as, b :: bs => a.dataEq b && xdataEqL as bs
  | _, _ => false
end

theorem eqText_buildText (x : Option Str) : eqText (buildText x) = eqText x := by
  cases x with
  | none => rfl
  | some s => cases s <;> rfl

mutual
theorem xbuild_WF (o : Opts) : ∀ (d : XDoc), d.wf = true → (xbuild o d).WF = true
  | .mk tag a x tl cs, h => by
    simp only [XDoc.wf, Bool.and_eq_true] at h
    rw [xbuild, xwf_mk]
    exact ⟨build_WF o _ h.1, (xwfL_iff _).1 (xbuildL_WF o cs h.2)⟩
theorem xbuildL_WF (o : Opts) : ∀ (cs : List XDoc), xdocWfL cs = true → xwfL (xbuild.xbuildL o cs) = true
  | [], _ => rfl
  | c :: cs, h => by
    simp only [xdocWfL, Bool.and_eq_true] at h
    simp only [xbuild.xbuildL, xwfL, Bool.and_eq_true]
    exact ⟨xbuild_WF o c h.1, xbuildL_WF o cs h.2⟩
end

mutual
theorem xeq_iff_dataEq (o : Opts) : ∀ (a b : XDoc), a.wf = true → b.wf = true →
    XTree.eq (xbuild o a) (xbuild o b) = XDoc.dataEq a b
  | .mk t1 a1 x1 l1 c1, .mk t2 a2 x2 l2 c2, ha, hb => by
    have ha' := ha
    have hb' := hb
    simp only [XDoc.wf, Bool.and_eq_true] at ha' hb'
    rw [xbuild, xbuild, XTree.eq_mk, XDoc.dataEq, eqText_buildText, eqText_buildText]
    rw [treeEq_symm _ _ (build_WF o _ hb'.1) (build_WF o _ ha'.1),
      eq_iff_dataEq o (attrDoc a1) (attrDoc a2) ha'.1 hb'.1]
    have hsym : xeqL (xbuild.xbuildL o c2) (xbuild.xbuildL o c1) = xeqL (xbuild.xbuildL o c1) (xbuild.xbuildL o c2) :=
      xeqL_comm_of _ _ (fun x hx y hy => xtreeEq_symm x y ((xwfL_iff _).1 (xbuildL_WF o c2 hb'.2) x hx)
        ((xwfL_iff _).1 (xbuildL_WF o c1 ha'.2) y hy))
    rw [hsym, xeqL_iff_dataEqL o c1 c2 ha'.2 hb'.2]
    rw [Bool.beq_comm (a := t1), Bool.beq_comm (a := eqText x1)]
theorem xeqL_iff_dataEqL (o : Opts) : ∀ (as bs : List XDoc), xdocWfL as = true → xdocWfL bs = true →
    xeqL (xbuild.xbuildL o as) (xbuild.xbuildL o bs) = xdataEqL as bs
  | [], [], _, _ => by simp [xbuild.xbuildL, xdataEqL]
  | [], _ :: _, _, _ => by simp [xbuild.xbuildL, xdataEqL]
  | _ :: _, [], _, _ => by simp [xbuild.xbuildL, xdataEqL]
  | a :: as, b :: bs, ha, hb => by
    simp only [xdocWfL, Bool.and_eq_true] at ha hb
    simp only [xbuild.xbuildL, xeqL_cons_cons, xdataEqL]
    rw [xeq_iff_dataEq o a b ha.1 hb.1, xeqL_iff_dataEqL o as bs ha.2 hb.2]
end

end GtModel.Xml
