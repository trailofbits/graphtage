/-
  `mkEdit_fresh`: without MultiSetEdit (no `DictNode` on the from-side) the machine of `from.edits(to)` is fresh
  and its initial upper bound is at most `size from + size to + 1 + 3 * nw to`.
-/
import GtModel.Proofs.EditsOptions
import GtModel.Proofs.LazyFkBound
import GtModel.Proofs.ZeroMain

namespace GtModel.Lazy
open GtModel.EditMatrix (middle trimLens)

attribute [-simp] List.getD_eq_getElem?_getD

theorem size_list (cs : List Tree) : (Tree.list cs).size = sizeL cs := by simp [Tree.size]
theorem size_fdict (kvs : List (Str × Tree)) : (Tree.fdict kvs).size = sizeKV kvs := by simp [Tree.size]
theorem nw_list (cs : List Tree) : (Tree.list cs).nw = nwL cs := by simp [Tree.nw]

theorem initIvL_hi (ms : List M) : (initIvL ms).hi = (ms.map fun m => (initIv m).hi).sum := by
  induction ms with
  | nil => rfl
  | cons m ms ih => simp [initIvL, Iv.add, ih]

theorem sizeL_nwL_eq_sum (l : List Tree) :
    sizeL l + 3 * nwL l = ((List.range l.length).map fun i => (l.getD i dT).size + 1 + 3 * (l.getD i dT).nw).sum := by
  rw [map_range_getD l dT fun c => c.size + 1 + 3 * c.nw]
  induction l with
  | nil => rfl
  | cons c l ih => simp only [sizeL, nwL, List.map_cons, List.sum_cons, ← ih]; omega

theorem sum_range_split (L n : Nat) (h : n ≤ L) (g : Nat → Nat) :
    ((List.range L).map g).sum = ((List.range n).map g).sum + ((List.range (L - n)).map fun k => g (n + k)).sum := by
  obtain ⟨r, rfl⟩ := Nat.exists_eq_add_of_le h
  rw [Nat.add_sub_cancel_left, List.range_eq_range', ← List.range'_append_1, List.map_append, List.sum_append,
    Nat.zero_add, ← List.range_eq_range', List.range'_eq_map_range, List.map_map]
  rfl

theorem sum_sizes_le (l : List Tree) (pen : Nat) (hp : pen ≤ 1) :
    ((l.map Tree.size).map (· + pen)).sum ≤ sizeL l := by
  induction l with
  | nil => simp [sizeL]
  | cons c l ih => simp only [sizeL, List.map_cons, List.sum_cons] at ih ⊢; omega

theorem sum_pairs_tail_le (F T T' B : Nat → Nat) {n LF LT : Nat} (h1 : n ≤ LF) (h2 : n ≤ LT)
    (hB : ∀ i, i < n → B i ≤ F i + T i) (hT : ∀ i, T' i ≤ T i) :
    ((List.range n).map B).sum
        + (((List.range (LF - n)).map fun k => F (n + k)).sum + ((List.range (LT - n)).map fun k => T' (n + k)).sum)
      ≤ ((List.range LF).map F).sum + ((List.range LT).map T).sum := by
  rw [sum_range_split LF n h1 F, sum_range_split LT n h2 T]
  have e1 := sum_map_le (List.range n) B (fun i => F i + T i) fun i hi => hB i (List.mem_range.mp hi)
  rw [sum_map_add2] at e1
  have e2 := sum_map_le (List.range (LT - n)) (fun k => T' (n + k)) (fun k => T (n + k)) fun k _ => hT _
  omega

/-- the initial upper bound of a positional list edit: the bounds `B i` of the paired elements and the cost of the tail
    together stay within the two sizes (with the `3 * nw` of the to-side) -/
theorem fixed_sum (fcs tcs : List Tree) (B : Nat → Nat)
    (hB : ∀ i, i < fcs.length → i < tcs.length →
      B i ≤ (fcs.getD i dT).size + (tcs.getD i dT).size + 1 + 3 * (tcs.getD i dT).nw) :
    ((List.range (Nat.min fcs.length tcs.length)).map B).sum + tailCost (fixedTail fcs tcs)
      ≤ sizeL fcs + sizeL tcs + 3 * nwL tcs := by
  have h1 : Nat.min fcs.length tcs.length ≤ fcs.length := Nat.min_le_left _ _
  have h2 : Nat.min fcs.length tcs.length ≤ tcs.length := Nat.min_le_right _ _
  rw [Nat.add_assoc (sizeL fcs), sizeL_eq_sum fcs, ← map_range_getD fcs dT fun c => c.size + 1, sizeL_nwL_eq_sum tcs]
  simp only [tailCost, fixedTail, List.map_append, List.sum_append, List.map_map]
  exact sum_pairs_tail_le (fun i => (fcs.getD i dT).size + 1)
    (fun i => (tcs.getD i dT).size + 1 + 3 * (tcs.getD i dT).nw) (fun i => (tcs.getD i dT).size + 1) B h1 h2
    (fun i hi => by have := hB i (by omega) (by omega); omega) (fun i => Nat.le_add_right _ _)

theorem edPen_le (fcs tcs : List Tree) : edPen fcs tcs ≤ 1 := by
  unfold edPen
  split <;> omega

/-- the penalty is dropped only if every element has positive size -/
theorem edPen_pos (fcs tcs : List Tree) :
    (∀ x ∈ fcs.map Tree.size, 0 < x + edPen fcs tcs) ∧ (∀ x ∈ tcs.map Tree.size, 0 < x + edPen fcs tcs) :=
  ⟨List.forall_mem_map.mpr (listPen_pos fcs tcs).1, List.forall_mem_map.mpr (listPen_pos fcs tcs).2⟩

theorem edCells_inv (a : Ghost) (o : Opts) (orc : Orc) (fp tp : List Nat) (fcs tcs : List Tree)
    (hne : ¬ eqL fcs tcs = true) :
    EdInv (ghostOf a) (edInit (trimLens fcs tcs) (fcs.map Tree.size) (tcs.map Tree.size) (edPen fcs tcs))
      (edCells o orc fp tp fcs tcs) := by
  refine edInit_inv _ _ _ _ (ghostOf a) _ (by rw [List.length_map]; exact trim_le_left fcs tcs)
    (by rw [List.length_map]; exact trim_le_right fcs tcs) (edPen_pos fcs tcs).1 (edPen_pos fcs tcs).2 ?_ ?_
    (fun _ _ _ _ => trivial)
  · simp only [List.length_map]
    exact trim_nz dT fcs tcs fun hh => hne ((eqL_iff fcs tcs).mpr hh)
  · rw [List.length_map, List.length_map, ← middle_length tcs, ← middle_length fcs]
    exact edCells_shape fcs tcs

section
variable {a : Ghost} {o : Opts} {orc : Orc} {fcs tcs : List Tree}

theorem mkEdit_list_invP (h : ∀ fc ∈ fcs, ∀ tc ∈ tcs, ∀ fp tp, InvP a (mkEdit o orc fp tp fc tc)) (fp tp : List Nat) :
    InvP a (mkEdit o orc fp tp (.list fcs) (.list tcs)) := by
  have sub := fun fc hfc tc htc fp tp i j => (h fc hfc tc htc fp tp).relabel i j
  rw [mkEdit_list_list]
  split
  · exact InvP.const a _ 0
  · next hne =>
    split
    · exact InvP.fixed (fixedPairs_forall sub) _ _
    · exact InvP.ed (edCells_forall sub) _ (edCells_inv a o orc fp tp fcs tcs hne)

theorem mkEdit_list_fresh (h : ∀ fc ∈ fcs, ∀ tc ∈ tcs, ∀ fp tp, FreshP a (mkEdit o orc fp tp fc tc))
    (fp tp : List Nat) : FreshP a (mkEdit o orc fp tp (.list fcs) (.list tcs)) := by
  -- the invariant is that of `mkEdit_list_invP`; what remains is the view of each of the three machines
  have inv := mkEdit_list_invP (fun fc hfc tc htc fp tp => (h fc hfc tc htc fp tp).toInvP) fp tp
  rw [mkEdit_list_list] at inv ⊢
  split
  · exact FreshP.const a _ 0
  · split
    · exact FreshP.fixed
        (fixedPairs_forall fun fc hfc tc htc fp tp i j => (h fc hfc tc htc fp tp).relabel i j) _ _
    · rw [if_neg ‹_›, if_neg ‹_›] at inv
      exact FreshP.ed inv

theorem mkEdit_list_hi
    (h : ∀ fc ∈ fcs, ∀ tc ∈ tcs, ∀ fp tp, (initIv (mkEdit o orc fp tp fc tc)).hi ≤ fc.size + tc.size + 1 + 3 * tc.nw)
    (fp tp : List Nat) :
    (initIv (mkEdit o orc fp tp (.list fcs) (.list tcs))).hi ≤ sizeL fcs + sizeL tcs + 1 + 3 * nwL tcs := by
  rw [mkEdit_list_list]
  split
  · exact Nat.zero_le _
  · split
    · rw [fixedPairs_eq]
      simp only [initIv, initIvL_hi, List.map_map, Function.comp_def, initIv_relabel]
      have := fixed_sum fcs tcs
        (fun i => (initIv (mkEdit o orc (fp ++ [i]) (tp ++ [i]) (fcs.getD i dT) (tcs.getD i dT))).hi)
        (fun i h1 h2 => h _ (getD_mem fcs i dT h1) _ (getD_mem tcs i dT h2) _ _)
      omega
    · have h1 := sum_sizes_le fcs _ (edPen_le fcs tcs)
      have h2 := sum_sizes_le tcs _ (edPen_le fcs tcs)
      simp only [initIv, edInit_ub0]
      omega

end

theorem replace_fresh (a : Ghost) (x y k : Nat) :
    FreshP a (ofLeafScript (mkReplace x y)) ∧ (initIv (ofLeafScript (mkReplace x y))).hi ≤ x + y + 1 + k :=
  ⟨FreshP.const a _ _, mkReplace_cost_le x y k⟩

theorem mkEdit_fdict_fresh {a : Ghost} {o : Opts} {orc : Orc} {fkv tkv : List (Str × Tree)}
    (hdf : (keys fkv).Nodup) (hdt : (keys tkv).Nodup)
    (hdom : ∀ kv ∈ tkv, 3 * kv.2.nw ≤ 2 * kv.1.length + 5)
    (h : ∀ f ∈ fkv, ∀ t ∈ tkv, ∀ fp tp, FreshP a (mkEdit o orc fp tp f.2 t.2) ∧
      (initIv (mkEdit o orc fp tp f.2 t.2)).hi ≤ f.2.size + t.2.size + 1 + 3 * t.2.nw) (fp tp : List Nat) :
    FreshP a (mkEdit o orc fp tp (.fdict fkv) (.fdict tkv)) ∧
      (initIv (mkEdit o orc fp tp (.fdict fkv) (.fdict tkv))).hi ≤ sizeKV fkv + sizeKV tkv + 1 := by
  rw [mkEdit_fdict_fdict]
  split
  · exact ⟨FreshP.const a _ 0, Nat.zero_le _⟩
  · next hne =>
    have hv : ∀ i j, FreshP a (((kvTblM o orc fp tp fkv tkv).getD i []).getD j (mkConst .match_ 0)) :=
      kvTblM_forall (FreshP.const a _ _) (fun f hf t ht fp tp => (h f hf t ht fp tp).1) fp tp
    have hsum := fkPending_sum fkv tkv (kvTblM o orc fp tp fkv tkv) hdf hdt
      (by
        intro i j h1 h2
        rw [kvTblM_getD, if_pos ⟨h1, h2⟩]
        exact (h _ (getD_mem fkv i dkv h1) _ (getD_mem tkv j dkv h2) _ _).2)
      (fun j hj => hdom _ (getD_mem tkv j dkv hj))
    exact ⟨FreshP.coll (fkPending_fresh a fkv tkv _ hv) (fkPending_ne fkv tkv _ (by simpa using hne)) _ _ (by omega),
      by simp only [initIv]; omega⟩

theorem mkEdit_fresh (a : Ghost) (o : Opts) (orc : Orc) :
    ∀ f : Tree, f.noDict = true → f.KeysDistinct → ∀ t : Tree, t.KeysDistinct → t.fkOK = true → ∀ fp tp,
      FreshP a (mkEdit o orc fp tp f t) ∧
        (initIv (mkEdit o orc fp tp f t)).hi ≤ f.size + t.size + 1 + 3 * t.nw := by
  intro f
  induction f using Tree.ind with
  | leaf x =>
    intro _ _ t _ _ fp tp
    rw [mkEdit_leaf]
    exact mkLeaf_fresh a x t
  | list fcs ih =>
    intro hnd hkd t hkt hft fp tp
    by_cases ht : ∃ tcs, t = .list tcs
    · obtain ⟨tcs, rfl⟩ := ht
      rw [Tree.noDict, noDictL_iff] at hnd
      rw [Tree.fkOK, fkL_iff] at hft
      have ch := fun fc hfc tc htc fp tp =>
        ih fc hfc (hnd fc hfc) ((kd_list fcs).mp hkd fc hfc) tc ((kd_list tcs).mp hkt tc htc) (hft tc htc) fp tp
      exact ⟨mkEdit_list_fresh (fun fc hfc tc htc fp tp => (ch fc hfc tc htc fp tp).1) fp tp,
        by simpa only [size_list, nw_list] using mkEdit_list_hi (fun fc hfc tc htc fp tp => (ch fc hfc tc htc fp tp).2) fp tp⟩
    · rw [mkEdit_list_other (fun tcs e => ht ⟨tcs, e⟩), size_list]
      exact replace_fresh a _ _ _
  | dict kvs _ =>
    intro hnd
    simp [Tree.noDict] at hnd
  | fdict fkv ih =>
    intro hnd hkd t hkt hft fp tp
    by_cases ht : ∃ tkv, t = .fdict tkv
    · obtain ⟨tkv, rfl⟩ := ht
      rw [Tree.noDict, noDictKV_iff] at hnd
      rw [Tree.fkOK, fkKV_iff] at hft
      have hkd' := (kd_fdict fkv).mp hkd
      have hkt' := (kd_fdict tkv).mp hkt
      have := mkEdit_fdict_fresh hkd'.1 hkt'.1 (fun kv hkv => (hft kv hkv).1)
        (fun f hf t ht fp tp => ih f hf (hnd f hf) (hkd'.2 f hf) t.2 (hkt'.2 t ht) (hft t ht).2 fp tp) fp tp
      simp only [size_fdict, Tree.nw]
      exact ⟨this.1, by omega⟩
    · rw [mkEdit_fdict_other (fun tkv e => ht ⟨tkv, e⟩), size_fdict]
      exact replace_fresh a _ _ _

end GtModel.Lazy
