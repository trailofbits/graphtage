/-
  Trees up to re-ordering of `FixedKeyDictNode` pairs (`TPerm`), and what is invariant under it: sizes, node
  equality, leaf-ness, the trimming and penalties of sequences, the costs of `fixedScript` / `edScript` / `leafEdits`.
  Used for C08 (3): with `allow_key_edits = False` the cost of a comparison does not depend on the key order of
  either document.
-/
import GtModel.Proofs.ZeroDict

namespace GtModel
open GtModel.EditMatrix (sharedPrefixLen trimLens middle solve)

mutual
/-- `TPerm f f'`: `f'` is `f` with the pairs of any `fdict` node, at any depth, re-ordered.  (No `dict` nodes:
    `build` with `ake = false` creates none.) -/
inductive TPerm : Tree → Tree → Prop
  | leaf (s : Scalar) : TPerm (.leaf s) (.leaf s)
  | list {as bs : List Tree} : TPermL as bs → TPerm (.list as) (.list bs)
  | fdict {as cs bs : List (Str × Tree)} : TPermKV as cs → List.Perm cs bs → TPerm (.fdict as) (.fdict bs)
inductive TPermL : List Tree → List Tree → Prop
  | nil : TPermL [] []
  | cons {a b : Tree} {as bs : List Tree} : TPerm a b → TPermL as bs → TPermL (a :: as) (b :: bs)
inductive TPermKV : List (Str × Tree) → List (Str × Tree) → Prop
  | nil : TPermKV [] []
  | cons {k : Str} {v w : Tree} {as bs : List (Str × Tree)} :
      TPerm v w → TPermKV as bs → TPermKV ((k, v) :: as) ((k, w) :: bs)
end

def PairRel (p q : Str × Tree) : Prop := p.1 = q.1 ∧ TPerm p.2 q.2

def KVPerm (as bs : List (Str × Tree)) : Prop := ∃ cs, TPermKV as cs ∧ cs.Perm bs

theorem TPerm_fdict_iff (as bs : List (Str × Tree)) : TPerm (.fdict as) (.fdict bs) ↔ KVPerm as bs := by
  constructor
  · intro h; cases h with | fdict h1 h2 => exact ⟨_, h1, h2⟩
  · rintro ⟨cs, h1, h2⟩; exact .fdict h1 h2

theorem TPermL_iff_forall₂ {as bs : List Tree} : TPermL as bs ↔ Forall2 TPerm as bs :=
  Builder.Forall2.iff_of_rec .nil ⟨fun | .cons h1 h2 => ⟨h1, h2⟩, fun h => .cons h.1 h.2⟩ nofun nofun

theorem TPermKV_iff_forall₂ {as bs : List (Str × Tree)} : TPermKV as bs ↔ Forall2 PairRel as bs :=
  Builder.Forall2.iff_of_rec .nil
    (@fun (_, _) (_, _) _ _ => ⟨fun h => by cases h with | cons h1 h2 => exact ⟨⟨rfl, h1⟩, h2⟩,
      fun h => by obtain ⟨⟨rfl, h1⟩, h2⟩ := h; exact .cons h1 h2⟩) nofun nofun

theorem KVPerm.left {as bs : List (Str × Tree)} (h : KVPerm as bs) : ∀ p ∈ as, ∃ q ∈ bs, PairRel p q := by
  obtain ⟨cs, h1, h2⟩ := h
  intro p hp
  obtain ⟨q, hq, r⟩ := (TPermKV_iff_forall₂.1 h1).mem_left hp
  exact ⟨q, h2.subset hq, r⟩

theorem KVPerm.right {as bs : List (Str × Tree)} (h : KVPerm as bs) : ∀ q ∈ bs, ∃ p ∈ as, PairRel p q := by
  obtain ⟨cs, h1, h2⟩ := h
  exact fun q hq => (TPermKV_iff_forall₂.1 h1).mem_right (h2.symm.subset hq)

theorem KVPerm.map_perm {β : Type} {as bs : List (Str × Tree)} (h : KVPerm as bs) (g g' : Str × Tree → β)
    (hg : ∀ p ∈ as, ∀ q ∈ bs, PairRel p q → g p = g' q) : (as.map g).Perm (bs.map g') := by
  obtain ⟨cs, h1, h2⟩ := h
  rw [(TPermKV_iff_forall₂.1 h1).map_eq fun p hp q hq => hg p hp q (h2.subset hq)]
  exact h2.map g'

theorem KVPerm.keys_perm {as bs : List (Str × Tree)} (h : KVPerm as bs) : (as.map Prod.fst).Perm (bs.map Prod.fst) :=
  h.map_perm _ _ fun _ _ _ _ hpq => hpq.1

theorem KVPerm.length_eq {as bs : List (Str × Tree)} (h : KVPerm as bs) : as.length = bs.length := by
  simpa using h.keys_perm.length_eq

theorem TPerm.refl_left {f f' : Tree} (h : TPerm f f') : TPerm f f := by
  induction f using Tree.ind generalizing f' with
  | leaf s => exact .leaf s
  | list as ih =>
    cases h with
    | list hL =>
      rw [TPermL_iff_forall₂] at hL
      exact .list (TPermL_iff_forall₂.2 (.same fun a ha => let ⟨_, _, r⟩ := hL.mem_left ha; ih a ha r))
  | dict kvs => cases h
  | fdict as ih =>
    cases h with
    | fdict hKV hperm =>
      rw [TPermKV_iff_forall₂] at hKV
      exact .fdict (TPermKV_iff_forall₂.2 (.same fun p hp => let ⟨_, _, r⟩ := hKV.mem_left hp; ⟨rfl, ih p hp r.2⟩))
        (List.Perm.refl _)

theorem TPerm.size_eq {f f' : Tree} (h : TPerm f f') : f.size = f'.size := by
  induction f using Tree.ind generalizing f' with
  | leaf s => cases h; rfl
  | list as ih =>
    cases h with
    | list hL =>
      rw [Tree.size, Tree.size, sizeL_eq_sum, sizeL_eq_sum,
        (TPermL_iff_forall₂.1 hL).map_eq fun c hc c' _ h => by rw [ih c hc h]]
  | dict kvs => cases h
  | fdict as ih =>
    cases h with
    | @fdict _ cs bs hKV hperm =>
      rw [Tree.size, Tree.size, sizeKV_eq_sum, sizeKV_eq_sum]
      refine (KVPerm.map_perm ⟨cs, hKV, hperm⟩ _ _ fun p hp q hq hpq => ?_).sum_nat
      rw [kvSize, kvSize, hpq.1, ih p hp hpq.2]

theorem PairRel.kvSize_eq {p q : Str × Tree} (h : PairRel p q) : kvSize p = kvSize q := by
  rw [kvSize, kvSize, h.1, h.2.size_eq]

theorem TPerm.isLeaf_eq {f f' : Tree} (h : TPerm f f') : f.isLeaf = f'.isLeaf := by
  cases h <;> rfl

theorem eqL_congr {as as' bs bs' : List Tree} (h : Forall2 TPerm as as') (h' : Forall2 TPerm bs bs')
    (hc : ∀ a ∈ as, ∀ a' b b', TPerm a a' → TPerm b b' → a.eq b = a'.eq b') : eqL as bs = eqL as' bs' := by
  rw [Bool.eq_iff_iff, eqL_iff_forall₂, eqL_iff_forall₂]
  exact Builder.Forall2.congr h h' fun a ha a' _ b _ b' _ r r' => by rw [hc a ha a' b b' r r']

theorem TPerm.eq_congr {f f' t t' : Tree} (hf : TPerm f f') (ht : TPerm t t') : f.eq t = f'.eq t' := by
  induction f using Tree.ind generalizing f' t t' with
  | leaf s => cases hf; cases ht <;> simp [Tree.eq]
  | list as ih =>
    cases hf with
    | list hL =>
      cases ht with
      | list hL' => rw [Tree.eq, Tree.eq]; exact eqL_congr (TPermL_iff_forall₂.1 hL) (TPermL_iff_forall₂.1 hL') fun a ha a' b b' h h' => ih a ha h h'
      | _ => simp [Tree.eq]
  | dict kvs => cases hf
  | fdict as ih =>
    cases hf with
    | @fdict _ cs as' hKV hperm =>
      cases ht with
      | @fdict bs ds bs' hKV' hperm' =>
        have ka : KVPerm as as' := ⟨cs, hKV, hperm⟩
        have kb : KVPerm bs bs' := ⟨ds, hKV', hperm'⟩
        rw [Bool.eq_iff_iff, fdict_eq_iff, fdict_eq_iff]
        constructor
        · rintro ⟨h1, h2⟩
          refine ⟨by rw [← ka.length_eq, ← kb.length_eq]; exact h1, fun p' hp' => ?_⟩
          obtain ⟨p, hp, hpp⟩ := ka.right p' hp'
          obtain ⟨q, hq, e, he⟩ := h2 p hp
          obtain ⟨q', hq', hqq⟩ := kb.left q hq
          exact ⟨q', hq', by rw [← hpp.1, e, hqq.1], by rw [← ih p hp hpp.2 hqq.2]; exact he⟩
        · rintro ⟨h1, h2⟩
          refine ⟨by rw [ka.length_eq, kb.length_eq]; exact h1, fun p hp => ?_⟩
          obtain ⟨p', hp', hpp⟩ := ka.left p hp
          obtain ⟨q', hq', e, he⟩ := h2 p' hp'
          obtain ⟨q, hq, hqq⟩ := kb.right q' hq'
          exact ⟨q, hq, by rw [hpp.1, e, hqq.1], by rw [ih p hp hpp.2 hqq.2]; exact he⟩
      | _ => simp [Tree.eq]

theorem PairRel.kvEq_congr {p p' q q' : Str × Tree} (hp : PairRel p p') (hq : PairRel q q') : kvEq p q = kvEq p' q' := by
  rw [kvEq, kvEq, hp.1, hq.1, hp.2.eq_congr hq.2]

theorem trimLens_congr {as as' bs bs' : List Tree} (h : Forall2 TPerm as as') (h' : Forall2 TPerm bs bs') :
    trimLens as bs = trimLens as' bs' := by
  have e := fun {a a' b b'} (r : TPerm a a') (r' : TPerm b b') => (r.eq_congr r' : (a == b) = (a' == b'))
  simp only [trimLens, sharedPrefixLen_congr (fun _ _ _ _ => e) h h',
    sharedPrefixLen_congr (fun _ _ _ _ => e) (h.drop _).reverse (h'.drop _).reverse]

theorem middle_congr {as as' : List Tree} (h : Forall2 TPerm as as') (ps : Nat × Nat) :
    Forall2 TPerm (middle as ps) (middle as' ps) := by
  simp only [middle, h.length_eq]
  exact (h.drop _).take _

theorem allLeaves_congr {as bs : List Tree} (h : Forall2 TPerm as bs) : allLeaves as = allLeaves bs :=
  h.all_eq fun _ _ r => r.isLeaf_eq

theorem allPositive_congr {as bs : List Tree} (h : Forall2 TPerm as bs) : allPositive as = allPositive bs :=
  h.all_eq fun _ _ r => by rw [r.size_eq]

theorem sumCosts_eq (l : List Script) : sumCosts l = (l.map Script.cost).sum := rfl

/-- `FixedLengthSequenceEdit`: the cost depends on the operands only through sizes and the cell costs -/
theorem fixedScript_cost_congr {fcs fcs' tcs tcs' : List Tree} (tbl tbl' : List (List Script))
    (hf : Forall2 TPerm fcs fcs') (ht : Forall2 TPerm tcs tcs')
    (H : ∀ i, i < fcs.length → i < tcs.length →
      ((tbl.getD i []).getD i (mkMatch 0)).cost = ((tbl'.getD i []).getD i (mkMatch 0)).cost) :
    (fixedScript fcs tcs tbl).cost = (fixedScript fcs' tcs' tbl').cost := by
  have hmin : ∀ a b : Nat, Nat.min a b = min a b := fun _ _ => rfl
  simp only [fixedScript, mkCompound_cost, sumCosts_eq, List.map_append, List.map_map, ← hf.length_eq,
    ← ht.length_eq, hmin]
  congr 2
  · congr 1
    · apply List.map_congr_left
      intro i hi
      simp only [List.mem_range] at hi
      simp only [Function.comp_apply, Script.relabel_cost]
      exact H i (by omega) (by omega)
    · apply List.map_congr_left
      intro k hk
      simp only [List.mem_range] at hk
      simp only [Function.comp_apply, mkRemove_cost]
      rw [(((Builder.Forall2.iff_getD dT dT).1 hf).2 _ (by omega)).size_eq]
  · apply List.map_congr_left
    intro k hk
    simp only [List.mem_range] at hk
    simp only [Function.comp_apply, mkInsert_cost]
    rw [(((Builder.Forall2.iff_getD dT dT).1 ht).2 _ (by omega)).size_eq]

/-- `EditDistance`: the cost depends on the operands only through sizes, pairwise equality and the cell costs -/
theorem edScript_cost_congr {fcs fcs' tcs tcs' : List Tree} (pen : Nat) (tbl tbl' : List (List Script))
    (hf : Forall2 TPerm fcs fcs') (ht : Forall2 TPerm tcs tcs')
    (H : ∀ i j, i < fcs.length → j < tcs.length →
      ((tbl.getD i []).getD j (mkMatch 0)).cost = ((tbl'.getD i []).getD j (mkMatch 0)).cost) :
    (edScript fcs tcs pen tbl).cost = (edScript fcs' tcs' pen tbl').cost := by
  simp only [edScript, Script.cost_mk, ← trimLens_congr hf ht]
  have hmf := middle_congr hf (trimLens fcs tcs)
  have hmt := middle_congr ht (trimLens fcs tcs)
  rw [← hmf.map_eq (f := fun c => c.size + pen) (g := fun c => c.size + pen) (fun c _ c' _ h => by rw [h.size_eq]),
    ← hmt.map_eq (f := fun c => c.size + pen) (g := fun c => c.size + pen) (fun c _ c' _ h => by rw [h.size_eq]),
    ← hmf.length_eq, ← hmt.length_eq]
  congr 2
  apply List.map_congr_left
  intro r hr
  apply List.map_congr_left
  intro c hc
  simp only [List.mem_range, middle_length] at hr hc
  have la := trim_le_left fcs tcs
  have lb := trim_le_right fcs tcs
  exact H _ _ (by omega) (by omega)

theorem leafEdits_cost_congr (a : Scalar) {t t' : Tree} (h : TPerm t t') :
    (leafEdits a t).cost = (leafEdits a t').cost := by
  cases h with
  | leaf s => rfl
  | list hL =>
    have := (TPerm.list hL).size_eq
    cases a <;> simp [leafEdits, this]
  | fdict h1 h2 =>
    have := (TPerm.fdict h1 h2).size_eq
    cases a <;> simp [leafEdits, this]

end GtModel
