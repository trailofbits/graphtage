/-
  Tables (`tget` / `tset` on `TShape`); minimum and maximum of a list (`minD` against `minList`, `maxD` against
  `maxList`); matrices of machines — the cells of an EditDistance and the edges of a matcher: `mget` / `mset`, the frame
  `KeepsLL`, the measure `muLLg`; for the EditDistance: predecessors and anti-diagonals.
-/
import GtModel.Proofs.LazyBase

namespace GtModel.Lazy

theorem tget_ok {t : List (List Nat)} {m n r c : Nat} (h : TShape t m n) (hr : r < m) (hc : c < n) :
    ∃ v, tget t r c = .ok v := by
  have hr' : r < t.length := by rw [h.1]; exact hr
  have hrow := h.2 t[r] (List.getElem_mem hr')
  refine ⟨(t[r])[c]'(by rw [hrow]; exact hc), ?_⟩
  simp [tget, List.getElem?_eq_getElem hr', List.getElem?_eq_getElem (show c < t[r].length by rw [hrow]; exact hc)]

theorem tset_ok {t : List (List Nat)} {m n r c : Nat} (v : Nat) (h : TShape t m n) (hr : r < m) (hc : c < n) :
    ∃ t', tset t r c v = .ok t' ∧ TShape t' m n ∧ tget t' r c = .ok v ∧
      ∀ r' c', (r' ≠ r ∨ c' ≠ c) → tget t' r' c' = tget t r' c' := by
  have hr' : r < t.length := by rw [h.1]; exact hr
  have hrow := h.2 t[r] (List.getElem_mem hr')
  have hc' : c < t[r].length := by rw [hrow]; exact hc
  refine ⟨t.set r (t[r].set c v), ?_, ⟨?_, ?_⟩, ?_, ?_⟩
  · simp [tset, List.getElem?_eq_getElem hr', hc']
  · simp [h.1]
  · intro row hrow'
    rcases List.mem_or_eq_of_mem_set hrow' with hm | he
    · exact h.2 row hm
    · rw [he]; simp [hrow]
  · simp [tget, List.getElem?_set_self hr', List.getElem?_set_self hc']
  · intro r' c' hne
    by_cases hrr : r' = r
    · subst hrr
      have hcc : c' ≠ c := by rcases hne with h1 | h1; exact absurd rfl h1; exact h1
      simp only [tget, List.getElem?_set_self hr', List.getElem?_eq_getElem hr']
      rw [List.getElem?_set_ne (Ne.symm hcc)]
    · simp only [tget]
      rw [List.getElem?_set_ne (Ne.symm hrr)]

theorem zeroTable_shape (m n : Nat) : TShape (zeroTable m n) m n := by
  refine ⟨by simp [zeroTable], ?_⟩
  intro row hrow
  simp only [zeroTable, List.mem_replicate] at hrow
  rw [hrow.2]; simp

theorem lget_ok {α : Type} {l : List α} {i : Nat} (h : i < l.length) : lget l i = .ok l[i] := by
  simp [lget, List.getElem?_eq_getElem h, pure, Except.pure]

theorem foldl_min_le_acc : ∀ (l : List Nat) (a : Nat), l.foldl Nat.min a ≤ a
  | [], _ => Nat.le_refl _
  | x :: xs, a => by
      have := foldl_min_le_acc xs (Nat.min a x)
      simp only [List.foldl, nmin] at this ⊢
      omega

theorem foldl_min_le_mem : ∀ (l : List Nat) (a x : Nat), x ∈ l → l.foldl Nat.min a ≤ x
  | [], _, _, h => by simp at h
  | y :: ys, a, x, h => by
      simp only [List.foldl]
      rcases List.mem_cons.mp h with rfl | h
      · have := foldl_min_le_acc ys (Nat.min a x)
        simp only [nmin] at this ⊢; omega
      · exact foldl_min_le_mem ys _ x h

theorem foldl_min_mem : ∀ (l : List Nat) (a : Nat), l.foldl Nat.min a = a ∨ l.foldl Nat.min a ∈ l
  | [], _ => Or.inl rfl
  | y :: ys, a => by
      simp only [List.foldl]
      rcases foldl_min_mem ys (Nat.min a y) with h | h
      · rw [h]
        simp only [nmin]
        by_cases hh : a ≤ y
        · left; omega
        · right; simp; left; omega
      · right; simp [h]

theorem minD_le {l : List Nat} {x : Nat} (h : x ∈ l) : minD l ≤ x := by
  cases l with
  | nil => simp at h
  | cons y ys =>
    simp only [minD]
    rcases List.mem_cons.mp h with rfl | h
    · exact foldl_min_le_acc ys x
    · exact foldl_min_le_mem ys y x h

theorem minD_mem {l : List Nat} (h : l ≠ []) : minD l ∈ l := by
  cases l with
  | nil => exact absurd rfl h
  | cons y ys =>
    simp only [minD]
    rcases foldl_min_mem ys y with h | h
    · rw [h]; simp
    · simp [h]

theorem minList_eq {l : List Nat} (h : l ≠ []) : minList l = .ok (minD l) := by
  cases l with
  | nil => exact absurd rfl h
  | cons y ys => simp [minList, minD]

theorem foldl_max_ge : ∀ (l : List Nat) (a : Nat), a ≤ l.foldl Nat.max a ∧ ∀ x ∈ l, x ≤ l.foldl Nat.max a
  | [], a => ⟨Nat.le_refl _, by simp⟩
  | y :: ys, a => by
      obtain ⟨h1, h2⟩ := foldl_max_ge ys (Nat.max a y)
      exact ⟨Nat.le_trans (Nat.le_max_left a y) h1,
        List.forall_mem_cons.mpr ⟨Nat.le_trans (Nat.le_max_right a y) h1, h2⟩⟩

theorem maxD_ge {l : List Nat} {x : Nat} (h : x ∈ l) : x ≤ maxD l := by
  cases l with
  | nil => simp at h
  | cons y ys =>
    rcases List.mem_cons.mp h with rfl | h
    · exact (foldl_max_ge ys x).1
    · exact (foldl_max_ge ys y).2 x h

theorem maxList_eq {l : List Nat} (h : l ≠ []) : maxList l = .ok (maxD l) := by
  cases l with
  | nil => exact absurd rfl h
  | cons y ys => rfl

section
variable {g : Ghost}

/-- `cells'` is `cells` after operations on its elements -/
def KeepsLL (g : Ghost) : List (List M) → List (List M) → Prop
  | [], [] => True
  | r :: rs, r' :: rs' => KeepsL g r r' ∧ KeepsLL g rs rs'
  | _, _ => False

theorem KeepsLL.pw {a b : List (List M)} : KeepsLL g a b ↔ Forall2 (KeepsL g) a b :=
  Builder.Forall2.iff_of_rec trivial Iff.rfl id id

theorem KeepsLL.refl (t : List (List M)) (h : ∀ row ∈ t, ∀ m ∈ row, g.I m) : KeepsLL g t t :=
  KeepsLL.pw.mpr (.same fun row hrow => KeepsL.refl row (h row hrow))

theorem KeepsLL.trans {a b c : List (List M)} (h1 : KeepsLL g a b) (h2 : KeepsLL g b c) : KeepsLL g a c :=
  KeepsLL.pw.mpr ((KeepsLL.pw.mp h1).trans (KeepsLL.pw.mp h2) KeepsL.trans)

theorem KeepsLL.inv {a b : List (List M)} (h : KeepsLL g a b) : ∀ row ∈ b, ∀ m ∈ row, g.I m :=
  fun _ hr => let ⟨_, _, k⟩ := (KeepsLL.pw.mp h).mem_right hr; k.inv

theorem KeepsLL.row {a b : List (List M)} (r : Nat) (y : List M) (h : KeepsLL g a b) : b[r]? = some y →
    ∃ x, a[r]? = some x ∧ KeepsL g x y := (KeepsLL.pw.mp h).get? r y

theorem mget_some {t : List (List M)} {r c : Nat} {m : M} (h : mget t r c = .ok m) :
    ∃ row, t[r]? = some row ∧ row[c]? = some m := by
  unfold mget at h
  split at h
  · cases h
  · rename_i row hrow
    split at h
    · cases h
    · rename_i v hv
      cases h
      exact ⟨row, hrow, hv⟩

theorem mget_of_some {t : List (List M)} {r c : Nat} {m : M} {row : List M} (h1 : t[r]? = some row)
    (h2 : row[c]? = some m) : mget t r c = .ok m := by
  simp [mget, h1, h2]

theorem KeepsLL.get {a b : List (List M)} {r c : Nat} {y : M} (h : KeepsLL g a b) (hy : mget b r c = .ok y) :
    ∃ x, mget a r c = .ok x ∧ Keeps g x y := by
  obtain ⟨rowb, h1, h2⟩ := mget_some hy
  obtain ⟨rowa, h3, k⟩ := KeepsLL.row r rowb h h1
  obtain ⟨x, h4, kx⟩ := KeepsL.get c y k h2
  exact ⟨x, mget_of_some h3 h4, kx⟩

theorem KeepsLL.setRow (t : List (List M)) (r : Nat) (x y : List M) (hI : ∀ row ∈ t, ∀ m ∈ row, g.I m)
    (h : t[r]? = some x) (k : KeepsL g x y) : KeepsLL g t (t.set r y) :=
  KeepsLL.pw.mpr (.set t r (fun row hrow => KeepsL.refl row (hI row hrow)) h k)

theorem mset_keeps {t : List (List M)} {r c : Nat} {x y : M} (hI : ∀ row ∈ t, ∀ m ∈ row, g.I m)
    (hx : mget t r c = .ok x) (k : Keeps g x y) :
    ∃ t', mset t r c y = .ok t' ∧ KeepsLL g t t' ∧ mget t' r c = .ok y ∧
      (∀ r' c', (r' ≠ r ∨ c' ≠ c) → mget t' r' c' = mget t r' c') := by
  obtain ⟨row, h1, h2⟩ := mget_some hx
  have hr : r < t.length := (List.getElem?_eq_some_iff.mp h1).1
  have hc : c < row.length := (List.getElem?_eq_some_iff.mp h2).1
  have hrowI : ∀ m ∈ row, g.I m := hI row (List.mem_of_getElem? h1)
  refine ⟨t.set r (row.set c y), ?_, ?_, ?_, ?_⟩
  · simp [mset, h1, hc]
  · exact KeepsLL.setRow t r row _ hI h1 (KeepsL.set row c x y hrowI h2 k)
  · simp [mget, List.getElem?_set_self hr, List.getElem?_set_self hc]
  · intro r' c' hne
    by_cases hrr : r' = r
    · subst hrr
      have hcc : c' ≠ c := by rcases hne with h | h; exact absurd rfl h; exact h
      simp only [mget, List.getElem?_set_self hr, h1]
      rw [List.getElem?_set_ne (Ne.symm hcc)]
    · simp only [mget]
      rw [List.getElem?_set_ne (Ne.symm hrr)]

theorem KeepsLL.finM {a b : List (List M)} (h : KeepsLL g a b) : finM g b = finM g a :=
  (KeepsLL.pw.mp h).flip.map_eq fun _ _ _ _ k => k.mapFin

theorem KeepsLL.mu : ∀ {a b : List (List M)}, KeepsLL g a b → muLLg g b ≤ muLLg g a
  | [], [], _ => Nat.le_refl _
  | _ :: _, _ :: _, h => by
      have := KeepsLL.mu h.2
      have := (KeepsL.sums h.1).2.2.2.1
      simp only [muLLg]; omega
  | [], _ :: _, h => h.elim
  | _ :: _, [], h => h.elim

theorem KeepsLL.scripts : ∀ {a b : List (List M)}, KeepsLL g a b →
    b.map (·.map g.script) = a.map (·.map g.script) :=
  fun h => (KeepsLL.pw.mp h).flip.map_eq fun _ _ _ _ k => k.sums.2.2.2.2


theorem muLLg_setRow (t : List (List M)) (r : Nat) (row row' : List M) (h : t[r]? = some row) :
    muLLg g (t.set r row') + sumMu g row = muLLg g t + sumMu g row' := sum_set_eq (fun _ _ => rfl) t r row row' h

theorem mset_mu {t t' : List (List M)} {r c : Nat} {x y : M} (hx : mget t r c = .ok x)
    (hs : mset t r c y = .ok t') : muLLg g t' + g.μ x = muLLg g t + g.μ y := by
  obtain ⟨row, h1, h2⟩ := mget_some hx
  have hc : c < row.length := (List.getElem?_eq_some_iff.mp h2).1
  simp only [mset, h1, hc, if_true, pure, Except.pure, Except.ok.injEq] at hs
  subst hs
  have e1 := muLLg_setRow (g := g) t r row (row.set c y) h1
  have e2 := sumMu_set_eq (g := g) row c x y h2
  omega

theorem mget_inv {t : List (List M)} {r c : Nat} {m : M} (hI : ∀ row ∈ t, ∀ m ∈ row, g.I m)
    (h : mget t r c = .ok m) : g.I m := by
  obtain ⟨row, h1, h2⟩ := mget_some h
  exact hI row (List.mem_of_getElem? h1) m (List.mem_of_getElem? h2)

theorem mget_mu_le {t : List (List M)} {r c : Nat} {m : M} (h : mget t r c = .ok m) : g.μ m ≤ muLLg g t := by
  obtain ⟨row, h1, h2⟩ := mget_some h
  exact Nat.le_trans (le_sum_of_get (S := sumMu g) (fun _ _ => rfl) row c m h2)
    (le_sum_of_get (S := muLLg g) (fun _ _ => rfl) t r row h1)

theorem mget_map {β : Type} {t : List (List M)} {r c : Nat} {m : M} (f : M → β) (d : β) (h : mget t r c = .ok m) :
    ((t.map (·.map f)).getD r []).getD c d = f m := by
  obtain ⟨row, h1, h2⟩ := mget_some h
  simp [List.getD, h1, h2]

theorem cellAt_finM {t : List (List M)} {r c : Nat} {m : M} (h : mget t r c = .ok m) :
    EditMatrix.cellAt (finM g t) r c = g.fin m :=
  mget_map g.fin 0 h

theorem scrM_get {t : List (List M)} {r c : Nat} {m : M} (h : mget t r c = .ok m) :
    ((scrM g t).getD r []).getD c default = g.script m :=
  mget_map g.script default h

theorem mget_ok {t : List (List M)} {m n r c : Nat} (h : MShape t m n) (hr : r < m) (hc : c < n) :
    ∃ v, mget t r c = .ok v := by
  have hr' : r < t.length := by rw [h.1]; exact hr
  have hrow := h.2 t[r] (List.getElem_mem hr')
  have hc' : c < t[r].length := by rw [hrow]; exact hc
  exact ⟨t[r][c], mget_of_some (List.getElem?_eq_getElem hr') (List.getElem?_eq_getElem hc')⟩

theorem mget_ret {t : List (List M)} {m n r c : Nat} (sh : MShape t m n) (hI : ∀ row ∈ t, ∀ x ∈ row, g.I x)
    (hr : r < m) (hc : c < n) : Ret (mget t r c) fun x => mget t r c = .ok x ∧ g.I x ∧ g.μ x ≤ muLLg g t := by
  obtain ⟨x, e⟩ := mget_ok sh hr hc
  exact ⟨x, e, e, mget_inv hI e, mget_mu_le e⟩

theorem mset_ret {t : List (List M)} {r c : Nat} {x y : M} (hI : ∀ row ∈ t, ∀ m ∈ row, g.I m)
    (hx : mget t r c = .ok x) (k : Keeps g x y) :
    Ret (mset t r c y) fun t' => KeepsLL g t t' ∧ mget t' r c = .ok y ∧ muLLg g t' + g.μ x = muLLg g t + g.μ y := by
  obtain ⟨t', e, K, hy, _⟩ := mset_keeps hI hx k
  exact ⟨t', e, K, hy, mset_mu hx e⟩

theorem KeepsL.length' : ∀ {a b : List M}, KeepsL g a b → b.length = a.length := KeepsL.length

theorem KeepsLL.shape : ∀ {a b : List (List M)} {m n : Nat}, KeepsLL g a b → MShape a m n → MShape b m n
  | [], [], _, _, _, h => h
  | x :: xs, y :: ys, m, n, k, h => by
      have ih := KeepsLL.shape (m := m - 1) (n := n) k.2
        ⟨by have := h.1; simp at this; omega, fun row hrow => h.2 row (by simp [hrow])⟩
      refine ⟨?_, ?_⟩
      · have := h.1; have := ih.1; simp at *; omega
      · intro row hrow
        rcases List.mem_cons.mp hrow with rfl | hrow
        · rw [KeepsL.length k.1]; exact h.2 x (by simp)
        · exact ih.2 row hrow
  | [], _ :: _, _, _, k, _ => k.elim
  | _ :: _, [], _, _, k, _ => k.elim

theorem beq_and_eq_false {row col : Nat} (h : ¬ (row = 0 ∧ col = 0)) : (row == 0 && col == 0) = false :=
  Bool.eq_false_iff.mpr (by simpa using h)

theorem beq_or_eq_true {row col : Nat} (h : row = 0 ∨ col = 0) : (row == 0 || col == 0) = true := by simpa using h

theorem predOf_le (s : EdSt) (fm : List (List Nat)) {row col : Nat} (h : ¬ (row = 0 ∧ col = 0)) :
    (predOf (moveAt s fm row col) row col).1 ≤ row ∧ (predOf (moveAt s fm row col) row col).2 ≤ col ∧
      (predOf (moveAt s fm row col) row col).1 + (predOf (moveAt s fm row col) row col).2 < row + col := by
  by_cases hrow : row = 0
  · subst hrow
    simp only [moveAt, beq_self_eq_true, if_true, predOf]; omega
  · by_cases hcol : col = 0
    · subst hcol
      have : (row == 0) = false := by simp [hrow]
      simp only [moveAt, this, Bool.false_eq_true, if_false, beq_self_eq_true, if_true, predOf]; omega
    · cases moveAt s fm row col <;> simp only [predOf] <;> omega

theorem mem_diag {fr : Int} {fc nf r c : Nat} (h0 : 0 ≤ fr) (hfc : fc ≤ nf) :
    (r, c) ∈ diag fr fc nf ↔ (r + c = fr.toNat + fc ∧ fc ≤ c ∧ c ≤ nf ∧ r ≤ fr.toNat) := by
  have h1 : ¬ (fr < 0) := by omega
  have h2 : ¬ (fc > nf) := by omega
  simp only [diag, h1, h2, decide_false, Bool.or_self, Bool.false_eq_true, if_false, List.mem_map, List.mem_range,
    Prod.mk.injEq, nmin]
  constructor
  · rintro ⟨i, hi, rfl, rfl⟩
    omega
  · rintro ⟨hs, hc1, hc2, hr⟩
    exact ⟨c - fc, by omega, by omega, by omega⟩

theorem Pos.mem_diag {s : EdSt} (pos : Pos s) (h0 : 0 ≤ s.fr) {r c : Nat} :
    (r, c) ∈ diag s.fr s.fc s.nf ↔ (r ≤ s.nt ∧ c ≤ s.nf ∧ r + c = kOf s) := by
  have hph := pos.hi; have hpz := pos.z
  rw [Lazy.mem_diag h0 pos.fc]
  simp only [kOf]
  constructor
  · rintro ⟨h1, h2, h3, h4⟩; omega
  · rintro ⟨h1, h2, h3⟩
    by_cases hlt : s.fr < s.nt
    · have := hpz hlt; omega
    · omega

end

end GtModel.Lazy
