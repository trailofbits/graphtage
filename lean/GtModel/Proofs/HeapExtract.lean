/-
  `_extract_min` of the L4 heap model and the heap invariant.
-/
import GtModel.Proofs.HeapCons

namespace GtModel.Heap
variable {K : Type} {cmp : Cmp K}

def MinOk (cmp : Cmp K) (rs : List (HNode K)) : Option Nat → Prop
  | none => rs = []
  | some m => ∃ r ∈ rs, r.id = m ∧ ∀ r' ∈ rs, cmp.lt r'.key r.key = false

theorem minOk_none {rs : List (HNode K)} : MinOk cmp rs none ↔ rs = [] := Iff.rfl

theorem minOk_some {rs : List (HNode K)} {m : Nat} :
    MinOk cmp rs (some m) ↔ ∃ r ∈ rs, r.id = m ∧ ∀ r' ∈ rs, cmp.lt r'.key r.key = false := Iff.rfl

/-- The heap invariant: heap order; no node carries the `deleted` flag; node identities are distinct; `_n` is the
    number of nodes; `_min` is a root of minimum key.  (`degree = kids.length` holds by construction of the model;
    the correspondence stream checks the real `degree` field against it.) -/
structure Inv (cmp : Cmp K) (h : Heap K) : Prop where
  ord : Ords cmp h.roots
  nodel : NoDel h.roots
  nodup : (ids h.roots).Nodup
  size : h.n = (flats h.roots).length
  minOk : MinOk cmp h.roots h.min

theorem inv_empty (cmp : Cmp K) : Inv cmp (empty : Heap K) :=
  ⟨(fun _ h => nomatch h), (fun _ h => nomatch h), List.nodup_nil, rfl, rfl⟩

theorem Inv.min_eq_none {h : Heap K} (hI : Inv cmp h) (he : h.roots = []) : h.min = none := by
  cases hm : h.min with
  | none => rfl
  | some mid =>
    obtain ⟨r, hr, -⟩ := minOk_some.1 (hm ▸ hI.minOk)
    exact nomatch he ▸ hr

theorem Inv.roots_eq_nil_iff {h : Heap K} (hI : Inv cmp h) : h.roots = [] ↔ h.n = 0 := by
  rw [hI.size, List.length_eq_zero_iff]
  exact ⟨fun he => by rw [he, flats_nil], fun he => List.sublist_nil.1 (he ▸ sublist_flats h.roots)⟩

theorem Inv.exists_min {h : Heap K} (hI : Inv cmp h) (hne : h.roots ≠ []) :
    ∃ r ∈ h.roots, h.min = some r.id ∧ ∀ r' ∈ h.roots, cmp.lt r'.key r.key = false := by
  cases hm : h.min with
  | none => exact absurd (minOk_none.1 (hm ▸ hI.minOk)) hne
  | some mid =>
    obtain ⟨r, hr, rfl, hrmin⟩ := minOk_some.1 (hm ▸ hI.minOk)
    exact ⟨r, hr, rfl, hrmin⟩

theorem Inv.min_le_all (T : Total cmp) {h : Heap K} (hI : Inv cmp h) {r : HNode K}
    (hrmin : ∀ r' ∈ h.roots, cmp.lt r'.key r.key = false) : ∀ i ∈ items h.roots, cmp.lt i.2.1 r.key = false :=
  root_le_all.root_le_all_kids T r.key h.roots fun s hs => ⟨hrmin s hs, hI.ord s hs⟩

theorem Inv.findNode_root {h : Heap K} (hI : Inv cmp h) {r : HNode K} (hr : r ∈ h.roots) :
    findNode r.id h.roots = some r :=
  findNode_eq hI.nodup (mem_flats_of_mem hr) rfl

theorem exists_split_id (t : Nat) (l : List (HNode K)) (h : ∃ r ∈ l, r.id = t) :
    ∃ a z b, l = a ++ z :: b ∧ z.id = t ∧ ∀ r ∈ a, r.id ≠ t := by
  induction l with
  | nil => obtain ⟨_, hr, _⟩ := h; cases hr
  | cons r rs ih =>
    by_cases hr : r.id = t
    · exact ⟨[], r, rs, rfl, hr, fun _ h => nomatch h⟩
    · obtain ⟨a, z, b, rfl, hz, ha⟩ := ih (by
        obtain ⟨x, hx, hxt⟩ := h
        rcases List.mem_cons.1 hx with rfl | hx
        · exact absurd hxt hr
        · exact ⟨x, hx, hxt⟩)
      exact ⟨r :: a, z, b, rfl, hz, List.forall_mem_cons.2 ⟨hr, ha⟩⟩

theorem splitId_append {t : Nat} {z : HNode K} (hz : z.id = t) (b a : List (HNode K)) (h : ∀ r ∈ a, r.id ≠ t) :
    splitId t (a ++ z :: b) = some (a, z, b) := by
  induction a with
  | nil => rw [List.nil_append, splitId, if_pos (beq_iff_eq.2 hz)]
  | cons r a ih =>
    rw [List.cons_append, splitId, if_neg fun he => h r List.mem_cons_self (beq_iff_eq.1 he),
      ih fun x hx => h x (List.mem_cons_of_mem _ hx)]

/-- `_extract_min` splices the children of `_min` into the root ring before it unlinks `_min`: what is left of the
    ring are the other roots and the children -/
theorem splitId_appendAll {t : Nat} {z : HNode K} (hz : z.id = t) {a b cs : List (HNode K)}
    (ha : ∀ r ∈ a, r.id ≠ t) (hc : ∀ c ∈ cs, c.id ≠ t) :
    ∃ a' b', splitId t (appendAll (a ++ z :: b) cs) = some (a', z, b') ∧ (a' ++ b').Perm (cs ++ (a ++ b)) := by
  cases a with
  | nil =>
    refine ⟨[], cs.reverse ++ b, ?_, (List.reverse_perm cs).append_right b⟩
    rw [List.nil_append, appendAll_cons]
    exact splitId_append hz _ [] ha
  | cons r a =>
    refine ⟨r :: (cs.reverse ++ a), b, ?_, ?_⟩
    · rw [List.cons_append, appendAll_cons, ← List.append_assoc, ← List.cons_append]
      refine splitId_append hz b _ (List.forall_mem_cons.2 ⟨ha r List.mem_cons_self, List.forall_mem_append.2 ⟨?_, ?_⟩⟩)
      · exact fun c hc' => hc c (List.mem_reverse.1 hc')
      · exact fun x hx => ha x (List.mem_cons_of_mem _ hx)
    · rw [List.cons_append, List.append_assoc]
      exact (((List.reverse_perm cs).append_right _).cons r).trans List.perm_middle.symm

/-- what `_extract_min` needs: `_min = z` is a root; every node except possibly `z` is undeleted -/
structure ExtPre (cmp : Cmp K) (h : Heap K) (zid : Nat) : Prop where
  min : h.min = some zid
  ord : Ords cmp h.roots
  nodup : (ids h.roots).Nodup
  size : h.n = (flats h.roots).length
  root : ∃ r ∈ h.roots, r.id = zid
  nodel : ∀ i ∈ items h.roots, i.1 ≠ zid → i.2.2 = false

theorem extPre_of_inv {h : Heap K} (hI : Inv cmp h) {r : HNode K} (hr : r ∈ h.roots) (hmin : h.min = some r.id) :
    ExtPre cmp h r.id :=
  ⟨hmin, hI.ord, hI.nodup, hI.size, ⟨r, hr, rfl⟩, fun i hi _ => hI.nodel i hi⟩

theorem extractMin_spec (T : Total cmp) (h : Heap K) (zid : Nat) (pre : ExtPre cmp h zid) :
    ∃ h' z, extractMin cmp h = .ok (h', some z) ∧ z ∈ h.roots ∧ z.id = zid ∧ Inv cmp h' ∧
      ms h.roots = {item z} + ms h'.roots := by
  obtain ⟨a, z, b, hroots, hz, ha⟩ := exists_split_id zid h.roots pre.root
  have hzmem : z ∈ h.roots := hroots ▸ List.mem_append_right _ List.mem_cons_self
  -- the forest without `z`: its children and the other roots
  have hms : ms h.roots = {item z} + ms (z.kids ++ (a ++ b)) := by
    rw [hroots]; simp only [ms_append, ms_cons]; ac_rfl
  have hids := (ids_perm_of_ms_cons hms).nodup pre.nodup
  rw [show (item z).1 = zid from hz, List.nodup_cons] at hids
  have hord : Ords cmp (z.kids ++ (a ++ b)) := by
    refine ords_append.2 ⟨fun c hc => ((ord_iff cmp z).1 (pre.ord z hzmem) c hc).2, fun r hr => pre.ord r ?_⟩
    rw [hroots]
    exact (List.mem_append.1 hr).elim (List.mem_append_left _) fun h => List.mem_append_right _ (List.mem_cons_of_mem _ h)
  have hdel : NoDel (z.kids ++ (a ++ b)) := fun i hi =>
    pre.nodel i (mem_ms.1 (hms ▸ Multiset.mem_add.2 (Or.inr (mem_ms.2 hi))))
      fun he => hids.1 (he ▸ List.mem_map_of_mem hi)
  have hcard : (flats h.roots).length = (flats (z.kids ++ (a ++ b))).length + 1 := by
    rw [← card_ms, hms, Multiset.card_add, Multiset.card_singleton, card_ms, Nat.add_comm]
  -- the same forest in the order of the ring
  obtain ⟨a', b', hs2, hp⟩ := splitId_appendAll hz (b := b) ha
    fun c hc he => hids.1 (he ▸ mem_ids_of_mem_flats (mem_flats_of_mem (List.mem_append_left _ hc)))
  have hmsF := ms_perm hp
  rw [← hmsF] at hms
  have hordF : Ords cmp (a' ++ b') := fun r hr => hord r (hp.mem_iff.1 hr)
  have hdelF := nodel_of_ms hmsF.symm hdel
  have hcardF : (flats (a' ++ b')).length + 1 = h.n := by rw [length_flats_of_ms hmsF, ← hcard, pre.size]
  have hn0 : h.n ≠ 0 := fun h0 => Nat.succ_ne_zero _ (hcardF.trans h0)
  rw [← hroots] at hs2
  simp only [extractMin, pre.min, hroots ▸ splitId_append hz b a ha, hs2, hn0, if_false]
  cases hh : (b' ++ a').head? with
  | none =>
    obtain ⟨rfl, rfl⟩ := List.append_eq_nil_iff.1 (List.head?_eq_none_iff.1 hh)
    refine ⟨_, z, rfl, hzmem, hz, ?_, hms⟩
    rw [show h.n - 1 = 0 by rw [← hcardF]; rfl]
    exact inv_empty cmp
  | some right =>
    have hrm : right ∈ a' ++ b' := by
      rw [List.mem_append, or_comm, ← List.mem_append]
      exact List.mem_of_mem_head? hh
    obtain ⟨⟨roots3, m⟩, hc⟩ := consolidate_ok T h.n (a' ++ b') right hordF hdelF (by omega)
    obtain ⟨c1, c2, c3⟩ := consolidate_spec T h.n (a' ++ b') right roots3 m hc hordF hdelF
      (nodup_of_ms hmsF.symm hids.2) hrm
    simp only [hc]
    refine ⟨_, z, rfl, hzmem, hz, ⟨c2, nodel_of_ms c1.symm hdelF, nodup_of_ms (c1.trans hmsF).symm hids.2, ?_, c3⟩,
      hms.trans (c1 ▸ rfl)⟩
    show h.n - 1 = (flats roots3).length
    rw [length_flats_of_ms c1, ← hcardF, Nat.add_sub_cancel]

end GtModel.Heap
