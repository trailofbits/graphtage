/-
  `Tree.WF` (C02) and `Tree.keysDistinct` (C01) are the same predicate (`Tree.WF_eq_keysDistinct`); `Tree.eq_symm` is
  `treeEq_symm` (Proofs/ZeroMain) read with `KeysDistinct`.
-/
import GtModel.Proofs.EditsWalk
import GtModel.Proofs.ZeroMain
namespace GtModel

/-- `Tree.WF` (C02) and `Tree.keysDistinct` (C01) are the same predicate -/
theorem Tree.WF_eq_keysDistinct : ∀ t : Tree, t.WF = t.keysDistinct := by
  apply Tree.ind
  · intro s; rfl
  · intro cs ih
    rw [Bool.eq_iff_iff, Tree.wf_list, ← Tree.KeysDistinct, kd_list]
    exact forall₂_congr fun c hc => by rw [ih c hc]
  · intro kvs ih
    rw [Bool.eq_iff_iff, Tree.wf_dict, ← Tree.KeysDistinct, kd_dict]
    exact and_congr Iff.rfl (forall₂_congr fun c hc => by rw [ih c hc])
  · intro kvs ih
    rw [Bool.eq_iff_iff, Tree.wf_fdict, ← Tree.KeysDistinct, kd_fdict]
    exact and_congr Iff.rfl (forall₂_congr fun c hc => by rw [ih c hc])

theorem Tree.eq_symm (f t : Tree) (hf : f.KeysDistinct) (ht : t.KeysDistinct) : f.eq t = t.eq f :=
  treeEq_symm f t (f.WF_eq_keysDistinct ▸ hf) (t.WF_eq_keysDistinct ▸ ht)

end GtModel
