/-
  C03 for XML: cost bookkeeping of the script produced by `xmlEdits`.
  `XScript.CostOK`: every compound node reports exactly the sum of its sub-edits, at every level; the embedded L2
  scripts (tag / attribute / text edits) satisfy `Script.CostOK`.
  `xflatSum`: the sum over the flat edit list of `TreeNode.get_all_edit_contexts`.
-/
import GtModel.Proofs.XmlBasic
import GtModel.Proofs.EditsCost
namespace GtModel.Xml
open GtModel

mutual
def XScript.CostOK : XScript → Prop
  | .emb s => s.CostOK
  | .mk k _ _ c subs => (if k.hasSubs then c = xsum subs else subs = []) ∧ XCostOKL subs
def XCostOKL : List XScript → Prop
  | [] => True
  | s :: rest => s.CostOK ∧ XCostOKL rest
end

theorem xcostOKL_iff (l : List XScript) : XCostOKL l ↔ ∀ s ∈ l, s.CostOK := by
  induction l with
  | nil => simp [XCostOKL]
  | cons s l ih => simp [XCostOKL, ih]

theorem XScript.costOK_mk (k : XKind) (f t : Ix) (c : Nat) (subs : List XScript) :
    (XScript.mk k f t c subs).CostOK ↔ (if k.hasSubs then c = xsum subs else subs = []) ∧ ∀ x ∈ subs, x.CostOK := by
  simp only [XScript.CostOK, xcostOKL_iff]

@[simp] theorem XScript.costOK_emb (s : Script) : (XScript.emb s).CostOK ↔ s.CostOK := by simp [XScript.CostOK]
@[simp] theorem costOK_xMatch (c : Nat) : (xMatch c).CostOK := by simp [xMatch, XScript.CostOK, XKind.hasSubs, XCostOKL]
@[simp] theorem costOK_xrelabel (s : XScript) (f t : Ix) : (s.relabel f t).CostOK ↔ s.CostOK := by
  cases s <;> simp [XScript.relabel, XScript.CostOK]

theorem costOK_xCompound (k : XKind) (subs : List XScript) (hk : k.hasSubs = true) (h : ∀ s ∈ subs, s.CostOK) :
    (xCompound k subs).CostOK := by
  simp [xCompound, XScript.CostOK, hk, xcostOKL_iff]; exact h

theorem kidsEd_sum (fcs tcs : List XTree) (pen : Nat) (tbl : List (List XScript)) :
    (kidsEd fcs tcs pen tbl).cost = xsum (kidsEd fcs tcs pen tbl).subs := by
  refine (threeSeg_sum XScript.cost _ _ _ _ _ _ _ _ (fun _ => rfl) (fun _ => rfl) fun x hx => ?_).symm
  rw [moveCost_tabulate _ _ _ _ dX x hx]
  obtain ⟨m, r, c⟩ := x
  cases m
  · exact XScript.relabel_cost ..
  · rfl
  · rfl

theorem XScript.Flat.costOK : ∀ {s : XScript}, s.Flat → s.CostOK
  | .mk _ _ _ _ _, h => by rw [XScript.costOK_mk, h.1, h.2]; exact ⟨rfl, nofun⟩

theorem XSubForm.costOK {tbl : List (List XScript)} (hT : ∀ i j, ((tbl.getD i []).getD j (xMatch 0)).CostOK)
    {s : XScript} {n m : Nat} (h : XSubForm n m tbl s) : s.CostOK := by
  cases h with
  | flat h => exact h.costOK
  | cell _ _ => exact (costOK_xrelabel ..).2 (hT _ _)

theorem costOK_kidsEd (fcs tcs : List XTree) (pen : Nat) (tbl : List (List XScript))
    (hT : ∀ i j, ((tbl.getD i []).getD j (xMatch 0)).CostOK) : (kidsEd fcs tcs pen tbl).CostOK :=
  (XScript.costOK_mk ..).2 ⟨kidsEd_sum fcs tcs pen tbl, fun _ hs => (xsubForm_kidsEd hs).costOK hT⟩

theorem costOK_kidsFixed (fcs tcs : List XTree) (tbl : List (List XScript))
    (hT : ∀ i j, ((tbl.getD i []).getD j (xMatch 0)).CostOK) : (kidsFixed fcs tcs tbl).CostOK :=
  costOK_xCompound _ _ rfl fun _ hs => (xsubForm_kidsFixed hs).costOK hT

theorem costOK_kidsScript (o : Opts) (fcs tcs : List XTree) (tbl : List (List XScript))
    (hT : ∀ i j, ((tbl.getD i []).getD j (xMatch 0)).CostOK) : (kidsScript o fcs tcs tbl).CostOK := by
  unfold kidsScript
  split
  · simp
  · split
    · exact costOK_kidsFixed _ _ _ hT
    · exact costOK_kidsEd _ _ _ _ hT

theorem costOK_textEdit (ft tt : Option Str) : ∀ e, textEdit ft tt = some e → e.CostOK := by
  intro e he
  cases ft <;> cases tt <;> simp only [textEdit, Option.some.injEq, reduceCtorEq] at he <;> subst he <;>
    simp [costOK_strEdits]

theorem mem_elemScript {tagE attrE : Script} {textE : Option Script} {kf kt : Nat} {kidsE s : XScript}
    (h : s ∈ (elemScript tagE attrE textE kf kt kidsE).subs) :
    s = .emb (tagE.relabel (.at 0) (.at 0)) ∨ s = .emb (attrE.relabel (.at 1) (.at 1)) ∨
      (∃ e, textE = some e ∧ s = .emb e) ∨ s = kidsE.relabel (.at kf) (.at kt) := by
  simp only [elemScript, xCompound_subs, List.mem_append, List.mem_cons, List.mem_nil_iff, or_false] at h
  rcases h with ((h | h) | h) | h
  · exact .inl h
  · exact .inr (.inl h)
  · cases textE with
    | none => cases h
    | some e => exact .inr (.inr (.inl ⟨e, rfl, List.mem_singleton.1 h⟩))
  · exact .inr (.inr (.inr h))

theorem costOK_elemScript (tagE attrE : Script) (textE : Option Script) (kf kt : Nat) (kidsE : XScript)
    (h1 : tagE.CostOK) (h2 : attrE.CostOK) (h3 : ∀ e, textE = some e → e.CostOK) (h4 : kidsE.CostOK) :
    (elemScript tagE attrE textE kf kt kidsE).CostOK := by
  refine costOK_xCompound _ _ rfl fun s hs => ?_
  rcases mem_elemScript hs with rfl | rfl | ⟨e, he, rfl⟩ | rfl
  · simpa using h1
  · simpa using h2
  · simpa using h3 e he
  · simpa using h4

/-- C03(a) on the XML model -/
theorem costOK_xmlEdits (o : Opts) (orc : Oracle) (f : XTree) : ∀ (fp tp : List Nat) (t : XTree),
    (xmlEdits o orc fp tp f t).CostOK := by
  induction f using XTree.ind with
  | mk ftag fattr ftext fcs ih =>
    intro fp tp t
    obtain ⟨ttag, tattr, ttext, tcs⟩ := t
    rw [xmlEdits_eq]
    split
    · simp
    · apply costOK_elemScript
      · exact costOK_strEdits _ _
      · exact costOK_edits _ _ _ _ _ _
      · exact costOK_textEdit _ _
      · apply costOK_kidsScript
        exact tbl_all _ _ (costOK_xMatch 0)
          (kidsTbl_all o orc fp tp _ _ fcs tcs (fun fc hfc tc fp tp => ih fc hfc fp tp tc))

/-- `isinstance(edit, CompoundEdit)`: XMLElementEdit, FixedLengthSequenceEdit and EditDistance all are -/
def XKind.isCompoundEdit : XKind → Bool := XKind.hasSubs

mutual
/-- the edits `get_all_edit_contexts` yields: compound edits are exploded (depth first, in order), every other
    edit is yielded iff its cost is positive; the embedded L2 scripts are flattened by L2's `flatEdits` -/
def xflatCosts : XScript → List Nat
  | .emb s => (flatEdits s).map Script.cost
  | .mk k _ _ c subs => if k.isCompoundEdit then xflatCostsL subs else if c > 0 then [c] else []
def xflatCostsL : List XScript → List Nat
  | [] => []
  | s :: rest => xflatCosts s ++ xflatCostsL rest
end

/-- what `get_all_edits` sums to -/
def xflatSum (s : XScript) : Nat := (xflatCosts s).sum

/-- `EditedTreeNode.edited_cost()` of the annotated root: the root carries exactly one edit, the root edit -/
def xeditedCost (s : XScript) : Nat := s.cost

mutual
theorem xflatSum_eq_cost : ∀ (s : XScript), s.CostOK → (xflatCosts s).sum = s.cost
  | .emb s, h => by
    simp only [XScript.costOK_emb] at h
    simpa [xflatCosts, sumCosts] using flatSum_eq_cost s h
  | .mk k f t c subs, h => by
    simp only [XScript.CostOK] at h
    simp only [xflatCosts, XKind.isCompoundEdit]
    by_cases hk : k.hasSubs = true
    · simp only [hk, if_true] at h ⊢
      rw [xflatSumL_eq_cost subs h.2, XScript.cost_mk, h.1]
    · simp only [hk, Bool.false_eq_true, if_false]
      by_cases hc : c > 0
      · simp [hc]
      · simp [hc]; omega
theorem xflatSumL_eq_cost : ∀ (l : List XScript), XCostOKL l → (xflatCostsL l).sum = xsum l
  | [], _ => rfl
  | s :: rest, h => by
    simp only [XCostOKL] at h
    simp only [xflatCostsL, List.sum_append, xsum_cons, xflatSum_eq_cost s h.1, xflatSumL_eq_cost rest h.2]
end

end GtModel.Xml
