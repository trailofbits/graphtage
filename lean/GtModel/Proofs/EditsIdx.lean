/-
  C01, per node, ordered containers (lists, strings, the key/value pair): which children of the two containers the
  sub-edits of one compound edit account for.  The mappings are Proofs/EditsPerm.
-/
import GtModel.Proofs.EditMatrix
import GtModel.Proofs.EditsBasic
namespace GtModel
open List
open GtModel.EditMatrix

attribute [-simp] List.getD_eq_getElem?_getD

def ixRange (n : Nat) : List Ix := (List.range n).map Ix.at

def fromIdx (subs : List Script) : List Ix := (subs.filter fun s => s.kind != .insert).map Script.fi

/-- to-side index of one sub-edit: an `Insert` holds the inserted node's index in `fi`; an identity match
    (`ti = same`, emitted by `MultiSetEdit`) is resolved by `resolve` from its from-index -/
def toIxOf (resolve : Ix → Ix) (s : Script) : Ix :=
  if s.kind == .insert then s.fi else if s.ti == .same then resolve s.fi else s.ti

def toIdx (resolve : Ix → Ix) (subs : List Script) : List Ix :=
  (subs.filter fun s => s.kind != .remove).map (toIxOf resolve)

/-- kinds `edits` can return: never a bare Insert/Remove, never a KeyValuePairEdit -/
def Kind.isTop : Kind → Bool
  | .insert | .remove | .kvp => false
  | _ => true

theorem strEdits_kind (a b : Str) : (strEdits a b).kind = .match_ ∨ (strEdits a b).kind = .str := by
  unfold strEdits
  split
  · simp
  · split <;> simp

theorem strEdits_kind_top (a b : Str) : (strEdits a b).kind.isTop = true := by
  rcases strEdits_kind a b with h | h <;> simp [h, Kind.isTop]

theorem leafEdits_kind (a : Scalar) (t : Tree) : (leafEdits a t).kind.isTop = true := by
  unfold leafEdits
  split <;> first | exact strEdits_kind_top _ _ | simp [leafLeaf, Kind.isTop]

theorem edits_kind_top (o : Opts) (orc : Oracle) (fp tp : List Nat) (f t : Tree) :
    (edits o orc fp tp f t).kind.isTop = true :=
  edits_ind treeInv_true (P := fun _ _ s => s.kind.isTop = true) o orc (fun a t => leafEdits_kind a t)
    (fun _ _ _ _ _ => rfl) (fun _ _ _ _ => rfl) (fun _ _ _ _ _ _ _ _ _ => rfl) (fun _ _ _ _ _ _ _ _ => rfl)
    (fun _ _ _ _ _ _ _ _ => rfl) (fun _ _ _ _ _ _ _ _ => rfl) f fp tp t trivial trivial

theorem Kind.isTop_ne {k : Kind} (h : k.isTop = true) : k ≠ .insert ∧ k ≠ .remove ∧ k ≠ .kvp := by
  cases k <;> simp_all [Kind.isTop]

/-- every cell of a table of child scripts (the default cell included) is of a kind `edits` can return -/
def TblTop (tbl : List (List Script)) : Prop := ∀ i j, ((tbl.getD i []).getD j (mkMatch 0)).kind.isTop = true

theorem listTbl_top (o : Opts) (orc : Oracle) (fp tp : List Nat) (fcs tcs : List Tree) :
    TblTop (listTbl o orc fp tp fcs tcs) :=
  tbl_all (P := fun s : Script => s.kind.isTop = true) _ _ rfl fun row hrow s hs => by
    obtain ⟨p, -, rfl⟩ := List.mem_map.1 hrow
    obtain ⟨q, -, rfl⟩ := List.mem_map.1 hs
    exact edits_kind_top ..

theorem kvTbl_top (o : Opts) (orc : Oracle) (fp tp : List Nat) (fkv tkv : List (Str × Tree)) :
    TblTop (kvTbl o orc fp tp fkv tkv) :=
  tbl_all (P := fun s : Script => s.kind.isTop = true) _ _ rfl fun row hrow s hs => by
    obtain ⟨p, -, rfl⟩ := List.mem_map.1 hrow
    obtain ⟨q, -, rfl⟩ := List.mem_map.1 hs
    exact edits_kind_top ..

theorem fromIdx_append (a b : List Script) : fromIdx (a ++ b) = fromIdx a ++ fromIdx b := by simp [fromIdx]
theorem toIdx_append (r : Ix → Ix) (a b : List Script) : toIdx r (a ++ b) = toIdx r a ++ toIdx r b := by simp [toIdx]

theorem filter_map_map {α σ β : Type} (l : List α) (g : α → σ) (p : σ → Bool) (fi : σ → β) (keep : α → Bool) (ix : α → β)
    (h : ∀ a ∈ l, p (g a) = keep a ∧ (keep a = true → fi (g a) = ix a)) :
    ((l.map g).filter p).map fi = (l.filter keep).map ix := by
  rw [List.filter_map, List.map_map]
  exact map_filter_congr l _ keep _ ix fun a ha => ⟨(h a ha).1, fun hp => (h a ha).2 ((h a ha).1 ▸ hp)⟩

theorem filter_map_map_all {α σ β : Type} (l : List α) (g : α → σ) (p : σ → Bool) (fi : σ → β) (ix : α → β)
    (h : ∀ a ∈ l, p (g a) = true ∧ fi (g a) = ix a) : ((l.map g).filter p).map fi = l.map ix := by
  rw [filter_map_map l g p fi (fun _ => true) ix fun a ha => ⟨(h a ha).1, fun _ => (h a ha).2⟩, List.filter_eq_self.2 fun _ _ => rfl]

theorem filter_map_map_none {α σ β : Type} (l : List α) (g : α → σ) (p : σ → Bool) (fi : σ → β)
    (h : ∀ a ∈ l, p (g a) = false) : ((l.map g).filter p).map fi = [] := by
  rw [List.filter_eq_nil_iff.2 fun s hs => ?_, List.map_nil]
  obtain ⟨a, ha, rfl⟩ := List.mem_map.1 hs
  rw [h a ha]; exact Bool.false_ne_true

theorem fromIdx_map {α : Type} (l : List α) (g : α → Script) (ix : α → Ix)
    (h : ∀ a ∈ l, (g a).kind ≠ .insert ∧ (g a).fi = ix a) : fromIdx (l.map g) = l.map ix :=
  filter_map_map_all l g _ _ ix fun a ha => ⟨bne_iff_ne.2 (h a ha).1, (h a ha).2⟩

theorem fromIdx_map_insert {α : Type} (l : List α) (g : α → Script)
    (h : ∀ a ∈ l, (g a).kind = .insert) : fromIdx (l.map g) = [] :=
  filter_map_map_none l g _ _ fun a ha => by rw [h a ha]; rfl

theorem toIdx_map {α : Type} (r : Ix → Ix) (l : List α) (g : α → Script) (ix : α → Ix)
    (h : ∀ a ∈ l, (g a).kind ≠ .remove ∧ toIxOf r (g a) = ix a) : toIdx r (l.map g) = l.map ix :=
  filter_map_map_all l g _ _ ix fun a ha => ⟨bne_iff_ne.2 (h a ha).1, (h a ha).2⟩

theorem toIdx_map_remove {α : Type} (r : Ix → Ix) (l : List α) (g : α → Script)
    (h : ∀ a ∈ l, (g a).kind = .remove) : toIdx r (l.map g) = [] :=
  filter_map_map_none l g _ _ fun a ha => by rw [h a ha]; rfl

theorem toIxOf_relabel_at (r : Ix → Ix) (s : Script) (f : Ix) (j : Nat) (h : s.kind ≠ .insert) :
    toIxOf r (s.relabel f (.at j)) = .at j := by
  simp [toIxOf, h]

theorem ixRange_add (n k : Nat) : ixRange (n + k) = ixRange n ++ (List.range k).map (fun x => Ix.at (n + x)) := by
  simp [ixRange, List.range_add]

/-- Positional pairs, then the surplus of one side, then that of the other (in either order): the side whose surplus
    is kept indexes `0 … len - 1` in order. -/
theorem posSeg_idx {σ : Type} (keep : σ → Bool) (ix : σ → Ix) (A K D : Nat → σ) (n x y len : Nat) (l : List σ)
    (h : l = (List.range n).map A ++ (List.range x).map K ++ (List.range y).map D ∨
      l = (List.range n).map A ++ (List.range y).map D ++ (List.range x).map K)
    (hA : ∀ k, keep (A k) = true ∧ ix (A k) = .at k) (hK : ∀ k, keep (K k) = true ∧ ix (K k) = .at (n + k))
    (hD : ∀ k, keep (D k) = false) (hl : len = n + x) : (l.filter keep).map ix = ixRange len := by
  subst hl
  rcases h with rfl | rfl <;>
    simp only [List.filter_append, List.map_append, filter_map_map_all _ A keep ix _ fun k _ => hA k,
      filter_map_map_all _ K keep ix _ fun k _ => hK k, filter_map_map_none _ D keep ix fun k _ => hD k,
      List.append_nil, ixRange_add] <;> rfl

theorem fixedScript_idx (r : Ix → Ix) (fcs tcs : List Tree) (tbl : List (List Script)) (hT : TblTop tbl) :
    fromIdx (fixedScript fcs tcs tbl).subs = ixRange fcs.length ∧
    toIdx r (fixedScript fcs tcs tbl).subs = ixRange tcs.length := by
  have h1 : fcs.length.min tcs.length ≤ fcs.length := Nat.min_le_left ..
  have h2 : fcs.length.min tcs.length ≤ tcs.length := Nat.min_le_right ..
  have hp := fun i => Kind.isTop_ne (hT i i)
  constructor
  · exact posSeg_idx _ _ _ _ _ _ _ _ _ _ (.inl rfl) (fun i => ⟨bne_iff_ne.2 (hp i).1, rfl⟩) (fun _ => ⟨rfl, rfl⟩)
      (fun _ => rfl) (by omega)
  · exact posSeg_idx _ (toIxOf r) _ _ _ _ _ _ _ _ (.inr rfl)
      (fun i => ⟨bne_iff_ne.2 (hp i).2.1, toIxOf_relabel_at _ _ _ _ (hp i).1⟩) (fun _ => ⟨rfl, rfl⟩) (fun _ => rfl)
      (by omega)

theorem solve_side_at (sd : Side) (rem ins : List Nat) (cells : List (List Nat)) (p : Nat) :
    ((located (solve rem ins cells).2).filter (fun x => x.1 != sd.skip)).map (fun x => Ix.at (sd.pos x.2 + p))
      = (List.range (sd.pos (ins.length, rem.length))).map (fun k => Ix.at (k + p)) := by
  have := (zip_positions_side sd (solve rem ins cells).2 0 0).2
  rw [solve_endPos, show sd.pos (0, 0) = 0 by cases sd <;> rfl, Nat.sub_zero, ← List.range_eq_range'] at this
  rw [← this, List.map_map]; rfl

theorem ixRange_three (p n s len : Nat) (h : len = p + n + s) :
    (List.range p).map Ix.at ++ (List.range n).map (fun k => Ix.at (k + p)) ++
      (List.range s).map (fun k => Ix.at (len - s + k)) = ixRange len := by
  subst h
  simp only [ixRange, List.range_add, List.map_append, List.map_map]
  congr 1
  · congr 1
    apply List.map_congr_left; intro k _; simp [Nat.add_comm]
  · apply List.map_congr_left; intro k _; simp

/-- One side of a script in three segments (`threeSeg_sum`) indexes the whole range `0 … len - 1` in order, if the
    matches of prefix and suffix carry their own positions, and the edit of a move carries the move's position exactly
    when the move consumes an element of that side. -/
theorem threeSeg_idx {σ : Type} (sd : Side) (keep : σ → Bool) (ix : σ → Ix) (A B : Nat → σ) (g : Move × Nat × Nat → σ)
    (p s len : Nat) (rem ins : List Nat) (cells : List (List Nat))
    (hA : ∀ k, keep (A k) = true ∧ ix (A k) = .at k)
    (hB : ∀ k, keep (B k) = true ∧ ix (B k) = .at (len - s + k))
    (hg : ∀ x ∈ located (solve rem ins cells).2,
      keep (g x) = (x.1 != sd.skip) ∧ ((x.1 != sd.skip) = true → ix (g x) = .at (sd.pos x.2 + p)))
    (hl : len = p + sd.pos (ins.length, rem.length) + s) :
    (((List.range p).map A ++ (located (solve rem ins cells).2).map g ++ (List.range s).map B).filter keep).map ix
      = ixRange len := by
  rw [List.filter_append, List.filter_append, List.map_append, List.map_append,
    filter_map_map_all _ A keep ix _ fun k _ => hA k, filter_map_map_all _ B keep ix _ fun k _ => hB k,
    filter_map_map _ g keep ix _ _ hg, solve_side_at]
  exact ixRange_three _ _ _ _ hl

theorem edScript_idx (r : Ix → Ix) (fcs tcs : List Tree) (pen : Nat) (tbl : List (List Script)) (hT : TblTop tbl) :
    fromIdx (edScript fcs tcs pen tbl).subs = ixRange fcs.length ∧
    toIdx r (edScript fcs tcs pen tbl).subs = ixRange tcs.length := by
  have hl := trimLens_le fcs tcs
  have hmf := middle_length fcs (trimLens fcs tcs)
  have hmt := middle_length tcs (trimLens fcs tcs)
  constructor
  · refine threeSeg_idx .frm _ _ _ _ _ _ _ _ _ _ _ (fun _ => ⟨rfl, rfl⟩) (fun _ => ⟨rfl, rfl⟩) ?_
      (by simp only [Side.pos, List.length_map]; omega)
    rintro ⟨m, rr, c⟩ _
    have := Kind.isTop_ne (hT (c + (trimLens fcs tcs).1) (rr + (trimLens fcs tcs).1))
    cases m <;> simp [Side.skip, Side.pos, bne_iff_ne.2 this.1] <;> decide
  · refine threeSeg_idx .to _ (toIxOf r) _ _ _ _ _ _ _ _ _ (fun _ => ⟨rfl, rfl⟩) (fun _ => ⟨rfl, rfl⟩) ?_
      (by simp only [Side.pos, List.length_map]; omega)
    rintro ⟨m, rr, c⟩ _
    have := Kind.isTop_ne (hT (c + (trimLens fcs tcs).1) (rr + (trimLens fcs tcs).1))
    cases m <;> simp [Side.skip, Side.pos, bne_iff_ne.2 this.2.1, this.1, toIxOf] <;> decide

theorem strSubs_idx (r : Ix → Ix) (a b : Str) :
    fromIdx (strSubs a b).1 = ixRange a.length ∧ toIdx r (strSubs a b).1 = ixRange b.length := by
  have hl := trimLens_le a b
  have hmf := middle_length a (trimLens a b)
  have hmt := middle_length b (trimLens a b)
  constructor
  · refine threeSeg_idx .frm _ _ _ _ _ _ _ _ _ _ _ (fun _ => ⟨rfl, rfl⟩) (fun _ => ⟨rfl, rfl⟩) ?_
      (by simp only [Side.pos, ones, List.length_map]; omega)
    rintro ⟨m, rr, c⟩ _
    cases m <;> simp [Side.skip, Side.pos] <;> decide
  · refine threeSeg_idx .to _ (toIxOf r) _ _ _ _ _ _ _ _ _ (fun _ => ⟨rfl, rfl⟩) (fun _ => ⟨rfl, rfl⟩) ?_
      (by simp only [Side.pos, ones, List.length_map]; omega)
    rintro ⟨m, rr, c⟩ _
    cases m <;> simp [Side.skip, Side.pos, toIxOf] <;> decide

theorem two_idx (r : Ix → Ix) (ke ve : Script) (h1 : ke.kind.isTop = true) (h2 : ve.kind.isTop = true) :
    fromIdx [ke.relabel (.at 0) (.at 0), ve.relabel (.at 1) (.at 1)] = ixRange 2 ∧
    toIdx r [ke.relabel (.at 0) (.at 0), ve.relabel (.at 1) (.at 1)] = ixRange 2 := by
  have h1' := Kind.isTop_ne h1
  have h2' := Kind.isTop_ne h2
  simp [fromIdx, toIdx, toIxOf, bne_iff_ne.2 h1'.1, bne_iff_ne.2 h1'.2.1,
    bne_iff_ne.2 h2'.1, bne_iff_ne.2 h2'.2.1, h1'.1, h2'.1, ixRange, List.range_succ]

theorem kvpScript_idx (r : Ix → Ix) (fk tk : Str) (ve : Bool) (v : Script) (hv : v.kind.isTop = true) :
    fromIdx (kvpScript fk tk ve v).subs = ixRange 2 ∧ toIdx r (kvpScript fk tk ve v).subs = ixRange 2 := by
  have h1 : (if fk == tk then mkMatch 0 else strEdits fk tk).kind.isTop = true := by
    split
    · rfl
    · exact strEdits_kind_top _ _
  have h2 : (if ve then mkMatch 0 else v).kind.isTop = true := by
    split
    · rfl
    · exact hv
  exact two_idx r _ _ h1 h2

end GtModel
