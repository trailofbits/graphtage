/-
  MultiSetEdit: forcing the matching as `edits()` does, `on_diff`, the script dump and its ghost script (what the
  engine needs beyond `bounds()` / `tighten_bounds()` of LazyMs).
-/
import GtModel.Proofs.LazyMs

namespace GtModel.Lazy

section
variable {rec : Ops} {g : Ghost} {s : MsSt} {kvps kvps' : List M} {w w' : WmSt} {edges e e' : List (List M)}

theorem onPairs_ok (h : Protocol rec g) {nf nt : Nat} : ∀ (pairs : List (Nat × Nat)) (edges : List (List M)),
    MShape edges nf nt → (∀ row ∈ edges, ∀ m ∈ row, g.I m) → (∀ p ∈ pairs, p.1 < nf ∧ p.2 < nt) →
    ∃ e', onPairs rec.onDiff edges pairs = .ok e' ∧ KeepsLL g edges e'
  | [], edges, _, hI, _ => ⟨edges, rfl, KeepsLL.refl edges hI⟩
  | (i, j) :: rest, edges, sh, hI, hr => by
      obtain ⟨hij, hrest⟩ := List.forall_mem_cons.mp hr
      refine Ret.bind (mget_ret sh hI hij.1 hij.2) fun m ⟨hm, hIm, _⟩ => ?_
      refine Ret.bind (h.onDiff m hIm) fun m1 k1 => ?_
      refine Ret.bind (mset_ret hI hm k1) fun t' ⟨kk, _, _⟩ => ?_
      exact Ret.mono (onPairs_ok h rest t' (kk.shape sh) kk.inv hrest) fun _ kk' => kk.trans kk'

theorem dumpPairs_ok (h : Protocol rec g) {nf nt : Nat} : ∀ (pairs : List (Nat × Nat)) (edges : List (List M)),
    MShape edges nf nt → (∀ row ∈ edges, ∀ m ∈ row, g.I m) → (∀ p ∈ pairs, p.1 < nf ∧ p.2 < nt) →
    (∀ p ∈ pairs, (ivAt (viewM g edges) p).Single) →
    ∃ e', dumpPairs rec edges pairs = .ok (e', pairs.map (scrAt (scrM g edges))) ∧ KeepsLL g edges e'
  | [], edges, _, hI, _, _ => ⟨edges, rfl, KeepsLL.refl edges hI⟩
  | (i, j) :: rest, edges, sh, hI, hr, hd => by
      obtain ⟨hij, hrest⟩ := List.forall_mem_cons.mp hr
      obtain ⟨hdij, hd'⟩ := List.forall_mem_cons.mp hd
      refine Ret.exv (Ret.bind (mget_ret sh hI hij.1 hij.2) fun m ⟨hm, hIm, _⟩ => ?_)
      refine Ret.bindv (h.dump m hIm (ivAt_mget (p := (i, j)) hm ▸ hdij)) fun m1 k1 => ?_
      refine Ret.bind (mset_ret hI hm k1) fun t' ⟨kk, _, _⟩ => ?_
      refine Ret.bindv (dumpPairs_ok h rest t' (kk.shape sh) kk.inv hrest
        fun p hp => kk.def_at h (kk.shape sh) kk.inv (hrest p hp) (hd' p hp)) fun e' kk' => ?_
      refine Ret.pure ⟨?_, kk.trans kk'⟩
      rw [show scrM g t' = scrM g edges from kk.scripts, List.map_cons,
        show scrAt (scrM g edges) (i, j) = g.script m from scrM_get hm]

theorem msView_def_parts (h : Protocol rec g)
    (inv : MsInv g s kvps w edges) (hd : (msViewOf g s kvps w edges).Single) :
    (wmViewV w (viewM g edges)).Single ∧ sumLo g kvps = sumHi g kvps := by
  have h1 := wmView_wf h inv.wm
  have h2 : (sumIv g kvps).lo ≤ sumFin g kvps ∧ _ := sum_wf h kvps inv.kI
  have h12 := iv_add_mem h1 h2
  have h3 := inv.leftIv_wf
  rw [msView_add] at hd
  exact iv_def_of_add (Nat.le_trans h1.1 h1.2) (Nat.le_trans h2.1 h2.2)
    (iv_def_of_add (Nat.le_trans h12.1 h12.2) (Nat.le_trans h3.1 h3.2) hd).1

def msScriptOf (g : Ghost) (l : Lbl) (s : MsSt) (kvps : List M) (w : WmSt) (edges : List (List M)) : DScript :=
  .mk l.kind l.fi l.ti (Iv.point (msFinOf g s kvps w edges))
    (s.nMatch.map DScript.ofScript ++ kvps.map g.script ++ w.assign.map (scrAt (scrM g edges))
      ++ ((unmatched w.nf (w.assign.map (·.1))).map fun a =>
          DScript.mk .remove (.at (s.remIdx.getD a 0)) .none (Iv.point (s.remCosts.getD a 0)) [])
      ++ ((unmatched w.nt (w.assign.map (·.2))).map fun a =>
          DScript.mk .insert (.at (s.insIdx.getD a 0)) .none (Iv.point (s.insCosts.getD a 0)) []))

def msMuOf (g : Ghost) (s : MsSt) (kvps : List M) (w : WmSt) (edges : List (List M)) : Nat :=
  msBase g kvps w edges + ((msViewOf g s kvps w edges).hi - (msViewOf g s kvps w edges).lo)

theorem MsKeeps.fin
    (k : MsKeeps g s kvps w e kvps' w' e') : msFinOf g s kvps' w' e' = msFinOf g s kvps w e := by
  simp only [msFinOf, wmFin, k.assign, k.kl.finM, k.agg.fin, extraOf, k.nf, k.nt]

theorem MsKeeps.scr (l : Lbl)
    (k : MsKeeps g s kvps w e kvps' w' e') : msScriptOf g l s kvps' w' e' = msScriptOf g l s kvps w e := by
  have hs : scrM g e' = scrM g e := k.kl.scripts
  simp only [msScriptOf, k.fin, k.assign, k.agg.scr, hs, k.nf, k.nt]

theorem MsKeeps.mu
    (k : MsKeeps g s kvps w e kvps' w' e') : msMuOf g s kvps' w' e' ≤ msMuOf g s kvps w e :=
  Nat.add_le_add k.base (Nat.le_trans (Nat.sub_le_sub_right k.sub.2 _) (Nat.sub_le_sub_left k.sub.1 _))

/-- forcing the matching (as `edits()` does) -/
theorem msForce_ok (h : Protocol rec g) (inv : WmInv g w edges) :
    ∃ w' e', msForce rec w edges = .ok (w', e', w.assign) ∧ WmKeeps g w edges w' e' ∧ w'.mtch = some w.assign := by
  refine Ret.ex₂v (Ret.bind₂ (wmMatching_keeps h inv) fun w1 e1 ⟨wk, c4, _⟩ => ?_)
  exact Ret.pure ⟨by simp [c4], wk, c4⟩

/-- `on_diff` of a MultiSetEdit -/
theorem msOnDiff_ok (h : Protocol rec g) (q : Bool) (n : Nat) (l : Lbl) (inv : MsInv g s kvps w edges) :
    ∃ kvps' w' e', onDiffB rec q n (.ms l s kvps w edges) = .ok (.ms l s kvps' w' e') ∧
      MsKeeps g s kvps w edges kvps' w' e' := by
  obtain ⟨k1, hk, ag⟩ := mapOnDiff_ok h kvps inv.kI
  obtain ⟨w1, e1, hf, wk1, _⟩ := msForce_ok h inv.wm
  obtain ⟨e2, ho, k2⟩ := onPairs_ok h w.assign e1 wk1.inv.shape wk1.inv.edgesI (wk1.assign ▸ wk1.inv.ok.inRange)
  exact ⟨k1, w1, e2, bind_of_eq hk (bind_of_eq hf (bind_of_eq ho rfl)),
    MsKeeps.ofWm inv ag (wk1.trans (WmKeeps.ofEdges h wk1.inv k2))⟩

theorem msDump_ok (h : Protocol rec g) (q : Bool) (n : Nat) (l : Lbl) (inv : MsInv g s kvps w edges)
    (hd : (msViewOf g s kvps w edges).lo = (msViewOf g s kvps w edges).hi) :
    ∃ kvps' w' e', dumpB (fun x => boundsB rec n x) rec q n (.ms l s kvps w edges)
        = .ok (.ms l s kvps' w' e', msScriptOf g l s kvps w edges) ∧ MsKeeps g s kvps w edges kvps' w' e' := by
  obtain ⟨hwd, hkd⟩ := msView_def_parts h inv hd
  obtain ⟨k1, hk, ag, _, _⟩ := dumpList_ok h kvps inv.kI (all_definitive h kvps inv.kI hkd)
  obtain ⟨w1, e1, hf, wk1, _⟩ := msForce_ok h inv.wm
  have hwf1 := wmView_wf h wk1.inv
  have hedef := wm_def_edges h wk1.inv (iv_def_of_sub wk1.sub (Nat.le_trans hwf1.1 hwf1.2) hwd)
  rw [wk1.assign] at hedef
  obtain ⟨e2, hdp, k2⟩ := dumpPairs_ok h w.assign e1 wk1.inv.shape wk1.inv.edgesI
    (wk1.assign ▸ wk1.inv.ok.inRange) hedef
  have mk2 := MsKeeps.ofWm inv ag (wk1.trans (WmKeeps.ofEdges h wk1.inv k2))
  obtain ⟨k3, w3, e3, hb, _, _, mk3, _⟩ := msBounds_keeps h l mk2.inv
  refine ⟨k3, w3, e3, ?_, mk2.trans mk3⟩
  -- the dumped interval is the final cost
  have hwf2 := msView_wf h mk2.inv
  have hpt : msViewOf g s k1 w1 e2 = Iv.point (msFinOf g s kvps w edges) :=
    iv_point_of (mk2.fin ▸ hwf2.1) (mk2.fin ▸ hwf2.2) (iv_def_of_sub mk2.sub (Nat.le_trans hwf2.1 hwf2.2) hd)
  have hscr1 : scrM g e1 = scrM g edges := wk1.kl.scripts
  refine bind_of_eq hk (bind_of_eq hf (bind_of_eq hdp (bind_of_eq hb ?_)))
  simp only [pure_eq_ok, hpt, msScriptOf, wk1.nf, wk1.nt, hscr1]

/-- `edits()` at the root: the class names of the sub-edits -/
theorem msEdits_ok (h : Protocol rec g) (q : Bool) (n : Nat) (l : Lbl) (inv : MsInv g s kvps w edges) :
    ∃ w' e' names, editsOp rec q n (.ms l s kvps w edges) = .ok (.ms l s kvps w' e', names) ∧
      MsKeeps g s kvps w edges kvps w' e' := by
  obtain ⟨w1, e1, hf, wk1, _⟩ := msForce_ok h inv.wm
  have key : ∀ (pairs : List (Nat × Nat)), (∀ p ∈ pairs, p.1 < w1.nf ∧ p.2 < w1.nt) →
      ∃ ns, pairs.mapM (edgeName e1) = (.ok ns : R (List String)) := by
    intro pairs
    induction pairs with
    | nil => intro _; exact ⟨[], rfl⟩
    | cons p ps ih =>
      intro hr
      obtain ⟨hij, hrest⟩ := List.forall_mem_cons.mp hr
      obtain ⟨m, hm⟩ := mget_ok wk1.inv.shape hij.1 hij.2
      obtain ⟨ns, hns⟩ := ih hrest
      exact ⟨className m :: ns, by simp [List.mapM_cons, edgeName, hm, hns]⟩
  obtain ⟨ns, hns⟩ := key w.assign (wk1.assign ▸ wk1.inv.ok.inRange)
  exact ⟨w1, e1, _, bind_of_eq hf (bind_of_eq hns rfl), MsKeeps.ofWm inv (Agg.refl kvps inv.kI) wk1⟩

end

end GtModel.Lazy
