/-
  C10 for XML / HTML: what the two list options do to the edit over the children of an element, at every nesting
  level of elements.  `XWalk P a b s`: `P` holds of the root of `s` and the node pair (a, b) it relates, and of every
  XML sub-edit with sub-edits (`XMLElementEdit`, the two list edits over `XMLElementChildren`) and the children its
  indices name — the XML analogue of `Walk` (Proofs/EditsWalk.lean).  The embedded L2 scripts (tag, attribute mapping,
  text) are not walked: for elements built by `xbuild` those trees are strings and a mapping of strings, they contain no
  list; for an arbitrary attribute tree use Props/C10 on it.
-/
import GtModel.Proofs.XmlAccounts
import GtModel.Proofs.EditsOptions
namespace GtModel.Xml
open GtModel

attribute [-simp] List.getD_eq_getElem?_getD

def XScript.role (s : XScript) : Role :=
  if s.isInsert then .ins else if s.isRemove then .rem else .pair

/-- what C10 looks at in a sub-edit: pair / remove / insert and the two indices -/
def XScript.shape (s : XScript) : Role × Ix × Ix := (s.role, s.fi, s.ti)

def XScript.xlinked : XScript → Bool
  | .emb _ => false
  | .mk k _ _ _ _ => k.hasSubs

def XScript.holds (P : XNd → XNd → XKind → List XScript → Prop) (a b : XNd) : XScript → Prop
  | .emb _ => True
  | .mk k _ _ _ subs => P a b k subs

mutual
def XWalk (P : XNd → XNd → XKind → List XScript → Prop) : XNd → XNd → XScript → Prop
  | _, _, .emb _ => True
  | a, b, .mk k _ _ _ subs => P a b k subs ∧ XWalkL P a b subs
def XWalkL (P : XNd → XNd → XKind → List XScript → Prop) : XNd → XNd → List XScript → Prop
  | _, _, [] => True
  | a, b, s :: rest =>
      (s.xlinked = true → ∃ i j x y, s.fi = .at i ∧ xtoIxOf s = .at j ∧
          a.children[i]? = some x ∧ b.children[j]? = some y ∧ XWalk P x y s)
        ∧ XWalkL P a b rest
end

variable {P : XNd → XNd → XKind → List XScript → Prop}

theorem xwalk_iff (a b : XNd) (s : XScript) : XWalk P a b s ↔ s.holds P a b ∧ XWalkL P a b s.subs := by
  cases s <;> simp [XWalk, XScript.holds, XWalkL]

theorem xwalkL_iff (a b : XNd) (l : List XScript) : XWalkL P a b l ↔ ∀ s ∈ l, s.xlinked = true →
    ∃ i j x y, s.fi = .at i ∧ xtoIxOf s = .at j ∧
      a.children[i]? = some x ∧ b.children[j]? = some y ∧ XWalk P x y s := by
  induction l with
  | nil => exact ⟨fun _ _ h => (nomatch h), fun _ => trivial⟩
  | cons s l ih => rw [List.forall_mem_cons, ← ih]; exact Iff.rfl

theorem xwalk_relabel (a b : XNd) (s : XScript) (f t : Ix) : XWalk P a b (s.relabel f t) ↔ XWalk P a b s := by
  cases s <;> simp [XWalk]

theorem XScript.Flat.xlinked : ∀ {s : XScript}, s.Flat → s.xlinked = false
  | .mk _ _ _ _ _, h => h.1

@[simp] theorem XScript.relabel_xlinked (s : XScript) (f t : Ix) : (s.relabel f t).xlinked = s.xlinked := by
  cases s <;> rfl

theorem xwalk_xMatch (a b : XNd) (c : Nat) (h : P a b .match_ []) : XWalk P a b (xMatch c) := by
  simp [xMatch, XWalk, XWalkL, h]

section
variable (o : Opts) (orc : Oracle)
variable (hE : ∀ fp tp f t, (xmlEdits o orc fp tp f t).holds P (.elem f) (.elem t))
variable (hK : ∀ fp tp kf kt fcs tcs,
    (kidsScript o fcs tcs (kidsTbl o orc fp tp kf kt fcs tcs)).holds P (.kids fcs) (.kids tcs))
include hK

theorem xwalk_kidsScript (fp tp : List Nat) (kf kt : Nat) (fcs tcs : List XTree)
    (ih : ∀ i j (hi : i < fcs.length) (hj : j < tcs.length),
      XWalk P (.elem fcs[i]) (.elem tcs[j]) (xmlEdits o orc (fp ++ [kf, i]) (tp ++ [kt, j]) fcs[i] tcs[j])) :
    XWalk P (.kids fcs) (.kids tcs) (kidsScript o fcs tcs (kidsTbl o orc fp tp kf kt fcs tcs)) := by
  rw [xwalk_iff, xwalkL_iff]
  refine ⟨hK fp tp kf kt fcs tcs, fun s hs hsub => ?_⟩
  rcases (xsubForm_kidsScript hs).link with hflat | ⟨i, j, hi, hj, h1, h2, h3, h4, rfl⟩
  · rw [hflat.xlinked] at hsub; cases hsub
  · exact ⟨i, j, _, _, h1, h2, h3, h4, (xwalk_relabel ..).2 (ih i j hi hj)⟩

include hE

/-- to prove `XWalk P` for `xmlEdits …` it suffices to prove `P` for element pairs and for child-tuple pairs -/
theorem xwalk_xmlEdits (f : XTree) : ∀ (fp tp : List Nat) (t : XTree),
    XWalk P (.elem f) (.elem t) (xmlEdits o orc fp tp f t) := by
  induction f using XTree.ind with
  | mk ftag fattr ftext fcs ih =>
    intro fp tp t
    obtain ⟨ttag, tattr, ttext, tcs⟩ := t
    rw [xwalk_iff]
    refine ⟨hE fp tp _ _, ?_⟩
    rw [xmlEdits_eq]
    split
    · simp [XWalkL]
    · have hkids := xwalk_kidsScript o orc hK fp tp (kidsIx ftext) (kidsIx ttext) fcs tcs
        (fun i j hi hj => ih _ (List.getElem_mem hi) _ _ _)
      have hktop := kidsScript_top o fcs tcs (kidsTbl o orc fp tp (kidsIx ftext) (kidsIx ttext) fcs tcs)
      generalize kidsScript o fcs tcs (kidsTbl o orc fp tp (kidsIx ftext) (kidsIx ttext) fcs tcs) = kidsE at hkids hktop
      refine (xwalkL_iff ..).2 fun s hs hlinked => ?_
      rcases mem_elemScript hs with rfl | rfl | ⟨e, _, rfl⟩ | rfl
      · cases hlinked
      · cases hlinked
      · cases hlinked
      · exact ⟨kidsIx ftext, kidsIx ttext, _, _, by simp, xtoIxOf_relabel_at _ _ _ (XScript.isTop_iff.1 hktop).1,
          XNd.children_kidsIx .., XNd.children_kidsIx .., (xwalk_relabel ..).2 hkids⟩

end

theorem kidsFixed_shape (fcs tcs : List XTree) (tbl : List (List XScript)) (hT : XTblTop tbl) :
    (kidsFixed fcs tcs tbl).subs.map XScript.shape = positionalShape fcs.length tcs.length := by
  simp only [kidsFixed, xCompound_subs, positionalShape, List.map_append, List.map_map]
  congr 1
  · congr 1
    apply List.map_congr_left
    intro i _
    have := XScript.isTop_iff.1 (hT i i)
    simp [XScript.shape, XScript.role, this.1, this.2]

def XLocalPos (cond : Nat → Nat → Prop) (a b : XNd) (k : XKind) (subs : List XScript) : Prop :=
  ∀ fcs tcs, a = .kids fcs → b = .kids tcs → k ≠ .match_ → cond fcs.length tcs.length →
    k = .fixed ∧ subs.map XScript.shape = positionalShape fcs.length tcs.length

/-- the edit-class selection of `ListNode.edits` on child tuples -/
theorem kidsScript_eq_kidsFixed (o : Opts) (fcs tcs : List XTree) (tbl : List (List XScript))
    (hne : xeqL fcs tcs = false)
    (hc : (!o.ale || (fcs.length == tcs.length && (!o.alesl || fcs.length == 1))) = true) :
    kidsScript o fcs tcs tbl = kidsFixed fcs tcs tbl := by
  unfold kidsScript
  rw [if_neg (by simp [hne]), if_pos hc]

theorem xlocalPos_kidsScript (o : Opts) (cond : Nat → Nat → Prop)
    (hc : ∀ n m, cond n m → (!o.ale || (n == m && (!o.alesl || n == 1))) = true)
    (fcs tcs : List XTree) (tbl : List (List XScript)) (hT : XTblTop tbl) :
    (kidsScript o fcs tcs tbl).holds (XLocalPos cond) (.kids fcs) (.kids tcs) := by
  unfold kidsScript
  split
  · intro _ _ _ _ hk; exact absurd rfl hk
  · split
    · intro _ _ ha hb _ _
      cases ha; cases hb
      exact ⟨rfl, kidsFixed_shape fcs tcs tbl hT⟩
    · rename_i h
      intro _ _ ha hb _ hcd
      cases ha; cases hb
      exact absurd (hc _ _ hcd) h

theorem xlocalPos_xmlEdits (o : Opts) (orc : Oracle) (cond : Nat → Nat → Prop) (fp tp : List Nat) (f t : XTree) :
    (xmlEdits o orc fp tp f t).holds (XLocalPos cond) (.elem f) (.elem t) := by
  obtain ⟨ftag, fattr, ftext, fcs⟩ := f
  obtain ⟨ttag, tattr, ttext, tcs⟩ := t
  rw [xmlEdits_eq]
  split
  · simp only [xMatch, XScript.holds]; intro _ _ ha; cases ha
  · simp only [elemScript, xCompound, XScript.holds]; intro _ _ ha; cases ha

theorem xwalk_pos (o : Opts) (cond : Nat → Nat → Prop)
    (hc : ∀ n m, cond n m → (!o.ale || (n == m && (!o.alesl || n == 1))) = true)
    (orc : Oracle) (fp tp : List Nat) (f t : XTree) :
    XWalk (XLocalPos cond) (.elem f) (.elem t) (xmlEdits o orc fp tp f t) :=
  xwalk_xmlEdits o orc (fun fp tp f t => xlocalPos_xmlEdits o orc cond fp tp f t)
    (fun fp tp kf kt fcs tcs => xlocalPos_kidsScript o cond hc fcs tcs _ (kidsTbl_top o orc fp tp kf kt fcs tcs))
    f fp tp t

end GtModel.Xml
