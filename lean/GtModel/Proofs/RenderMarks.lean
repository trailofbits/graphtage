/-
  Change marks: an edit of positive cost renders at least one marked character (`positive_cost_shows`).  The cost-0
  direction of `C06.marks_iff` is in Props/C06 (`cost_zero_iff_match` of Proofs/ZeroMain, `no_marks_of_zero_cost_leaf`).
-/
import GtModel.Proofs.RenderEdits

namespace GtModel.Render
open GtModel

def hasMark (r : Out) : Bool := r.any fun p => p.2 != .plain

theorem hasMark_append (a b : Out) : hasMark (a ++ b) = (hasMark a || hasMark b) := by simp [hasMark]
theorem hasMark_cons (p : Nat × Mark) (r : Out) : hasMark (p :: r) = (p.2 != .plain || hasMark r) := by
  simp [hasMark]
theorem hasMark_nil : hasMark [] = false := rfl

theorem hasMark_mk (m : Mark) (s : Str) : hasMark (mk m s) = (m != .plain && !s.isEmpty) := by
  cases s with
  | nil => simp [hasMark, mk]
  | cons c s =>
    by_cases h : m = .plain
    · subst h; simp [hasMark, mk]
    · simp [hasMark, mk, h]

theorem hasMark_plain (x : Item) : hasMark (x.plain .plain) = false := by
  simp [Item.plain, hasMark_mk]

theorem hasMark_arrow : hasMark arrowOut = true := by decide

theorem natDigits_ne_nil (n : Nat) : natDigits n ≠ [] := by
  simp [natDigits_eq, Nat.toDigits_ne_nil]

theorem scalarText_ne_nil (s : Scalar) (h : Scalar.litOK s = true) : scalarText s ≠ [] := by
  cases s with
  | null => decide
  | bool b => cases b <;> decide
  | int i =>
    simp only [scalarText, intStr]
    split
    · simp
    · exact natDigits_ne_nil _
  | float r =>
    simp only [Scalar.litOK, Bool.and_eq_true, Bool.not_eq_true', List.isEmpty_eq_false_iff] at h
    simpa [scalarText] using h.2
  | str s => simp [scalarText, quote]

theorem text_ne_nil (x : Item) (h : x.litOK = true) : x.text ≠ [] := by
  cases x with
  | tree t =>
    cases t with
    | leaf s => exact scalarText_ne_nil s (by simpa [Item.litOK, litOK] using h)
    | list cs => simp [Item.text, jsonText]
    | dict kvs => simp [Item.text, jsonText]
    | fdict kvs => simp [Item.text, jsonText]
  | kv k v => simp [Item.text, quote]

theorem hasMark_plain_marked (x : Item) (h : x.litOK = true) (m : Mark) (hm : m ≠ .plain) :
    hasMark (x.plain m) = true := by
  have := text_ne_nil x h
  simp [Item.plain, hasMark_mk, hm, this]

theorem escChar_ne_nil (c : Nat) : escChar c ≠ [] :=
  escChar_cases (P := (· ≠ [])) c (fun _ => by simp) (fun _ _ => by simp) (fun _ => by simp [hex4])
    (fun _ _ => by simp [hex4])

/-- something removed or inserted is buffered or already written -/
def stMarked (st : StrSt) : Bool := hasMark st.out || !st.remSeq.isEmpty || !st.addSeq.isEmpty

theorem hasMark_flushSt (st : StrSt) : hasMark (flushSt st) = stMarked st := by
  have h1 : ∀ s : Str, (escStr s).isEmpty = s.isEmpty := by
    intro s
    cases s with
    | nil => rfl
    | cons c s => simp [escStr, escChar_ne_nil c]
  have e1 : (Mark.removed != Mark.plain) = true := by decide
  have e2 : (Mark.inserted != Mark.plain) = true := by decide
  simp [flushSt, hasMark_append, hasMark_mk, stMarked, h1, e1, e2, Bool.or_assoc]

def CharEd.isKeep : CharEd → Bool
  | .keep _ => true
  | _ => false

theorem stMarked_foldl (es : List CharEd) (st : StrSt) :
    stMarked (es.foldl strStepC st) = (stMarked st || es.any fun e => !e.isKeep) := by
  induction es generalizing st with
  | nil => simp
  | cons e es ih =>
    rw [List.foldl_cons, ih, List.any_cons, ← Bool.or_assoc]
    congr 1
    cases e <;> simp [strStepC, stMarked, hasMark_append, hasMark_flushSt, hasMark_mk, CharEd.isKeep]

theorem hasMark_strOut (a b : Str) (subs : List Script) (h : StrOK a b subs) : hasMark (strOut a b subs) = true := by
  obtain ⟨hres, hf, ht, hne⟩ := h
  -- were every sub-edit a kept character, both sides would keep the same characters
  have hex : ∃ e ∈ subs.filterMap (classifyChar a b), (!e.isKeep) = true := by
    apply Classical.byContradiction
    intro hno
    refine hne (hf.symm.trans (Eq.trans ?_ ht))
    rw [sideChars, sideChars, ← List.filterMap_filterMap, ← List.filterMap_filterMap]
    refine filterMap_congr' _ _ _ fun e he => ?_
    cases e with
    | keep c => rfl
    | _ => exact absurd ⟨_, he, rfl⟩ hno
  simp only [strOut, hasMark_cons, hasMark_append, strBody, foldl_strStep a b subs hres, hasMark_flushSt,
    stMarked_foldl, List.any_eq_true.2 hex]
  simp

theorem hasMark_renderSubs (fcs tcs : List Item) (subs : List Script) (s : Script) (hs : s ∈ subs) (x y : Item)
    (hres : resolve fcs tcs s = some (x, y)) (hm : hasMark (renderEdit true x y s) = true) :
    ∀ (tr ti : Nat) (first : Bool), hasMark (renderSubs fcs tcs tr ti first subs) = true := by
  induction subs with
  | nil => simp at hs
  | cons s' rest ih =>
    intro tr ti first
    rw [renderSubs_cons]
    simp only [List.mem_cons] at hs
    rcases hs with rfl | hs
    · simp [hasMark_append, hres, hm]
    · simp [hasMark_append, ih hs]

theorem sumCosts_pos {subs : List Script} (h : sumCosts subs > 0) : ∃ s ∈ subs, s.cost > 0 :=
  Classical.byContradiction fun hn => Nat.ne_of_gt h
    (sumCosts_eq_zero.2 fun s hs => Nat.eq_zero_of_not_pos fun hp => hn ⟨s, hs, hp⟩)

def ShowsMark (s : Script) : Prop :=
  ∀ x y : Item, x.litOK = true → y.litOK = true → WF x y s → s.CostOK → s.cost > 0 →
    hasMark (renderEdit true x y s) = true

theorem shows : ∀ s, ShowsMark s := by
  apply scriptInd
  intro k fi ti c subs ih x y hx hy hwf hcost hc
  simp only [Script.cost] at hc
  induction k using kindCases with
  | match_ => simp [renderEdit, hc, hasMark_append, hasMark_arrow]
  | replace => simp [renderEdit, hc, hasMark_append, hasMark_arrow]
  | remove => simpa [renderEdit] using hasMark_plain_marked x hx .removed (by decide)
  | insert => simpa [renderEdit] using hasMark_plain_marked x hx .inserted (by decide)
  | str =>
    simp only [WF] at hwf
    obtain ⟨a, b, rfl, rfl, hok⟩ := hwf
    simpa [renderEdit] using hasMark_strOut a b subs hok
  | kvp =>
    obtain ⟨fk, fv, tk, tv, ke, ve, rfl, rfl, rfl, hkey, hwv, _⟩ := wf_kvp hwf
    have hco := (Script.costOK_iff _).1 hcost
    simp only [Script.kind_mk, Kind.hasSubs, if_true, Script.cost_mk, Script.subs_mk, sumCosts_cons,
      sumCosts_nil, Nat.add_zero] at hco
    simp only [renderEdit, hasMark_append, hasMark_cons, Bool.or_eq_true]
    by_cases hke : ke.cost > 0
    · left
      obtain ⟨hkind, _, hstr⟩ := hkey
      cases ke with
      | mk kk kfi kti kc ksubs =>
        simp only [Script.kind, Script.cost, Script.subs] at hkind hke hstr ⊢
        rcases hkind with rfl | rfl
        · simp [hke, renderEdit, hasMark_append, hasMark_arrow]
        · simpa [hke, renderEdit] using hasMark_strOut fk tk ksubs (hstr rfl)
    · right; right
      have hve : ve.cost > 0 := by omega
      have := ih ve (by simp) (.tree fv) (.tree tv) hx hy hwv (hco.2 ve (by simp)) hve
      simpa [hve] using this
  | seq k hk =>
    -- a sub-edit of positive cost shows, and so does the loop around it
    obtain ⟨⟨o, cl, hbx, _, _⟩, hsubs⟩ := (wf_seq hk ..).1 hwf
    have hco := (Script.costOK_iff _).1 hcost
    have hsub : Kind.hasSubs k = true := by cases k <;> simp [isSeqKind] at hk <;> rfl
    simp only [Script.kind_mk, hsub, if_true, Script.cost_mk, Script.subs_mk] at hco
    obtain ⟨s, hs, hsc⟩ := sumCosts_pos (by rw [← hco.1]; exact hc)
    obtain ⟨a, b, hres, hwf⟩ := (wfSubs_iff _ _ _).1 hsubs s hs
    obtain ⟨ha, hb⟩ := resolve_forall (children_litOK x hx) (children_litOK y hy) hres
    have := ih s hs a b ha hb hwf (hco.2 s hs) hsc
    simp [renderEdit_seq hk, seqWrap, hbx, hasMark_cons, hasMark_append,
      hasMark_renderSubs _ _ subs s hs a b hres this 0 0 true]

theorem positive_cost_shows (o : Opts) (orc : Oracle) (fp tp : List Nat) (f t : Tree)
    (hf : f.KeysDistinct) (ht : t.KeysDistinct) (hlf : litOK f = true) (hlt : litOK t = true)
    (hc : (edits o orc fp tp f t).cost > 0) :
    hasMark (renderEdit true (.tree f) (.tree t) (edits o orc fp tp f t)) = true :=
  shows _ (.tree f) (.tree t) hlf hlt (wf_edits o orc f fp tp t hf ht) (costOK_edits o orc f fp tp t) hc

end GtModel.Render
