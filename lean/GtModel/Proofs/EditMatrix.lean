/-
  The greedy edit matrix (`GtModel.EditMatrix.solve`) through `spec`, the recurrence of `_add_node` / `_best_match` as
  a function of (r, c): `solve_eq_spec` ties the row fold to it, `spec_induction` is the way to prove something of
  every cell.  From `namespace GtModel` on (the names the script tower
  writes without `EditMatrix.`): positions and costs along the returned path (`located`), what `trimLens` trims
  (`trim_split`), and `Side` (one statement for the from- and the to-indices).
-/
import GtModel.Model.EditMatrix
import GtModel.Proofs.ListBasic

namespace GtModel.EditMatrix

/-- Cell (r, c) of the matrix, as a recursive function (exponential to evaluate; used in proofs only). -/
def spec (rem ins : List Nat) (cells : List (List Nat)) : Nat → Nat → Cell
  | 0, 0 => origin
  | 0, c + 1 => goLeft (spec rem ins cells 0 c) (rem.getD c 0)
  | r + 1, 0 => goUp (spec rem ins cells r 0) (ins.getD r 0)
  | r + 1, c + 1 =>
      step (ins.getD r 0) (rem.getD c 0) (cellAt cells r c)
        (spec rem ins cells r c) (spec rem ins cells (r + 1) c) (spec rem ins cells r (c + 1))
termination_by r c => (r, c)

def tabulateFrom (f : Nat → Cell) : Nat → Nat → List Cell
  | _, 0 => []
  | c, k + 1 => f c :: tabulateFrom f (c + 1) k

theorem tabulateFrom_length (f : Nat → Cell) (c k : Nat) : (tabulateFrom f c k).length = k := by
  induction k generalizing c with
  | zero => rfl
  | succ k ih => simp [tabulateFrom, ih]

theorem tabulateFrom_getLast (f : Nat → Cell) (c k : Nat) :
    (tabulateFrom f c (k + 1)).getLast? = some (f (c + k)) := by
  induction k generalizing c with
  | zero => simp [tabulateFrom]
  | succ k ih =>
    rw [tabulateFrom, List.getLast?_cons]
    rw [ih (c + 1)]
    simp; congr 1; omega

section Connect
variable (rem ins : List Nat) (cells : List (List Nat))

theorem row0Go_eq (rems : List Nat) (c : Nat) (h : rem.drop c = rems) :
    row0Go (spec rem ins cells 0 c) rems = tabulateFrom (spec rem ins cells 0) (c + 1) rems.length := by
  induction rems generalizing c with
  | nil => rfl
  | cons rm rems ih =>
    obtain ⟨rfl, h2⟩ := drop_eq_cons 0 h
    simp only [row0Go, List.length_cons, tabulateFrom, ← spec.eq_2, ih (c + 1) h2]

theorem row0_eq : row0 rem = tabulateFrom (spec rem ins cells 0) 0 (rem.length + 1) := by
  have := row0Go_eq rem ins cells rem 0 (by simp)
  rw [spec.eq_1] at this
  simp [row0, tabulateFrom, this, spec.eq_1]

theorem rowGo_eq (r : Nat) (rems : List Nat) (c : Nat) (h : rem.drop c = rems) :
    rowGo (ins.getD r 0) (spec rem ins cells (r + 1) c)
        (tabulateFrom (spec rem ins cells r) c (rems.length + 1)) rems ((cells.getD r []).drop c)
      = tabulateFrom (spec rem ins cells (r + 1)) (c + 1) rems.length := by
  induction rems generalizing c with
  | nil => simp [rowGo, tabulateFrom]
  | cons rm rems ih =>
    obtain ⟨rfl, h2⟩ := drop_eq_cons 0 h
    have e : spec rem ins cells (r + 1) (c + 1) = _ := spec.eq_4 rem ins cells r c
    unfold cellAt at e
    have ih' := ih (c + 1) h2
    simp only [tabulateFrom] at ih'
    simp only [List.length_cons, tabulateFrom, rowGo, headD_drop, List.tail_drop, ← e, ih']

theorem nextRow_eq (r : Nat) :
    nextRow rem (tabulateFrom (spec rem ins cells r) 0 (rem.length + 1)) (ins.getD r 0) (cells.getD r [])
      = tabulateFrom (spec rem ins cells (r + 1)) 0 (rem.length + 1) := by
  have := rowGo_eq rem ins cells r rem 0 rfl
  simp only [List.drop_zero, tabulateFrom, spec.eq_3] at this
  simp only [nextRow, tabulateFrom, spec.eq_3, this]

theorem finalRow_eq (inss : List Nat) (r : Nat) (h : ins.drop r = inss) :
    finalRow rem (tabulateFrom (spec rem ins cells r) 0 (rem.length + 1)) inss (cells.drop r)
      = tabulateFrom (spec rem ins cells (r + inss.length)) 0 (rem.length + 1) := by
  induction inss generalizing r with
  | nil => simp [finalRow]
  | cons i inss ih =>
    obtain ⟨h1, h2⟩ := drop_eq_cons 0 h
    simp only [finalRow, headD_drop, List.tail_drop, List.length_cons]
    rw [← h1, nextRow_eq, ih (r + 1) h2]
    congr 2; omega

theorem corner_eq_spec : corner rem ins cells = spec rem ins cells ins.length rem.length := by
  have := finalRow_eq rem ins cells ins 0 (by simp)
  simp only [List.drop_zero, Nat.zero_add] at this
  rw [← row0_eq] at this
  simp [corner, this, tabulateFrom_getLast]

theorem solve_eq_spec :
    solve rem ins cells = ((spec rem ins cells ins.length rem.length).cost,
                           (spec rem ins cells ins.length rem.length).script.reverse) := by
  simp [solve, corner_eq_spec]

end Connect

theorem step_cases (i rm x : Nat) (d l u : Cell) :
    (step i rm x d l u = goDiag d x ∧ x < i ∧ x < rm) ∨ step i rm x d l u = goUp u i
      ∨ step i rm x d l u = goLeft l rm := by
  unfold step
  split
  · rename_i h
    simp only [Bool.and_eq_true, decide_eq_true_eq] at h
    exact Or.inl ⟨rfl, h.1.2, h.2⟩
  · split
    · exact Or.inr (Or.inl rfl)
    · exact Or.inr (Or.inr rfl)

theorem lexLe_cp {a b a' b' : Cell} (ha : a.cost = a'.cost ∧ a.path = a'.path)
    (hb : b.cost = b'.cost ∧ b.path = b'.path) : lexLe a b = lexLe a' b' := by
  simp [lexLe, ha.1, ha.2, hb.1, hb.2]

theorem step_cp (i rm x : Nat) {d l u d' l' u' : Cell} (hd : d.cost = d'.cost ∧ d.path = d'.path)
    (hl : l.cost = l'.cost ∧ l.path = l'.path) (hu : u.cost = u'.cost ∧ u.path = u'.path) :
    (step i rm x d l u).cost = (step i rm x d' l' u').cost ∧ (step i rm x d l u).path = (step i rm x d' l' u').path ∧
    (step i rm x d l u).script.headD .left = (step i rm x d' l' u').script.headD .left := by
  unfold step
  rw [lexLe_cp hd hl, lexLe_cp hd hu, lexLe_cp hu hd]
  split
  · simp [goDiag, hd.1, hd.2]
  · split
    · simp [goUp, hu.1, hu.2]
    · simp [goLeft, hl.1, hl.2]

theorem step_x (i rm x x' : Nat) (d l u : Cell) (h : (lexLe d l && lexLe d u) = false) :
    step i rm x d l u = step i rm x' d l u := by
  unfold step
  simp [h]

theorem spec_induction (rem ins : List Nat) (cells : List (List Nat)) (Q : Nat → Nat → Cell → Prop)
    (h0 : Q 0 0 origin)
    (hl : ∀ r c p, Q r c p → Q r (c + 1) (goLeft p (rem.getD c 0)))
    (hu : ∀ r c p, Q r c p → Q (r + 1) c (goUp p (ins.getD r 0)))
    (hd : ∀ r c p, Q r c p → cellAt cells r c < ins.getD r 0 → cellAt cells r c < rem.getD c 0 →
        Q (r + 1) (c + 1) (goDiag p (cellAt cells r c)))
    (r c : Nat) : Q r c (spec rem ins cells r c) := by
  fun_induction spec rem ins cells r c with
  | case1 => exact h0
  | case2 c ih => exact hl _ _ _ ih
  | case3 r ih => exact hu _ _ _ ih
  | case4 r c ihd ihl ihu =>
    rcases step_cases (ins.getD r 0) (rem.getD c 0) (cellAt cells r c) (spec rem ins cells r c)
      (spec rem ins cells (r + 1) c) (spec rem ins cells r (c + 1)) with ⟨h, h1, h2⟩ | h | h
    · rw [h]; exact hd _ _ _ ihd h1 h2
    · rw [h]; exact hu _ _ _ ihu
    · rw [h]; exact hl _ _ _ ihl

def endPos : Nat → Nat → List Move → Nat × Nat
  | r, c, [] => (r, c)
  | r, c, mv :: ms => endPos (Move.next r c mv).1 (Move.next r c mv).2 ms

/-- `P mv r c` holds for every move `mv` of the script, `(r, c)` being the position at which it is made. -/
def ForallMoves (P : Move → Nat → Nat → Prop) : Nat → Nat → List Move → Prop
  | _, _, [] => True
  | r, c, mv :: ms => P mv r c ∧ ForallMoves P (Move.next r c mv).1 (Move.next r c mv).2 ms

theorem endPos_append (r c : Nat) (ms : List Move) (mv : Move) :
    endPos r c (ms ++ [mv]) = Move.next (endPos r c ms).1 (endPos r c ms).2 mv := by
  induction ms generalizing r c with
  | nil => rfl
  | cons m ms ih => simp [endPos, ih]

theorem endPos_counts (r c : Nat) (ms : List Move) :
    endPos r c ms = (r + ms.count .diag + ms.count .up, c + ms.count .diag + ms.count .left) := by
  induction ms generalizing r c with
  | nil => simp [endPos]
  | cons m ms ih =>
    cases m <;> simp [endPos, ih, Move.next] <;> omega

theorem moveCostsFrom_append (rem ins : List Nat) (cells : List (List Nat)) (r c : Nat) (ms : List Move) (mv : Move) :
    moveCostsFrom rem ins cells r c (ms ++ [mv])
      = moveCostsFrom rem ins cells r c ms ++ [moveCost rem ins cells (endPos r c ms).1 (endPos r c ms).2 mv] := by
  induction ms generalizing r c with
  | nil => rfl
  | cons m ms ih => simp [moveCostsFrom, endPos, ih]

theorem forallMoves_append (P : Move → Nat → Nat → Prop) (r c : Nat) (ms : List Move) (mv : Move) :
    ForallMoves P r c (ms ++ [mv]) ↔ ForallMoves P r c ms ∧ P mv (endPos r c ms).1 (endPos r c ms).2 := by
  induction ms generalizing r c with
  | nil => simp [ForallMoves, endPos]
  | cons m ms ih => simp [ForallMoves, endPos, ih, and_assoc]

theorem positionsFrom_length (r c : Nat) (ms : List Move) : (positionsFrom r c ms).length = ms.length := by
  induction ms generalizing r c with
  | nil => rfl
  | cons m ms ih => simp [positionsFrom, ih]

theorem forallMoves_iff_located (P : Move → Nat → Nat → Prop) (ms : List Move) :
    ForallMoves P 0 0 ms ↔ ∀ x ∈ located ms, P x.1 x.2.1 x.2.2 := by
  have key : ∀ (ms : List Move) (r c : Nat),
      ForallMoves P r c ms ↔ ∀ x ∈ ms.zip (positionsFrom r c ms), P x.1 x.2.1 x.2.2 := by
    intro ms
    induction ms with
    | nil => simp [ForallMoves, positionsFrom]
    | cons m ms ih => intro r c; simp [ForallMoves, positionsFrom, ih]
  exact key ms 0 0

section Props
variable (rem ins : List Nat) (cells : List (List Nat))

@[simp] theorem goLeft_script (p : Cell) (x : Nat) : (goLeft p x).script = .left :: p.script := rfl
@[simp] theorem goUp_script (p : Cell) (x : Nat) : (goUp p x).script = .up :: p.script := rfl
@[simp] theorem goDiag_script (p : Cell) (x : Nat) : (goDiag p x).script = .diag :: p.script := rfl
@[simp] theorem goLeft_cost (p : Cell) (x : Nat) : (goLeft p x).cost = p.cost + x := rfl
@[simp] theorem goUp_cost (p : Cell) (x : Nat) : (goUp p x).cost = p.cost + x := rfl
@[simp] theorem goDiag_cost (p : Cell) (x : Nat) : (goDiag p x).cost = p.cost + x := rfl
@[simp] theorem goLeft_path (p : Cell) (x : Nat) : (goLeft p x).path = p.path + 1 := rfl
@[simp] theorem goUp_path (p : Cell) (x : Nat) : (goUp p x).path = p.path + 1 := rfl
@[simp] theorem goDiag_path (p : Cell) (x : Nat) : (goDiag p x).path = p.path + 1 := rfl
@[simp] theorem origin_script : origin.script = [] := rfl
@[simp] theorem origin_cost : origin.cost = 0 := rfl
@[simp] theorem origin_path : origin.path = 0 := rfl

def DiagLt (mv : Move) (r c : Nat) : Prop :=
  mv = .diag → cellAt cells r c < ins.getD r 0 ∧ cellAt cells r c < rem.getD c 0

/-- The bookkeeping of cell `p` at (r, c) agrees with its script (stored last move first). -/
structure Traces (r c : Nat) (p : Cell) : Prop where
  endPos : endPos 0 0 p.script.reverse = (r, c)
  cost : p.cost = (moveCostsFrom rem ins cells 0 0 p.script.reverse).sum
  diag : ForallMoves (DiagLt rem ins cells) 0 0 p.script.reverse
  path : p.path = p.script.length

variable {rem ins cells} in
theorem Traces.push {r c : Nat} {p : Cell} (h : Traces rem ins cells r c p) (mv : Move)
    (hd : DiagLt rem ins cells mv r c) :
    Traces rem ins cells (Move.next r c mv).1 (Move.next r c mv).2
      ⟨p.cost + moveCost rem ins cells r c mv, p.path + 1, mv :: p.script⟩ := by
  constructor <;>
    simp [endPos_append, moveCostsFrom_append, forallMoves_append, h.endPos, h.cost, h.diag, h.path, hd]

theorem spec_traces (r c : Nat) : Traces rem ins cells r c (spec rem ins cells r c) :=
  spec_induction rem ins cells (Traces rem ins cells) ⟨rfl, rfl, trivial, rfl⟩
    (fun _ _ _ h => h.push .left nofun) (fun _ _ _ h => h.push .up nofun)
    (fun _ _ _ h h1 h2 => h.push .diag fun _ => ⟨h1, h2⟩) r c

theorem spec_endPos (r c : Nat) : endPos 0 0 (spec rem ins cells r c).script.reverse = (r, c) :=
  (spec_traces rem ins cells r c).endPos

theorem spec_cost_le (r c : Nat) : (spec rem ins cells r c).cost ≤ (rem.take c).sum + (ins.take r).sum := by
  refine spec_induction rem ins cells (fun r c p => p.cost ≤ (rem.take c).sum + (ins.take r).sum) (by simp) ?_ ?_ ?_ r c
  · intro r c p h; rw [sum_take_succ, goLeft_cost]; omega
  · intro r c p h; rw [sum_take_succ, goUp_cost]; omega
  · intro r c p h h1 h2; rw [sum_take_succ, sum_take_succ, goDiag_cost]; omega

theorem spec_zero (hrem : ∀ x ∈ rem, 0 < x) (hins : ∀ x ∈ ins, 0 < x) (r c : Nat)
    (hr : r ≤ ins.length) (hc : c ≤ rem.length) (h0 : (spec rem ins cells r c).cost = 0) :
    r = c ∧ (spec rem ins cells r c).script = List.replicate r .diag ∧ ∀ i, i < r → cellAt cells i i = 0 := by
  refine spec_induction rem ins cells
    (fun r c p => r ≤ ins.length → c ≤ rem.length → p.cost = 0 →
      r = c ∧ p.script = List.replicate r .diag ∧ ∀ i, i < r → cellAt cells i i = 0) ?_ ?_ ?_ ?_ r c hr hc h0
  · intros; simp
  · intro r c p _ _ hc h
    have := hrem _ (getD_mem rem c 0 hc)
    rw [goLeft_cost] at h; omega
  · intro r c p _ hr _ h
    have := hins _ (getD_mem ins r 0 hr)
    rw [goUp_cost] at h; omega
  · intro r c p ih _ _ hr hc h
    rw [goDiag_cost] at h
    obtain ⟨rfl, hs, hz⟩ := ih (Nat.le_of_lt hr) (Nat.le_of_lt hc) (by omega)
    refine ⟨rfl, by rw [goDiag_script, hs]; rfl, fun i hi => ?_⟩
    rcases Nat.lt_succ_iff_lt_or_eq.1 hi with hi | rfl
    · exact hz i hi
    · omega

theorem solve_endPos : endPos 0 0 (solve rem ins cells).2 = (ins.length, rem.length) := by
  rw [solve_eq_spec]; exact spec_endPos ..

/-- replaying the script consumes every from-element and every to-element exactly once. -/
theorem solve_counts :
    (solve rem ins cells).2.count .diag + (solve rem ins cells).2.count .left = rem.length ∧
    (solve rem ins cells).2.count .diag + (solve rem ins cells).2.count .up = ins.length := by
  have h := solve_endPos rem ins cells
  rw [endPos_counts, Prod.mk.injEq] at h
  omega

theorem solve_total_eq_sum :
    (solve rem ins cells).1 = (moveCosts rem ins cells (solve rem ins cells).2).sum := by
  rw [solve_eq_spec]; exact (spec_traces ..).cost

theorem solve_total_le : (solve rem ins cells).1 ≤ rem.sum + ins.sum := by
  have := spec_cost_le rem ins cells ins.length rem.length
  rw [List.take_length, List.take_length] at this
  rw [solve_eq_spec]; exact this

theorem solve_diag_lt : ForallMoves (DiagLt rem ins cells) 0 0 (solve rem ins cells).2 := by
  rw [solve_eq_spec]; exact (spec_traces ..).diag

theorem solve_diag_lt_located :
    ∀ x ∈ located (solve rem ins cells).2, x.1 = .diag →
      cellAt cells x.2.1 x.2.2 < ins.getD x.2.1 0 ∧ cellAt cells x.2.1 x.2.2 < rem.getD x.2.2 0 :=
  (forallMoves_iff_located _ _).1 (solve_diag_lt rem ins cells)

theorem solve_zero (hrem : ∀ x ∈ rem, 0 < x) (hins : ∀ x ∈ ins, 0 < x) (h0 : (solve rem ins cells).1 = 0) :
    ins.length = rem.length ∧ (solve rem ins cells).2 = List.replicate rem.length .diag ∧
      ∀ i, i < rem.length → cellAt cells i i = 0 := by
  rw [solve_eq_spec] at h0 ⊢
  obtain ⟨e, hs, hz⟩ := spec_zero rem ins cells hrem hins _ _ (Nat.le_refl _) (Nat.le_refl _) h0
  refine ⟨e, ?_, fun i hi => hz i (e ▸ hi)⟩
  show List.reverse _ = _
  rw [hs, e, List.reverse_replicate]

/-- non-vacuity of `solve_zero`: positive insert/remove costs and total 0 -/
example : (∀ x ∈ [1, 2], 0 < x) ∧ (∀ x ∈ [3, 1], 0 < x) ∧ (solve [1, 2] [3, 1] [[0, 5], [5, 0]]).1 = 0 := by
  decide

theorem length_eq_counts (ms : List Move) : ms.length = ms.count .diag + ms.count .up + ms.count .left := by
  induction ms with
  | nil => rfl
  | cons m ms ih => cases m <;> simp [ih] <;> omega

theorem solve_path :
    (corner rem ins cells).path = (solve rem ins cells).2.length ∧
    max ins.length rem.length ≤ (solve rem ins cells).2.length ∧
    (solve rem ins cells).2.length ≤ ins.length + rem.length := by
  have h1 := solve_counts rem ins cells
  have h2 := length_eq_counts (solve rem ins cells).2
  refine ⟨?_, by omega, by omega⟩
  rw [solve_eq_spec, corner_eq_spec, List.length_reverse]
  exact (spec_traces ..).path

end Props

/-- Concrete runs.  The greedy rule is NOT the textbook minimum: a match that is not strictly cheaper than both the
    insert and the remove is never taken (1×1, cell = ins = rem = 1: total 2, optimum 1), and the predecessor is
    chosen by the predecessors' (cost, path) alone, ignoring the cost of the move itself
    (rem = [1], ins = [1, 2], cells = [[0], [0]]: total 2 = match + insert of 2, optimum 1 = insert of 1 + match). -/
example : solve [1, 1] [1, 1] [[0, 1], [1, 0]] = (0, [.diag, .diag]) := by decide
example : solve [1] [1] [[1]] = (2, [.up, .left]) := by decide
example : solve [1] [1, 2] [[0], [0]] = (2, [.diag, .up]) := by decide

section Unit
variable {α : Type}

theorem ones_length (a : List α) : (ones a).length = a.length := by simp [ones]

theorem ones_getD (a : List α) (c : Nat) (h : c < a.length) : (ones a).getD c 0 = 1 := by
  simp [ones, List.getD, h]

variable [DecidableEq α]

set_option linter.unusedSectionVars false in
theorem ones_pos (a : List α) : ∀ x ∈ ones a, 0 < x := by
  intro x hx; simp [ones] at hx; omega

theorem cellAt_charCells (a b : List α) (r c : Nat) (hr : r < b.length) (hc : c < a.length) :
    cellAt (charCells a b) r c = if a[c] = b[r] then 0 else 1 := by
  simp [cellAt, charCells, List.getD, hr, hc]

end Unit

end GtModel.EditMatrix

namespace GtModel
open GtModel.EditMatrix

theorem zip_positions_inRange (ms : List Move) : ∀ (r c : Nat), ∀ x ∈ ms.zip (positionsFrom r c ms),
    (x.1 ≠ .left → x.2.1 < (endPos r c ms).1) ∧ (x.1 ≠ .up → x.2.2 < (endPos r c ms).2) := by
  induction ms with
  | nil => intro r c x hx; cases hx
  | cons m ms ih =>
    intro r c x hx
    simp only [positionsFrom, List.zip_cons_cons, List.mem_cons] at hx
    rcases hx with rfl | hx
    · rw [endPos, endPos_counts]
      cases m <;> simp only [Move.next, ne_eq, not_true_eq_false, false_imp_iff, true_and, and_true] <;> omega
    · exact ih _ _ x hx

theorem solve_located_inRange (rem ins : List Nat) (cells : List (List Nat)) :
    ∀ x ∈ located (solve rem ins cells).2, (x.1 ≠ .left → x.2.1 < ins.length) ∧ (x.1 ≠ .up → x.2.2 < rem.length) := by
  intro x hx
  have := zip_positions_inRange _ 0 0 x hx
  rwa [solve_endPos] at this

theorem sharedPrefixLen_le {α : Type} [BEq α] (a b : List α) :
    sharedPrefixLen a b ≤ a.length ∧ sharedPrefixLen a b ≤ b.length := by
  fun_induction sharedPrefixLen a b <;> simp_all <;> omega

theorem trimLens_le {α : Type} [BEq α] (a b : List α) :
    (trimLens a b).1 + (trimLens a b).2 ≤ a.length ∧ (trimLens a b).1 + (trimLens a b).2 ≤ b.length := by
  have h1 := sharedPrefixLen_le a b
  have h2 := sharedPrefixLen_le (a.drop (sharedPrefixLen a b)).reverse (b.drop (sharedPrefixLen a b)).reverse
  simp only [trimLens, List.length_reverse, List.length_drop] at h2 ⊢
  omega

theorem middle_length {α : Type} (a : List α) (ps : Nat × Nat) : (middle a ps).length = a.length - ps.1 - ps.2 := by
  simp [middle]

section Trim
variable {α : Type} [BEq α]

theorem sharedPrefix_forall₂ : ∀ (a b : List α),
    Forall2 (fun x y => (x == y) = true) (a.take (sharedPrefixLen a b)) (b.take (sharedPrefixLen a b))
  | [], b => by cases b <;> exact .nil
  | _ :: _, [] => .nil
  | x :: a, y :: b => by
    rw [sharedPrefixLen]
    split
    · exact .cons ‹_› (sharedPrefix_forall₂ a b)
    · exact .nil

structure TrimEnds (l : List α) (ps : Nat × Nat) (p s : List α) : Prop where
  eq : l = p ++ (middle l ps ++ s)
  pre : p.length = ps.1
  suf : s.length = ps.2

/-- What `EditDistance.__init__` trims off.  The index form (`trim_prefix`, `trim_suffix_at` in
    Proofs/EditsParts), the relational form (`trim_forall₂` in Proofs/ZeroBasic) and the equational form for a decidable
    equality (`trim_decomp` in Proofs/EditMatrixScript) are read off this. -/
theorem trim_split (a b : List α) : ∃ pa pb sa sb, TrimEnds a (trimLens a b) pa sa ∧ TrimEnds b (trimLens a b) pb sb ∧
    Forall2 (fun x y => (x == y) = true) pa pb ∧ Forall2 (fun x y => (x == y) = true) sa sb := by
  have hl := trimLens_le a b
  have sp : ∀ l : List α, (trimLens a b).1 + (trimLens a b).2 ≤ l.length →
      TrimEnds l (trimLens a b) (l.take (trimLens a b).1) ((l.drop (trimLens a b).1).reverse.take (trimLens a b).2).reverse :=
    fun l h => ⟨by rw [List.take_reverse, List.reverse_reverse, List.length_drop, middle, List.take_append_drop,
      List.take_append_drop], by simp; omega, by simp; omega⟩
  exact ⟨_, _, _, _, sp a hl.1, sp b hl.2, sharedPrefix_forall₂ a b, (sharedPrefix_forall₂ _ _).reverse⟩

omit [BEq α] in
theorem TrimEnds.getD_pre {l p s : List α} {ps : Nat × Nat} (h : TrimEnds l ps p s) (d : α) {i : Nat} (hi : i < ps.1) :
    l.getD i d = p[i]'(h.pre ▸ hi) := by
  have hi' : i < p.length := h.pre ▸ hi
  conv => lhs; rw [h.eq]
  simp [List.getD_eq_getElem?_getD, List.getElem?_append_left hi', hi']

omit [BEq α] in
theorem TrimEnds.getD_suf {l p s : List α} {ps : Nat × Nat} (h : TrimEnds l ps p s) (d : α) {k : Nat} (hk : k < ps.2) :
    l.getD (l.length - ps.2 + k) d = s[k]'(h.suf ▸ hk) := by
  have hk' : k < s.length := h.suf ▸ hk
  have : ∀ m : List α, (p ++ (m ++ s)).getD ((p ++ (m ++ s)).length - s.length + k) d = s[k] := fun m => by
    rw [show (p ++ (m ++ s)).length - s.length + k = (p ++ m).length + k by simp; omega, ← List.append_assoc,
      List.getD_eq_getElem?_getD, List.getElem?_append_right (Nat.le_add_right ..)]
    simp [hk']
  have := this (middle l ps)
  rwa [← h.eq, h.suf] at this

end Trim

theorem map_zip_positions (rem ins : List Nat) (cells : List (List Nat)) (w : Move × Nat × Nat → Nat)
    (ms : List Move) : ∀ (r c : Nat),
    (∀ x ∈ ms.zip (positionsFrom r c ms), w x = moveCost rem ins cells x.2.1 x.2.2 x.1) →
    (ms.zip (positionsFrom r c ms)).map w = moveCostsFrom rem ins cells r c ms := by
  induction ms with
  | nil => intro r c _; rfl
  | cons m ms ih =>
    intro r c h
    simp only [positionsFrom, List.zip_cons_cons, List.map_cons, moveCostsFrom]
    rw [ih _ _ (fun x hx => h x (by simp [positionsFrom, hx]))]
    rw [h (m, r, c) (by simp [positionsFrom])]

theorem sum_located (rem ins : List Nat) (cells : List (List Nat)) (w : Move × Nat × Nat → Nat)
    (h : ∀ x ∈ located (solve rem ins cells).2, w x = moveCost rem ins cells x.2.1 x.2.2 x.1) :
    ((located (solve rem ins cells).2).map w).sum = (solve rem ins cells).1 := by
  rw [solve_total_eq_sum, moveCosts, ← map_zip_positions rem ins cells w _ 0 0 h]; rfl

/-- the two sides of an edit; a matrix position is (row, column) = (to-elements, from-elements) consumed -/
inductive Side where
  | frm | to

/-- the move that consumes nothing on this side (`up` inserts, `left` removes) -/
def Side.skip : Side → Move
  | .frm => .up
  | .to => .left

def Side.pos : Side → Nat × Nat → Nat
  | .frm => Prod.snd
  | .to => Prod.fst

theorem Side.pos_next (sd : Side) (r c : Nat) (m : Move) :
    sd.pos (Move.next r c m) = sd.pos (r, c) + if m = sd.skip then 0 else 1 := by
  cases sd <;> cases m <;> rfl

theorem zip_positions_side (sd : Side) (ms : List Move) : ∀ r c, sd.pos (r, c) ≤ sd.pos (endPos r c ms) ∧
    ((ms.zip (positionsFrom r c ms)).filter (fun x => x.1 != sd.skip)).map (fun x => sd.pos x.2)
      = List.range' (sd.pos (r, c)) (sd.pos (endPos r c ms) - sd.pos (r, c)) := by
  induction ms with
  | nil => intro r c; simp [positionsFrom, endPos]
  | cons m ms ih =>
    intro r c
    obtain ⟨h1, h2⟩ := ih (Move.next r c m).1 (Move.next r c m).2
    have hn := sd.pos_next r c m
    simp only [positionsFrom, List.zip_cons_cons, List.filter_cons, endPos]
    by_cases hm : m = sd.skip
    · subst hm
      rw [if_pos rfl, Nat.add_zero] at hn
      rw [hn] at h1 h2
      simpa using ⟨h1, h2⟩
    · rw [if_neg hm] at hn
      rw [hn] at h1 h2
      have : sd.pos (endPos (Move.next r c m).1 (Move.next r c m).2 ms) - sd.pos (r, c)
          = sd.pos (endPos (Move.next r c m).1 (Move.next r c m).2 ms) - (sd.pos (r, c) + 1) + 1 := by omega
      simp only [bne_iff_ne, ne_eq, hm, not_false_eq_true, if_true, List.map_cons, h2, this, List.range'_succ]
      exact ⟨by omega, trivial⟩

end GtModel
