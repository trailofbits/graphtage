/-
  The domains on which the statements of C04 and C05 about the lazy machines hold (`Tree.noDict`: Proofs/EditsOptions).
-/
import GtModel.Model.Edits
import GtModel.Proofs.ZeroSort

namespace GtModel

mutual
/-- number of `null` leaves reachable through lists only -/
def Tree.nw : Tree → Nat
  | .leaf .null => 1
  | .leaf _ => 0
  | .list cs => nwL cs
  | .dict _ => 0
  | .fdict _ => 0
def nwL : List Tree → Nat
  | [] => 0
  | c :: cs => c.nw + nwL cs
end

mutual
/-- the domain on which `FixedKeyDictNodeEdit`'s static upper bound is one: every value `v` under key `k` of a
    fixed-key dictionary has `3 * nw v ≤ 2 * len k + 5`.  Where the numbers come from (`sharedM_hi`, LazyFkBound): the edit
    of two values under a shared key `k` may cost up to `size fv + size tv + 1 + 3 * nw tv`, and what the bound
    `from.total_size + to.total_size + 1` holds for it is the two pairs, `(len k + size fv + 2) + 1 + (len k + size tv + 2) + 1` -/
def Tree.fkOK : Tree → Bool
  | .leaf _ => true
  | .list cs => fkL cs
  | .dict kvs => fkD kvs
  | .fdict kvs => fkKV kvs
def fkL : List Tree → Bool
  | [] => true
  | c :: cs => c.fkOK && fkL cs
def fkD : List (Str × Tree) → Bool
  | [] => true
  | (_, v) :: rest => v.fkOK && fkD rest
def fkKV : List (Str × Tree) → Bool
  | [] => true
  | (k, v) :: rest => decide (3 * v.nw ≤ 2 * k.length + 5) && v.fkOK && fkKV rest
end

theorem fkL_iff (cs : List Tree) : fkL cs = true ↔ ∀ c ∈ cs, c.fkOK = true := by
  induction cs with
  | nil => simp [fkL]
  | cons c cs ih => simp [fkL, ih]

theorem fkKV_iff (kvs : List (Str × Tree)) :
    fkKV kvs = true ↔ ∀ kv ∈ kvs, 3 * kv.2.nw ≤ 2 * kv.1.length + 5 ∧ kv.2.fkOK = true := by
  induction kvs with
  | nil => simp [fkKV]
  | cons kv kvs ih => obtain ⟨k, v⟩ := kv; simp [fkKV, ih, and_assoc]

theorem nwL_mem (cs : List Tree) (c : Tree) (h : c ∈ cs) : c.nw ≤ nwL cs := by
  induction cs with
  | nil => simp at h
  | cons x xs ih =>
    rcases List.mem_cons.mp h with rfl | h
    · simp [nwL]
    · have := ih h; simp [nwL]; omega

mutual
/-- the tree contains no `FixedKeyDictNode`; for such a from-tree `mkEdit` never builds an EditCollection -/
def Tree.noFdict : Tree → Bool
  | .leaf _ => true
  | .list cs => nfL cs
  | .dict kvs => nfKV kvs
  | .fdict _ => false
def nfL : List Tree → Bool
  | [] => true
  | c :: cs => c.noFdict && nfL cs
def nfKV : List (Str × Tree) → Bool
  | [] => true
  | (_, v) :: rest => v.noFdict && nfKV rest
end

theorem nfL_iff (cs : List Tree) : nfL cs = true ↔ ∀ c ∈ cs, c.noFdict = true := by
  induction cs with
  | nil => simp [nfL]
  | cons c cs ih => simp [nfL, ih]

theorem nfKV_iff (kvs : List (Str × Tree)) : nfKV kvs = true ↔ ∀ kv ∈ kvs, kv.2.noFdict = true := by
  induction kvs with
  | nil => simp [nfKV]
  | cons kv kvs ih => obtain ⟨k, v⟩ := kv; simp [nfKV, ih]

mutual
theorem build_noFdict (o : Opts) (h : o.ake = true) : ∀ d : Doc, (build o d).noFdict = true
  | .scalar _ => rfl
  | .list cs => by simp only [build, Tree.noFdict]; exact buildL_noFdict o h cs
  | .obj kvs => by
    simp only [build, h, if_true, Tree.noFdict]
    rw [nfKV_iff]
    intro kv hkv
    exact (nfKV_iff _).mp (buildKV_noFdict o h kvs) kv ((sortKV_perm _).mem_iff.mp hkv)
theorem buildL_noFdict (o : Opts) (h : o.ake = true) : ∀ cs : List Doc, nfL (build.buildL o cs) = true
  | [] => rfl
  | c :: cs => by simp only [build.buildL, nfL, Bool.and_eq_true]; exact ⟨build_noFdict o h c, buildL_noFdict o h cs⟩
theorem buildKV_noFdict (o : Opts) (h : o.ake = true) : ∀ kvs : List (Str × Doc), nfKV (build.buildKV o kvs) = true
  | [] => rfl
  | (k, v) :: rest => by
    simp only [build.buildKV, nfKV, Bool.and_eq_true]; exact ⟨build_noFdict o h v, buildKV_noFdict o h rest⟩
end

/-- every answer of the assignment solver pairs as many nodes as possible (what a min-weight perfect matching on the
    smaller side does); an unrecorded matcher gets the identity pairs -/
def OrcFull (orc : Oracle) : Prop :=
  ∀ fps tps : List (List Nat), (orc.lookup fps tps).length = Nat.min fps.length tps.length

end GtModel
