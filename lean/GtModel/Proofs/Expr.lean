/-
  What every run of the L7 evaluator does, whatever the tokens: `Built` records the few kinds of step `eval` is put
  together from (pure steps, host operations, the two log-then-`getattr` sites of `get_member`, the log of a resolved
  name), once, for the evaluator over a host `h` and over its recording wrapper `spy h` side by side.  The statements
  about runs — the log invariant `Inv`, faithfulness of the log to what the host was asked, invisibility of the
  wrapper — are then each an induction over those kinds of step, not over the evaluator.
-/
import GtModel.Model.Expr

namespace GtModel.Expr

variable {σ Obj : Type}

/-
  `attrReads` / `namesResolved` are a log the evaluator keeps itself (two `logRead` sites in `getMember`).  A statement
  about that log alone would also hold for an evaluator that passes an underscore name to `h.getattr` and simply does
  not log it.  `spy h` closes that gap: it is `h` over the state `σ × List String`, and its `getattr` — the only way
  the evaluator can read an attribute — appends every name it is asked for, whoever asks.  The theorems about
  `eval (spy h)` therefore speak about the host calls themselves. -/

@[inline] def spyOp {α : Type} (op : HRes σ α) : HRes (σ × List String) α := fun t =>
  match op t.1 with
  | (r, s') => (r, (s', t.2))

def spy (h : Host σ Obj) : Host (σ × List String) Obj where
  ofInt := h.ofInt
  ofFloat := h.ofFloat
  ofStr := h.ofStr
  ofBool := h.ofBool
  mkColl := h.mkColl
  getattr := fun a n t =>
    match h.getattr a n t.1 with
    | (r, s') => (r, (s', t.2 ++ [n]))
  call := fun a b => spyOp (h.call a b)
  getitem := fun a b => spyOp (h.getitem a b)
  neg := fun a => spyOp (h.neg a)
  inv := fun a => spyOp (h.inv a)
  binop := fun s a b => spyOp (h.binop s a b)
  truth := fun a => spyOp (h.truth a)
  fmt := fun a => spyOp (h.fmt a)
  isReflective := h.isReflective
  isStrType := h.isStrType
  isStrInst := h.isStrInst
  safeFn := h.safeFn
  mkPartial := h.mkPartial

variable {h : Host σ Obj} {locals globals : Env Obj}

@[simp] theorem spy_isReflective : (spy h).isReflective = h.isReflective := rfl
@[simp] theorem spy_isStrType : (spy h).isStrType = h.isStrType := rfl
@[simp] theorem spy_isStrInst : (spy h).isStrInst = h.isStrInst := rfl
@[simp] theorem spy_safeFn : (spy h).safeFn = h.safeFn := rfl
@[simp] theorem spy_mkPartial : (spy h).mkPartial = h.mkPartial := rfl

inductive IsOp (h : Host σ Obj) : {α : Type} → HRes σ α → Prop
  | call (a b : Obj) : IsOp h (h.call a b)
  | getitem (a b : Obj) : IsOp h (h.getitem a b)
  | neg (a : Obj) : IsOp h (h.neg a)
  | inv (a : Obj) : IsOp h (h.inv a)
  | binop (s : String) (a b : Obj) : IsOp h (h.binop s a b)
  | truth (a : Obj) : IsOp h (h.truth a)
  | fmt (a : Obj) : IsOp h (h.fmt a)

/-- `m` over `h` and `m'` over `spy h` are the same composition of: pure steps; host operations other than `getattr`;
    the log of a name found in `locals` or `globals`; `get_member`'s read of a PUBLIC member, logged first; and the
    `member.offset` probe of its error path, logged first. -/
inductive Built (h : Host σ Obj) (locals globals : Env Obj) :
    {α : Type} → M σ Obj α → M (σ × List String) Obj α → Prop
  | pure {α : Type} (a : α) : Built h locals globals (M.pure a) (M.pure a)
  | throw {α : Type} (e : Exc) : Built h locals globals (M.throw e : M σ Obj α) (M.throw e)
  | bind {α β : Type} {m : M σ Obj α} {m' : M (σ × List String) Obj α} {f : α → M σ Obj β}
      {f' : α → M (σ × List String) Obj β} : Built h locals globals m m' →
      (∀ a, Built h locals globals (f a) (f' a)) → Built h locals globals (M.bind m f) (M.bind m' f')
  | op {α : Type} {o : HRes σ α} : IsOp h o → Built h locals globals (M.lift o) (M.lift (spyOp o))
  | resolved (n : String) (o : Obj) : locals.find n = some o ∨ globals.find n = some o →
      Built h locals globals (M.logResolved n) (M.logResolved n)
  | member (a : Obj) (name : String) : ¬ (name.startsWith "_" = true) →
      Built h locals globals (M.bind (M.logRead a name true) fun _ => M.lift (h.getattr a name))
        (M.bind (M.logRead a name true) fun _ => M.lift ((spy h).getattr a name))
  | offset (o : Obj) :
      Built h locals globals
        (M.bind (M.logRead o "offset" false) fun _ => M.bind (M.lift (h.getattr o "offset")) fun _ => M.throw "ParseError")
        (M.bind (M.logRead o "offset" false) fun _ =>
          M.bind (M.lift ((spy h).getattr o "offset")) fun _ => M.throw "ParseError")

theorem built_getValue (v : SVal Obj) :
    Built h locals globals (getValue h locals globals v) (getValue (spy h) locals globals v) := by
  unfold getValue
  split
  · exact .pure _
  · exact .pure _
  · exact .pure _
  · exact .pure _
  · next n _ =>
    split
    · next o hl => exact .bind (.resolved n o (.inl hl)) fun _ => .pure _
    · split
      · next o hg => exact .bind (.resolved n o (.inr hg)) fun _ => .pure _
      · exact .throw _
  · exact .throw _

theorem built_getValues (vs : List (SVal Obj)) :
    Built h locals globals (getValues h locals globals vs) (getValues (spy h) locals globals vs) := by
  induction vs with
  | nil => exact .pure _
  | cons v vs ih =>
    unfold getValues
    exact .bind (built_getValue v) fun _ => .bind ih fun _ => .pure _

theorem built_getMember (a : Obj) (m : SVal Obj) :
    Built h locals globals (getMember h a m) (getMember (spy h) a m) := by
  unfold getMember
  simp only [spy_isReflective, spy_isStrType, spy_isStrInst, spy_safeFn, spy_mkPartial]
  split
  · next name _ =>
    by_cases hu : name.startsWith "_" = true
    · simp only [hu, ↓reduceIte]
      exact .bind (.op (.fmt a)) fun _ => .throw _
    · by_cases hr : h.isReflective a = true
      · simp only [hu, hr, ↓reduceIte]
        exact .throw _
      · by_cases h1 : (safeStrMethods.contains name && h.isStrType a) = true
        · simp only [hu, hr, h1, ↓reduceIte]
          exact .pure _
        · by_cases h2 : (safeStrMethods.contains name && h.isStrInst a) = true
          · simp only [hu, hr, h1, h2, ↓reduceIte]
            exact .pure _
          · simp only [hu, hr, h1, h2]
            exact .member a name hu
  · exact .throw _
  · next o => exact .bind (.op (.fmt o)) fun _ => .offset o

theorem built_expandArgs (es : List Bool) (vs : List (SVal Obj)) :
    Built h locals globals (expandArgs h locals globals es vs) (expandArgs (spy h) locals globals es vs) := by
  induction es generalizing vs with
  | nil => unfold expandArgs; exact .pure _
  | cons e es ih =>
    cases vs with
    | nil => unfold expandArgs; exact .pure _
    | cons v vs =>
      unfold expandArgs
      split
      · exact .bind (built_getValue v) fun _ => .bind (ih vs) fun _ => .pure _
      · exact .bind (ih vs) fun _ => .pure _

theorem built_execute (spec : OpSpec) (args : List (SVal Obj)) :
    Built h locals globals (execute h spec args) (execute (spy h) spec args) := by
  unfold execute
  split
  · exact .throw _
  · split
    · exact built_getMember _ _
    · exact .op (.getitem _ _)
    · exact .op (.call _ _)
    · exact .pure _
    · exact .op (.neg _)
    · exact .op (.inv _)
    · exact .bind (.op (.truth _)) fun _ => .pure _
    · exact .op (.binop _ _ _)
    · exact .bind (.op (.truth _)) fun _ => .pure _
    · exact .bind (.op (.truth _)) fun _ => .pure _
    · exact .pure _
    · exact .bind (.op (.truth _)) fun _ => .op (.getitem _ _)
    · exact .throw _

theorem built_step (values : List (SVal Obj)) (t : Tok) :
    Built h locals globals (step h locals globals values t) (step (spy h) locals globals values t) := by
  unfold step
  split
  · exact .bind (built_getValues _) fun _ => .pure _
  · exact .bind (built_expandArgs _ _) fun _ => .bind (built_execute _ _) fun _ => .pure _
  · exact .pure _

theorem built_run (values : List (SVal Obj)) (ts : List Tok) :
    Built h locals globals (run h locals globals values ts) (run (spy h) locals globals values ts) := by
  induction ts generalizing values with
  | nil => unfold run; exact .pure _
  | cons t ts ih => unfold run; exact .bind (built_step values t) fun vs => ih vs

theorem built_finish (values : List (SVal Obj)) :
    Built h locals globals (finish h locals globals values) (finish (spy h) locals globals values) := by
  unfold finish
  split
  · split
    · exact .bind (built_getValue _) fun _ => .pure _
    · exact .pure _
  · exact .throw _

theorem built_eval (tokens : List Tok) :
    Built h locals globals (M.bind (run h locals globals [] tokens) (finish h locals globals))
      (M.bind (run (spy h) locals globals [] tokens) (finish (spy h) locals globals)) :=
  .bind (built_run [] tokens) built_finish

def Keeps {σ α : Type} (P : ES σ Obj → Prop) (m : M σ Obj α) : Prop := ∀ s, P s → P (m s).2

theorem M.bind_ok {α β : Type} {m : M σ Obj α} {f : α → M σ Obj β} {s s' : ES σ Obj} {b : β}
    (h : M.bind m f s = (.ok b, s')) : ∃ a s1, m s = (.ok a, s1) ∧ f a s1 = (.ok b, s') := by
  rcases hm : m s with ⟨_ | a, s1⟩
  · simp [M.bind, hm] at h
  · exact ⟨a, s1, rfl, by simpa [M.bind, hm] using h⟩

theorem Keeps.bind {σ α β : Type} {P : ES σ Obj → Prop} {m : M σ Obj α} {f : α → M σ Obj β}
    (hm : Keeps P m) (hf : ∀ a, Keeps P (f a)) : Keeps P (M.bind m f) := by
  intro s hs
  have h1 := hm s hs
  unfold M.bind
  split
  · next a s1 heq => exact hf a s1 (by rwa [heq] at h1)
  · next heq => rwa [heq] at h1

structure Inv (R : Read Obj → Prop) (N : String → Prop) (H : σ → Prop) (s : ES σ Obj) : Prop where
  reads : ∀ r ∈ s.reads, R r
  names : ∀ n ∈ s.resolved, N n
  host : H s.hs

/-- Every effectful host operation preserves the host-side invariant `H` — `getattr` only for PUBLIC names: the
    proofs below must show, at each of the evaluator's two `getattr` call sites, that the name it passes does not
    start with an underscore (an evaluator that handed an underscore name to the host could not use this field). -/
structure HostOK (h : Host σ Obj) (H : σ → Prop) : Prop where
  getattr : ∀ a n, ¬ (n.startsWith "_" = true) → ∀ t, H t → H (h.getattr a n t).2
  call : ∀ a b t, H t → H (h.call a b t).2
  getitem : ∀ a b t, H t → H (h.getitem a b t).2
  neg : ∀ a t, H t → H (h.neg a t).2
  inv : ∀ a t, H t → H (h.inv a t).2
  binop : ∀ s a b t, H t → H (h.binop s a b t).2
  truth : ∀ a t, H t → H (h.truth a t).2
  fmt : ∀ a t, H t → H (h.fmt a t).2

/-- Side conditions: what the evaluator is allowed to write into its log. -/
structure LogSites (R : Read Obj → Prop) (N : String → Prop) (locals globals : Env Obj) : Prop where
  /-- the `getattr(obj, member.name)` of `get_member`, reached only when the name passed the underscore test -/
  member : ∀ (a : Obj) (name : String), ¬ (name.startsWith "_" = true) → R ⟨a, name, true⟩
  /-- the `member.offset` probe in the error path of `get_member` -/
  offset : ∀ o : Obj, R ⟨o, "offset", false⟩
  /-- `get_value` on an identifier found in `locals` or in `globals` -/
  name : ∀ (n : String) (o : Obj), locals.find n = some o ∨ globals.find n = some o → N n

theorem offset_public : ¬ ("offset".startsWith "_" = true) := by decide +kernel

theorem HostOK.op {H : σ → Prop} (hk : HostOK h H) {α : Type} {o : HRes σ α} (ho : IsOp h o) :
    ∀ t, H t → H (o t).2 := by
  cases ho
  · exact hk.call _ _
  · exact hk.getitem _ _
  · exact hk.neg _
  · exact hk.inv _
  · exact hk.binop _ _ _
  · exact hk.truth _
  · exact hk.fmt _

section Invariant
variable {R : Read Obj → Prop} {N : String → Prop} {H : σ → Prop}

theorem Inv.readThenGetattr (hk : HostOK h H) {a : Obj} {n : String} {g : Bool} (hr : R ⟨a, n, g⟩)
    (hn : ¬ (n.startsWith "_" = true)) :
    Keeps (Inv R N H) (M.bind (M.logRead a n g) fun _ => M.lift (h.getattr a n)) :=
  fun _ hs => ⟨List.forall_mem_append.2 ⟨hs.reads, by simpa using hr⟩, hs.names, hk.getattr a n hn _ hs.host⟩

theorem Built.inv (hk : HostOK h H) (ls : LogSites R N locals globals) {α : Type} {m : M σ Obj α}
    {m' : M (σ × List String) Obj α} (hb : Built h locals globals m m') : Keeps (Inv R N H) m := by
  induction hb with
  | pure | throw => exact fun _ hs => hs
  | bind _ _ ihm ihf => exact ihm.bind ihf
  | op ho => exact fun _ hs => ⟨hs.reads, hs.names, hk.op ho _ hs.host⟩
  | resolved n o hf =>
    exact fun _ hs => ⟨hs.reads, List.forall_mem_append.2 ⟨hs.names, by simpa using ls.name n o hf⟩, hs.host⟩
  | member a name hn => exact Inv.readThenGetattr hk (ls.member a name hn) hn
  | offset o =>
    exact fun s hs => Keeps.bind (Inv.readThenGetattr hk (ls.offset o) offset_public) (fun _ _ hs => hs) s hs

theorem inv_eval (hk : HostOK h H) (ls : LogSites R N locals globals) (tokens : List Tok) (s0 : σ) (h0 : H s0) :
    Inv R N H (eval h locals globals tokens s0).2 :=
  (built_eval tokens).inv hk ls _ (.mk (fun _ hr => nomatch hr) (fun _ hn => nomatch hn) h0)

end Invariant

theorem Env.find_some_mem_keys {Obj : Type} (e : Env Obj) (n : String) (o : Obj) (hf : e.find n = some o) :
    n ∈ e.map Prod.fst := by
  induction e with
  | nil => simp [Env.find] at hf
  | cons kv rest ih =>
    obtain ⟨k, v⟩ := kv
    unfold Env.find at hf
    split at hf
    · rename_i hk; simp [hk]
    · simp only [List.map_cons, List.mem_cons]; exact Or.inr (ih hf)

def SpyPub (t : σ × List String) : Prop := ∀ n ∈ t.2, ¬ (n.startsWith "_" = true)

theorem spyOp_snd {α : Type} (op : HRes σ α) (t : σ × List String) : (spyOp op t).2.2 = t.2 := by
  unfold spyOp; split; rfl

theorem spy_hostOK (h : Host σ Obj) : HostOK (spy h) SpyPub := by
  refine ⟨fun a n hn t ht => List.forall_mem_append.2 ⟨ht, by simpa using hn⟩, ?_, ?_, ?_, ?_, ?_, ?_, ?_⟩
  all_goals
    intros
    rename_i t ht
    intro m hm
    simp only [spy, spyOp_snd] at hm
    exact ht m hm

def Faithful (s : ES (σ × List String) Obj) : Prop := s.reads.map (·.name) = s.hs.2

theorem Faithful.readThenGetattr (h : Host σ Obj) (a : Obj) (n : String) (g : Bool) :
    Keeps Faithful (M.bind (M.logRead a n g) fun _ => M.lift ((spy h).getattr a n)) := by
  intro s hs
  simp only [M.bind, M.logRead, M.lift, spy]
  simp only [Faithful, List.map_append, List.map_cons, List.map_nil] at hs ⊢
  rw [hs]

theorem Built.faithful {α : Type} {m : M σ Obj α} {m' : M (σ × List String) Obj α}
    (hb : Built h locals globals m m') : Keeps Faithful m' := by
  induction hb with
  | pure | throw | resolved => exact fun _ hs => hs
  | bind _ _ ihm ihf => exact ihm.bind ihf
  | op =>
    intro s hs
    simp only [Faithful, M.lift, spyOp_snd] at hs ⊢
    exact hs
  | member a name => exact Faithful.readThenGetattr h a name true
  | offset o => exact fun s hs => Keeps.bind (Faithful.readThenGetattr h o "offset" false) (fun _ _ hs => hs) s hs

theorem faithful_eval (tokens : List Tok) (s0 : σ) :
    Faithful (eval (spy h) locals globals tokens (s0, [])).2 :=
  (built_eval tokens).faithful _ rfl

def Rel (s : ES σ Obj) (s' : ES (σ × List String) Obj) : Prop :=
  s'.hs.1 = s.hs ∧ s'.reads = s.reads ∧ s'.resolved = s.resolved

def Sim {α : Type} (m : M σ Obj α) (m' : M (σ × List String) Obj α) : Prop :=
  ∀ s s', Rel s s' → (m s).1 = (m' s').1 ∧ Rel (m s).2 (m' s').2

theorem Sim.bind {α β : Type} {m : M σ Obj α} {m' : M (σ × List String) Obj α}
    {f : α → M σ Obj β} {f' : α → M (σ × List String) Obj β}
    (hm : Sim m m') (hf : ∀ a, Sim (f a) (f' a)) : Sim (M.bind m f) (M.bind m' f') := by
  intro s s' hr
  have h1 := hm s s' hr
  unfold M.bind
  rcases hms : m s with ⟨r, t⟩
  rcases hms' : m' s' with ⟨r', t'⟩
  rw [hms, hms'] at h1
  obtain ⟨h1a, h1b⟩ := h1
  simp only at h1a
  subst h1a
  cases r with
  | ok a => exact hf a t t' h1b
  | error e => exact ⟨rfl, h1b⟩

theorem Sim.getattr (h : Host σ Obj) (a : Obj) (n : String) :
    Sim (M.lift (h.getattr a n) : M σ Obj Obj) (M.lift ((spy h).getattr a n)) := by
  intro s s' hr
  obtain ⟨h1, h2, h3⟩ := hr
  simp [M.lift, spy, h1, Rel, h2, h3]

theorem Sim.logRead (o : Obj) (n : String) (g : Bool) :
    Sim (M.logRead o n g : M σ Obj Unit) (M.logRead o n g) := by
  intro s s' hr
  obtain ⟨h1, h2, h3⟩ := hr
  simp [M.logRead, Rel, h1, h2, h3]

theorem Built.sim {α : Type} {m : M σ Obj α} {m' : M (σ × List String) Obj α}
    (hb : Built h locals globals m m') : Sim m m' := by
  induction hb with
  | pure | throw => exact fun _ _ hr => ⟨rfl, hr⟩
  | bind _ _ ihm ihf => exact ihm.bind ihf
  | op =>
    intro s s' ⟨h1, h2, h3⟩
    simp [M.lift, spyOp, h1, Rel, h2, h3]
  | resolved n =>
    intro s s' ⟨h1, h2, h3⟩
    simp [M.logResolved, Rel, h1, h2, h3]
  | member a name => exact (Sim.logRead a name true).bind fun _ => Sim.getattr h a name
  | offset o =>
    exact (Sim.logRead o "offset" false).bind fun _ => (Sim.getattr h o "offset").bind fun _ _ _ hr => ⟨rfl, hr⟩

theorem sim_eval (tokens : List Tok) (s0 : σ) (rec0 : List String) :
    (eval h locals globals tokens s0).1 = (eval (spy h) locals globals tokens (s0, rec0)).1 ∧
    Rel (eval h locals globals tokens s0).2 (eval (spy h) locals globals tokens (s0, rec0)).2 :=
  (built_eval tokens).sim _ _ ⟨rfl, rfl, rfl⟩

end GtModel.Expr
