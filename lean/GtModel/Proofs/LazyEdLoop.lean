/-
  The body of the `while True` loop of `EditDistance.tighten_bounds()` (`edBuildLoop`), cut into three pieces: the
  branch taken when `_next_fringe()` reports completion, the sweep over the new fringe, and the test at the end.
-/
import GtModel.Model.Lazy

namespace GtModel.Lazy

def edLoopDone (rec : Ops) (n : Nat) (s1 : EdSt) (cells : List (List M)) : R (EdSt × List (List M) × Bool) :=
  match cornerIdx s1 with
  | none => do
      let (s2, cells2, _) ← edBounds rec n s1 cells
      pure (s2, cells2, false)
  | some (r, c) => do
      let m ← mget cells r c
      let (m1, b) ← rec.bounds m
      let cells1 ← mset cells r c m1
      if !b.definitive then
        let (s2, cells2, ret) ← edTightenComplete rec n s1 cells1
        if !ret then
          let (s3, cells3, _) ← edBounds rec n s2 cells2
          pure (s3, cells3, false)
        else pure (s2, cells2, true)
      else
        let (s2, cells2, _) ← edBounds rec n s1 cells1
        pure (s2, cells2, false)

def edLoopFringe (rec : Ops) (quiet : Bool) (n : Nat) (firstFringe : Bool) (s1 : EdSt) (cells : List (List M)) :
    R (EdSt × List (List M)) :=
  if firstFringe then pure (s1, cells) else do
    let fringe := diag s1.fr s1.fc s1.nf
    let (cells1, total) ← if quiet then pure (cells, 0) else fringeRanges rec cells fringe
    processFringe rec n (decide (total > 0)) s1 cells1 fringe

def edLoopCheck (rec : Ops) (quiet : Bool) (n : Nat) (initial : Iv) (k : Nat) (s2 : EdSt) (cells2 : List (List M)) :
    R (EdSt × List (List M) × Bool) := do
  let (_, _, b1) ← edBounds rec n s2 cells2
  if b1.hi < initial.hi then pure (s2, cells2, true)
  else
    let (_, _, b2) ← edBounds rec n s2 cells2
    if b2.lo > initial.lo then pure (s2, cells2, true)
    else edBuildLoop rec quiet n initial k s2 cells2

theorem edBuildLoop_unfold (rec : Ops) (quiet : Bool) (n : Nat) (initial : Iv) (k : Nat) (s : EdSt)
    (cells : List (List M)) :
    edBuildLoop rec quiet n initial (k + 1) s cells = (do
      let (s1, ok) ← nextFringe s
      if !ok then
        if !edComplete s1 then throw .assertion
        edLoopDone rec n s1 cells
      else do
        let (s2, cells2) ← edLoopFringe rec quiet n (decide (s.fr < 0)) s1 cells
        edLoopCheck rec quiet n initial k s2 cells2) := by
  -- the two sides differ only in where the continuation of `let (…) ← if … then … else …` stands
  rw [edBuildLoop]
  congr 1
  funext ⟨s1, ok⟩
  dsimp only
  cases ok
  · rfl
  · simp only [Bool.not_true, Bool.false_eq_true, if_false]
    unfold edLoopFringe
    cases decide (s.fr < 0)
    · simp only [Bool.false_eq_true, if_false]
      cases quiet
      · simp only [Bool.false_eq_true, if_false]
        cases fringeRanges rec cells (diag s1.fr s1.fc s1.nf) <;> rfl
      · rfl
    · rfl

end GtModel.Lazy
