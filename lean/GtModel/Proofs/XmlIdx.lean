/-
  C01 for XML, per node: which children of the two nodes the sub-edits of one compound XML edit account for
  (`XMLElementEdit` over (tag, attrib, [text], children); `FixedLengthSequenceEdit` / `EditDistance` over the
  child tuples).  Mirrors Proofs/EditsIdx.lean for `XScript`.
-/
import GtModel.Proofs.EditsIdx
import GtModel.Proofs.XmlBasic
namespace GtModel.Xml
open GtModel
open GtModel.EditMatrix

attribute [-simp] List.getD_eq_getElem?_getD

def xfromIdx (subs : List XScript) : List Ix := (subs.filter fun s => !s.isInsert).map XScript.fi

/-- an `Insert` holds the inserted node's index in `fi` -/
def xtoIxOf (s : XScript) : Ix := if s.isInsert then s.fi else s.ti

def xtoIdx (subs : List XScript) : List Ix := (subs.filter fun s => !s.isRemove).map xtoIxOf

/-- an edit between two nodes (never a bare Insert / Remove): what `xmlEdits` and `kidsScript` return -/
def XScript.isTop (s : XScript) : Bool := !s.isInsert && !s.isRemove

theorem xMatch_top (c : Nat) : (xMatch c).isTop = true := rfl

theorem kidsScript_top (o : Opts) (fcs tcs : List XTree) (tbl : List (List XScript)) : (kidsScript o fcs tcs tbl).isTop = true := by
  unfold kidsScript
  split
  · rfl
  · split <;> rfl

theorem xmlEdits_top (o : Opts) (orc : Oracle) (fp tp : List Nat) (f t : XTree) :
    (xmlEdits o orc fp tp f t).isTop = true := by
  obtain ⟨ftag, fattr, ftext, fcs⟩ := f
  obtain ⟨ttag, tattr, ttext, tcs⟩ := t
  rw [xmlEdits_eq]
  split <;> rfl

/-- what the index lemmas of `kidsFixed` / `kidsEd` need of an arbitrary table; `kidsTbl_top` for the table of `xmlEdits` -/
def XTblTop (tbl : List (List XScript)) : Prop := ∀ i j, ((tbl.getD i []).getD j (xMatch 0)).isTop = true

theorem kidsTbl_top (o : Opts) (orc : Oracle) (fp tp : List Nat) (kf kt : Nat) (fcs tcs : List XTree) :
    XTblTop (kidsTbl o orc fp tp kf kt fcs tcs) :=
  tbl_all (P := fun s : XScript => s.isTop = true) _ _ rfl
    (kidsTbl_all (P := fun s => s.isTop = true) o orc fp tp kf kt fcs tcs (fun _ _ _ _ _ => xmlEdits_top ..))

theorem XScript.isTop_iff {s : XScript} : s.isTop = true ↔ s.isInsert = false ∧ s.isRemove = false := by
  simp [XScript.isTop]

theorem xtoIxOf_relabel_at (s : XScript) (f : Ix) (j : Nat) (h : s.isInsert = false) :
    xtoIxOf (s.relabel f (.at j)) = .at j := by
  simp [xtoIxOf, h]

theorem kidsFixed_idx (fcs tcs : List XTree) (tbl : List (List XScript)) (hT : XTblTop tbl) :
    xfromIdx (kidsFixed fcs tcs tbl).subs = ixRange fcs.length ∧
    xtoIdx (kidsFixed fcs tcs tbl).subs = ixRange tcs.length := by
  have h1 : fcs.length.min tcs.length ≤ fcs.length := Nat.min_le_left ..
  have h2 : fcs.length.min tcs.length ≤ tcs.length := Nat.min_le_right ..
  have hp := fun i => XScript.isTop_iff.1 (hT i i)
  constructor
  · exact posSeg_idx _ _ _ _ _ _ _ _ _ _ (.inl rfl) (fun i => ⟨by simp [(hp i).1], by simp⟩) (fun _ => ⟨rfl, rfl⟩)
      (fun _ => rfl) (by omega)
  · exact posSeg_idx _ xtoIxOf _ _ _ _ _ _ _ _ (.inr rfl)
      (fun i => ⟨by simp [(hp i).2], xtoIxOf_relabel_at _ _ _ (hp i).1⟩) (fun _ => ⟨rfl, rfl⟩) (fun _ => rfl) (by omega)

theorem kidsEd_idx (fcs tcs : List XTree) (pen : Nat) (tbl : List (List XScript)) (hT : XTblTop tbl) :
    xfromIdx (kidsEd fcs tcs pen tbl).subs = ixRange fcs.length ∧
    xtoIdx (kidsEd fcs tcs pen tbl).subs = ixRange tcs.length := by
  have hl := trimLens_le fcs tcs
  have hmf := middle_length fcs (trimLens fcs tcs)
  have hmt := middle_length tcs (trimLens fcs tcs)
  constructor
  · refine threeSeg_idx .frm _ _ _ _ _ _ _ _ _ _ _ (fun _ => ⟨rfl, rfl⟩) (fun _ => ⟨rfl, rfl⟩) ?_
      (by simp only [Side.pos, List.length_map]; omega)
    rintro ⟨m, rr, c⟩ _
    have := XScript.isTop_iff.1 (hT (c + (trimLens fcs tcs).1) (rr + (trimLens fcs tcs).1))
    cases m <;> simp [Side.skip, Side.pos, this.1, xInsert, xRemove] <;> decide
  · refine threeSeg_idx .to _ xtoIxOf _ _ _ _ _ _ _ _ _ (fun _ => ⟨rfl, rfl⟩) (fun _ => ⟨rfl, rfl⟩) ?_
      (by simp only [Side.pos, List.length_map]; omega)
    rintro ⟨m, rr, c⟩ _
    have := XScript.isTop_iff.1 (hT (c + (trimLens fcs tcs).1) (rr + (trimLens fcs tcs).1))
    cases m <;> simp [Side.skip, Side.pos, this.1, this.2, xtoIxOf, xInsert, xRemove] <;> decide

end GtModel.Xml
