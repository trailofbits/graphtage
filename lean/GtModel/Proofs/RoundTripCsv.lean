/-
  Lemmas for C12 (CSV): the `_csv.c` reader state machine applied to what the CSV formatter wrote.
-/
import GtModel.Model.RoundTrip

namespace GtModel.RoundTrip

theorem needsQuote_false (cell : Str) (h : needsQuote cell = false) :
    cell ≠ [] ∧ ∀ c ∈ cell, c ≠ 44 ∧ c ≠ 34 ∧ c ≠ 13 ∧ c ≠ 10 := by
  simpa [needsQuote, and_assoc] using h

theorem plainRun (cs : Str) : ∀ (fld : Str) (flds : List Str) (rows : List (List Str)),
    (∀ c ∈ cs, c ≠ 44 ∧ c ≠ 34 ∧ c ≠ 13 ∧ c ≠ 10) →
    cs.foldl Csv.feed ⟨.inField, fld, flds, rows, false⟩ = ⟨.inField, cs.reverse ++ fld, flds, rows, false⟩ := by
  induction cs with
  | nil => intros; rfl
  | cons c t ih =>
    intro fld flds rows h
    have hstep : Csv.feed ⟨.inField, fld, flds, rows, false⟩ c = ⟨.inField, c :: fld, flds, rows, false⟩ := by
      simp [Csv.feed, Csv.step, Csv.addChar, h c (by simp)]
    rw [List.foldl_cons, hstep, ih _ _ _ fun x hx => h x (by simp [hx])]
    simp

theorem quotedRun (cell : Str) : ∀ (fld : Str) (flds : List Str) (rows : List (List Str)),
    (doubleQuotes cell).foldl Csv.feed ⟨.inQuoted, fld, flds, rows, false⟩
      = ⟨.inQuoted, cell.reverse ++ fld, flds, rows, false⟩ := by
  induction cell with
  | nil => intros; rfl
  | cons c t ih =>
    intro fld flds rows
    have hstep : (if c = 34 then [34, 34] else [c]).foldl Csv.feed ⟨.inQuoted, fld, flds, rows, false⟩
        = ⟨.inQuoted, c :: fld, flds, rows, false⟩ := by
      by_cases hq : c = 34
      · simp [hq, Csv.feed, Csv.step, Csv.addChar]
      · by_cases hn : c = 10 <;> simp [hq, hn, Csv.feed, Csv.step, Csv.addChar, Csv.eol]
    have e : doubleQuotes (c :: t) = (if c = 34 then [34, 34] else [c]) ++ doubleQuotes t := by
      by_cases hq : c = 34 <;> simp [doubleQuotes, hq]
    rw [e, List.foldl_append, hstep, ih]
    simp

def fieldStart (st : CsvState) : Prop := st = .startRecord ∨ st = .startField

def afterCell (cell : Str) : CsvState := if needsQuote cell then .quoteInQuoted else .inField

theorem cellRun (cell : Str) (st : CsvState) (hst : fieldStart st) (flds : List Str) (rows : List (List Str)) :
    (printCell cell).foldl Csv.feed ⟨st, [], flds, rows, false⟩ = ⟨afterCell cell, cell.reverse, flds, rows, false⟩ := by
  cases hq : needsQuote cell with
  | true =>
    have h1 : Csv.feed ⟨st, [], flds, rows, false⟩ 34 = ⟨.inQuoted, [], flds, rows, false⟩ := by
      rcases hst with rfl | rfl <;> simp [Csv.feed, Csv.step]
    simp only [printCell, afterCell, hq, if_true, List.foldl_cons, List.foldl_append, List.foldl_nil, h1, quotedRun]
    simp [Csv.feed, Csv.step]
  | false =>
    obtain ⟨hne, hpl⟩ := needsQuote_false cell hq
    cases cell with
    | nil => exact absurd rfl hne
    | cons c t =>
      have h1 : Csv.feed ⟨st, [], flds, rows, false⟩ c = ⟨.inField, [c], flds, rows, false⟩ := by
        rcases hst with rfl | rfl <;> simp [Csv.feed, Csv.step, Csv.addChar, hpl c (by simp)]
      simp only [printCell, afterCell, hq, Bool.false_eq_true, if_false, List.foldl_cons, h1,
        plainRun t [c] flds rows fun x hx => hpl x (by simp [hx])]
      simp

theorem afterCell_feed (cell fld : Str) (flds : List Str) (rows : List (List Str)) :
    Csv.feed ⟨afterCell cell, fld, flds, rows, false⟩ 44 = ⟨.startField, [], fld.reverse :: flds, rows, false⟩ ∧
    Csv.feed ⟨afterCell cell, fld, flds, rows, false⟩ 10
      = ⟨.startRecord, [], [], (fld.reverse :: flds).reverse :: rows, false⟩ := by
  unfold afterCell
  split <;> simp [Csv.feed, Csv.step, Csv.saveField, Csv.eol]

theorem rowRun (cs : List Str) : ∀ (c : Str) (st : CsvState), fieldStart st → ∀ (flds : List Str) (rows : List (List Str)),
    (printRow (c :: cs) ++ [10]).foldl Csv.feed ⟨st, [], flds, rows, false⟩
      = ⟨.startRecord, [], [], (flds.reverse ++ c :: cs) :: rows, false⟩ := by
  induction cs with
  | nil =>
    intro c st hst flds rows
    simp [printRow, cellRun c st hst, afterCell_feed]
  | cons c' cs' ih =>
    intro c st hst flds rows
    have := ih c' .startField (Or.inr rfl) (c :: flds) rows
    simp only [List.foldl_append] at this
    simp [printRow, cellRun c st hst, afterCell_feed, this]

theorem tableRun (rows : List (List Str)) : ∀ (acc : List (List Str)),
    (printCsv rows).foldl Csv.feed ⟨.startRecord, [], [], acc, false⟩
      = ⟨.startRecord, [], [], rows.reverse ++ acc, false⟩ := by
  induction rows with
  | nil => intro acc; rfl
  | cons r rs ih =>
    intro acc
    cases r with
    | nil =>
      have h1 : Csv.feed ⟨.startRecord, [], [], acc, false⟩ 10 = ⟨.startRecord, [], [], [] :: acc, false⟩ := by
        simp [Csv.feed, Csv.step, Csv.eol]
      simp [printCsv, printRow, h1, ih]
    | cons c cs =>
      have hrow := rowRun cs c .startRecord (Or.inl rfl) [] acc
      rw [printCsv, ← List.singleton_append (l := printCsv rs), ← List.append_assoc, List.foldl_append, hrow, ih]
      simp

theorem translate_id : ∀ (t : Str), 13 ∉ t → translateNewlines t = t
  | [], _ => rfl
  | c :: t, h => by
    have hc : c ≠ 13 := fun e => h (by simp [e])
    have ht := translate_id t (fun e => h (by simp [e]))
    simp [translateNewlines, translateAux, hc] at ht ⊢
    exact ht

section Mem
variable {x : Nat} (h34 : x ≠ 34) (h44 : x ≠ 44) (h10 : x ≠ 10)

theorem mem_doubleQuotes (cell : Str) : x ∈ doubleQuotes cell ↔ x ∈ cell := by
  induction cell with
  | nil => simp [doubleQuotes]
  | cons c t ih => by_cases hq : c = 34 <;> simp [doubleQuotes, hq, ih]

include h34 in
theorem mem_printCell (cell : Str) : x ∈ printCell cell ↔ x ∈ cell := by
  unfold printCell
  split <;> simp [mem_doubleQuotes, h34]

include h34 h44 in
theorem mem_printRow (r : List Str) : x ∈ printRow r ↔ ∃ c ∈ r, x ∈ c := by
  fun_induction printRow r <;> simp_all [mem_printCell h34]

include h34 h44 h10 in
theorem mem_printCsv (rows : List (List Str)) : x ∈ printCsv rows ↔ ∃ r ∈ rows, ∃ c ∈ r, x ∈ c := by
  induction rows with
  | nil => simp [printCsv]
  | cons r rs ih => simp [printCsv, mem_printRow h34 h44, h10, ih]

end Mem

theorem lastIsNl_printCsv : ∀ rows : List (List Str), lastIsNl (printCsv rows) = true
  | [] => rfl
  | r :: rs => by
    have := lastIsNl_printCsv rs
    unfold lastIsNl at this ⊢
    simp only [printCsv, List.getLast?_append, List.getLast?_cons]
    cases h : (printCsv rs).getLast? <;> simp_all

end GtModel.RoundTrip
