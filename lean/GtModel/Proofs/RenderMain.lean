/-
  Well-formed scripts (`WF`) and the projection theorem for them: whatever well-formed script is rendered, deleting
  the inserted text leaves a complete JSON value whose tokens (commas ignored) are those of a value `ValPerm`-equal
  to the first node, deleting the removed text one `ValPerm`-equal to the second node.
-/
import GtModel.Proofs.RenderSeq
import GtModel.Proofs.RenderStr

namespace GtModel.Render
open GtModel

/-- the kinds whose printing looks at the sub-edits even when the `has_non_zero_cost()` gate is closed -/
def isCompound : Kind → Bool
  | .kvp | .ed | .fixed | .ms | .fk => true
  | _ => false

/-- a string edit names existing characters and keeps exactly the characters of either string, in order; the two
    strings differ (`StringNode.edits` returns a Match for equal strings) -/
def StrOK (a b : Str) (subs : List Script) : Prop :=
  StrResolved a b subs ∧ sideChars true a b subs = a ∧ sideChars false a b subs = b ∧ a ≠ b

/-- the key edit of a KeyValuePairEdit: `Match(k, k', 0)` for equal keys, otherwise `StringNode.edits` -/
def KeyOK (fk tk : Str) (ke : Script) : Prop :=
  (ke.kind = .match_ ∨ ke.kind = .str) ∧ (ke.cost = 0 → fk = tk) ∧ (ke.kind = .str → StrOK fk tk ke.subs)

/-- an edit printed behind the `has_non_zero_cost()` gate: with cost 0 the node's own formatter prints the FROM node
    (compound edits still show their sub-edits), so it must be equal to the to node -/
def Gate (x y : Item) (s : Script) : Prop :=
  s.kind ≠ .remove ∧ s.kind ≠ .insert ∧ (s.cost = 0 → isCompound s.kind = true ∨ ValPerm x.val y.val)

/-- the sub-edits of a sequence edit keep every child of either container (element-wise in order for lists,
    up to a permutation for mappings) -/
def Cover (x y : Item) (subs : List Script) : Prop :=
  ∃ o c, x.brackets = some (o, c) ∧ y.brackets = some (o, c) ∧
    (if o = 91 then
      ValPermL ((sideItems true x.children y.children subs).map Item.val) (x.children.map Item.val) ∧
      ValPermL ((sideItems false x.children y.children subs).map Item.val) (y.children.map Item.val)
    else
      ValPermP ((sideItems true x.children y.children subs).map Item.val) (x.children.map Item.val) ∧
      ValPermP ((sideItems false x.children y.children subs).map Item.val) (y.children.map Item.val))

mutual
/-- `s` is a well-formed edit of the node `x` into the node `y`.  A Remove prints its from-node only, so nothing is
    asked of `y`; an Insert's from-node IS the inserted to-child (`resolve` hands it over as both nodes): `x = y` -/
def WF : Item → Item → Script → Prop
  | x, y, .mk .match_ _ _ c _ => c > 0 ∨ ValPerm y.val x.val
  | _, _, .mk .replace _ _ c _ => c > 0
  | _, _, .mk .remove _ _ _ _ => True
  | x, y, .mk .insert _ _ _ _ => x = y
  | x, y, .mk .str _ _ _ subs =>
      ∃ a b, x = .tree (.leaf (.str a)) ∧ y = .tree (.leaf (.str b)) ∧ StrOK a b subs
  | x, y, .mk .kvp _ _ _ subs =>
      match x, y, subs with
      | .kv fk fv, .kv tk tv, [ke, ve] => KeyOK fk tk ke ∧ WF (.tree fv) (.tree tv) ve ∧ Gate (.tree fv) (.tree tv) ve
      | _, _, _ => False
  | x, y, .mk .ed _ _ _ subs => Cover x y subs ∧ WFSubs x.children y.children subs
  | x, y, .mk .fixed _ _ _ subs => Cover x y subs ∧ WFSubs x.children y.children subs
  | x, y, .mk .ms _ _ _ subs => Cover x y subs ∧ WFSubs x.children y.children subs
  | x, y, .mk .fk _ _ _ subs => Cover x y subs ∧ WFSubs x.children y.children subs
def WFSubs (fcs tcs : List Item) : List Script → Prop
  | [] => True
  | s :: rest => (∃ x y, resolve fcs tcs s = some (x, y) ∧ WF x y s) ∧ WFSubs fcs tcs rest
end

theorem wfSubs_iff (fcs tcs : List Item) (subs : List Script) :
    WFSubs fcs tcs subs ↔ ∀ s ∈ subs, ∃ x y, resolve fcs tcs s = some (x, y) ∧ WF x y s := by
  induction subs with
  | nil => simp [WFSubs]
  | cons s rest ih => simp [WFSubs, ih]

theorem scriptInd {P : Script → Prop}
    (h : ∀ k fi ti c subs, (∀ s ∈ subs, P s) → P (.mk k fi ti c subs)) : ∀ s, P s := by
  intro s
  induction hn : sizeOf s using Nat.strongRecOn generalizing s with
  | _ n ih =>
    subst hn
    cases s with
    | mk k fi ti c subs =>
      apply h; intro s hs
      have := List.sizeOf_lt_of_mem hs
      exact ih _ (by simp; omega) s rfl

theorem kindCases {P : Kind → Prop} (match_ : P .match_) (replace : P .replace) (remove : P .remove)
    (insert : P .insert) (str : P .str) (kvp : P .kvp) (seq : ∀ k, isSeqKind k = true → P k) : ∀ k, P k := by
  intro k
  cases k <;> first | assumption | exact seq _ rfl

theorem renderEdit_seq {k : Kind} (hk : isSeqKind k = true) (b : Bool) (x y : Item) (fi ti : Ix) (c : Nat)
    (subs : List Script) :
    renderEdit b x y (.mk k fi ti c subs) = seqWrap x (renderSubs x.children y.children 0 0 true subs) := by
  cases k <;> simp [isSeqKind] at hk <;> rw [renderEdit]

theorem wf_seq {k : Kind} (hk : isSeqKind k = true) (x y : Item) (fi ti : Ix) (c : Nat) (subs : List Script) :
    WF x y (.mk k fi ti c subs) ↔ Cover x y subs ∧ WFSubs x.children y.children subs := by
  cases k <;> simp [isSeqKind] at hk <;> rw [WF]

theorem wf_kvp {x y : Item} {fi ti : Ix} {c : Nat} {subs : List Script} (h : WF x y (.mk .kvp fi ti c subs)) :
    ∃ fk fv tk tv ke ve, x = .kv fk fv ∧ y = .kv tk tv ∧ subs = [ke, ve] ∧
      KeyOK fk tk ke ∧ WF (.tree fv) (.tree tv) ve ∧ Gate (.tree fv) (.tree tv) ve := by
  match x, y, subs, h with
  | .kv fk fv, .kv tk tv, [ke, ve], h => exact ⟨fk, fv, tk, tv, ke, ve, rfl, rfl, rfl, by simpa only [WF] using h⟩
  | .tree _, _, _, h => simp [WF] at h
  | .kv _ _, .tree _, _, h => simp [WF] at h
  | .kv _ _, .kv _ _, [], h => simp [WF] at h
  | .kv _ _, .kv _ _, [_], h => simp [WF] at h
  | .kv _ _, .kv _ _, _ :: _ :: _ :: _, h => simp [WF] at h

theorem renderEdit_false (x y : Item) (k : Kind) (fi ti : Ix) (c : Nat) (subs : List Script) :
    renderEdit false x y (.mk k fi ti c subs) =
      if isCompound k then renderEdit true x y (.mk k fi ti c subs) else x.plain .plain := by
  cases k <;> first | rfl | (rw [renderEdit.eq_def, renderEdit.eq_def]; rfl)

theorem absent_of_ne (side : Bool) {k : Kind} (hr : k ≠ .remove) (hi : k ≠ .insert) : absent side k = false := by
  cases side <;> simp [absent, hr, hi]

theorem valueSpec_text (z w : Item) (hw : w.litOK = true) (h : ValPerm w.val z.val) : ValueSpec z w.text :=
  ⟨(textOK w hw).1, w.val, h, (textOK w hw).2⟩

theorem proj_plain (side : Bool) (m : Mark) (z : Item) :
    proj (keepS side) (z.plain m) = if keepS side m then z.text else [] := proj_mk _ _ _

theorem proj_change (side : Bool) (x y : Item) :
    proj (keepS side) (x.plain .removed ++ arrowOut ++ y.plain .inserted) = (sideItem side (x, y)).text := by
  cases side <;> simp [proj_append, proj_plain, arrowOut, proj_mk, sideItem]

theorem key_proj (side : Bool) (fk tk : Str) (ke : Script) (h : KeyOK fk tk ke) :
    proj (keepS side) (renderEdit (decide (ke.cost > 0)) (.tree (.leaf (.str fk))) (.tree (.leaf (.str tk))) ke) =
      quote (if side then fk else tk) := by
  obtain ⟨hk, h0, hs⟩ := h
  cases ke with
  | mk k fi ti c subs =>
    simp only [Script.kind, Script.cost, Script.subs] at hk h0 hs ⊢
    by_cases hc : c > 0
    · rcases hk with rfl | rfl
      · simp only [hc, decide_true, renderEdit, if_true, proj_change]
        cases side <;> rfl
      · obtain ⟨hr, hf, ht, _⟩ := hs rfl
        simp only [hc, decide_true, renderEdit, if_true, proj_strOut side fk tk subs hr]
        cases side <;> simp [hf, ht]
    · have hc0 : c = 0 := by omega
      cases h0 hc0
      have : decide (c > 0) = false := by simp [hc0]
      rcases hk with rfl | rfl <;>
        simp [this, renderEdit, proj_plain, Item.text, jsonText, scalarText]

/-- what `main` proves by induction over the script -/
def Projects (s : Script) : Prop :=
  ∀ x y : Item, x.litOK = true → y.litOK = true → WF x y s → ∀ side, EditSpec side x y s

theorem gated (s : Script) (hm : Projects s) (x y : Item) (hx : x.litOK = true) (hy : y.litOK = true)
    (hwf : WF x y s) (hg : Gate x y s) (side : Bool) :
    ValueSpec (sideItem side (x, y)) (proj (keepS side) (renderEdit (decide (s.cost > 0)) x y s)) := by
  obtain ⟨hnr, hni, h0⟩ := hg
  have hmain := (editSpec_present (absent_of_ne side hnr hni)).1 (hm x y hx hy hwf side)
  by_cases hc : s.cost > 0
  · simpa [hc] using hmain
  · have hc0 : s.cost = 0 := by omega
    rw [decide_eq_false hc]
    cases s with
    | mk k fi ti c subs =>
      rw [renderEdit_false]
      split
      · exact hmain
      · rename_i hk
        rw [proj_plain, keepS_plain, if_pos rfl]
        have hxy : ValPerm x.val y.val := (h0 hc0).resolve_left hk
        cases side
        · exact valueSpec_text y x hx hxy
        · exact valueSpec_text x x hx (.refl _)

theorem seq_case (side : Bool) (x y : Item) (hx : x.litOK = true) (hy : y.litOK = true) (subs : List Script)
    (ih : ∀ s ∈ subs, Projects s) (hcov : Cover x y subs) (hsubs : WFSubs x.children y.children subs) :
    ValueSpec (sideItem side (x, y))
      (proj (keepS side) (seqWrap x (renderSubs x.children y.children 0 0 true subs))) := by
  obtain ⟨o, c, hbx, hby, hcover⟩ := hcov
  have hitems : ∀ s ∈ subs, ∃ a b, resolve x.children y.children s = some (a, b) ∧ EditSpec side a b s := by
    intro s hs
    obtain ⟨a, b, hres, hwf⟩ := (wfSubs_iff _ _ _).1 hsubs s hs
    obtain ⟨ha, hb⟩ := resolve_forall (children_litOK x hx) (children_litOK y hy) hres
    exact ⟨a, b, hres, ih s hs a b ha hb hwf side⟩
  obtain ⟨vs, hvs, hclosed, hT⟩ := seq_node side x y o c hbx subs hitems
  refine ⟨hclosed, .seq o c vs, ?_, hT⟩
  rw [val_of_brackets (sideItem side (x, y)) o c (by cases side <;> assumption)]
  rcases brackets_cases x o c hbx with ⟨_, _, rfl, rfl⟩ | ⟨_, _, rfl, rfl⟩
  · simp only [if_true] at hcover
    apply ValPerm.list
    cases side
    · exact ValPermL.trans' hvs hcover.2
    · exact ValPermL.trans' hvs hcover.1
  · simp only [show (123 : Nat) ≠ 91 by decide, if_false] at hcover
    apply ValPerm.map
    cases side
    · exact ValPermP.trans (ValPermP.ofL hvs) hcover.2
    · exact ValPermP.trans (ValPermP.ofL hvs) hcover.1

theorem main : ∀ s, Projects s := by
  apply scriptInd
  intro k fi ti c subs ih x y hx hy hwf side
  have hz : (sideItem side (x, y)).litOK = true := by cases side <;> assumption
  induction k using kindCases with
  | match_ =>
    refine (editSpec_present (by cases side <;> rfl)).2 ?_
    by_cases hc : c > 0
    · simp only [renderEdit, hc, if_true, proj_change]
      exact valueSpec_text _ _ hz (.refl _)
    · simp only [renderEdit, hc, if_true, if_false, proj_plain, keepS_plain]
      have hsim : ValPerm y.val x.val := (by simpa only [WF] using hwf : c > 0 ∨ _).resolve_left hc
      cases side
      · exact valueSpec_text y y hy (.refl _)
      · exact valueSpec_text x y hy hsim
  | replace =>
    refine (editSpec_present (by cases side <;> rfl)).2 ?_
    have hc : c > 0 := by simpa [WF] using hwf
    simp only [renderEdit, hc, if_true, proj_change]
    exact valueSpec_text _ _ hz (.refl _)
  | remove =>
    cases side
    · exact (editSpec_absent rfl).2 (by simp [renderEdit, proj_plain])
    · exact (editSpec_present rfl).2 (by simpa [renderEdit, proj_plain, sideItem] using valueSpec_text x x hx (.refl _))
  | insert =>
    cases (by simpa [WF] using hwf : x = y)
    cases side
    · exact (editSpec_present rfl).2 (by simpa [renderEdit, proj_plain, sideItem] using valueSpec_text x x hx (.refl _))
    · exact (editSpec_absent rfl).2 (by simp [renderEdit, proj_plain])
  | str =>
    simp only [WF] at hwf
    obtain ⟨a, b, rfl, rfl, hr, hf, ht, _⟩ := hwf
    refine (editSpec_present (by cases side <;> rfl)).2 ?_
    simp only [renderEdit, if_true, proj_strOut side a b subs hr]
    have := valueSpec_text _ _ hz (.refl _)
    cases side
    · rwa [ht]
    · rwa [hf]
  | kvp =>
    obtain ⟨fk, fv, tk, tv, ke, ve, rfl, rfl, rfl, hkey, hwv, hgv⟩ := wf_kvp hwf
    refine (editSpec_present (by cases side <;> rfl)).2 ?_
    obtain ⟨hcl, v', hv', hT⟩ := gated ve (ih ve (by simp)) (.tree fv) (.tree tv) hx hy hwv hgv side
    simp only [renderEdit, proj_append, proj_cons, keepS_plain, if_true, key_proj side fk tk ke hkey]
    generalize proj (keepS side) (renderEdit (decide (ve.cost > 0)) (.tree fv) (.tree tv) ve) = V at hcl hT
    refine ⟨by simpa using closedT_kv _ V hcl, .pair (if side then fk else tk) v', ?_, ?_⟩
    · cases side
      · exact ValPerm.pair (k := tk) hv'
      · exact ValPerm.pair (k := fk) hv'
    · have := T_kv (if side then fk else tk) V
      simp only [List.singleton_append] at this ⊢
      rw [this, hT, Val.toks]
  | seq k hk =>
    rw [wf_seq hk] at hwf
    have hr : k ≠ .remove := by rintro rfl; cases hk
    have hi : k ≠ .insert := by rintro rfl; cases hk
    refine (editSpec_present (s := .mk k fi ti c subs) (absent_of_ne side hr hi)).2 ?_
    rw [renderEdit_seq hk]
    exact seq_case side x y hx hy subs ih hwf.1 hwf.2

theorem render_spec (f t : Tree) (s : Script) (hf : litOK f = true) (ht : litOK t = true)
    (hwf : WF (.tree f) (.tree t) s) (hg : Gate (.tree f) (.tree t) s) (side : Bool) :
    ValueSpec (sideItem side (.tree f, .tree t)) (proj (keepS side) (render f t s)) :=
  gated s (main s) (.tree f) (.tree t) hf ht hwf hg side

end GtModel.Render
