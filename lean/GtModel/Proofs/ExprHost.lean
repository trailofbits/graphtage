/-
  The concrete host of the correspondence stream `expr` (`Model/ExprHost`: sentinel objects, a generator with its frame
  and namespaces, the model of `_safe_format` / `_safe_format_map`) meets the evaluator's host contract `HostOK` for
  `Pub`: whatever its operations record as an attribute read has a public name.  One lemma per function of the format
  machinery, from `hostGetattr` up to `cvCall`; the refusing formatter (`safe = true`) is the one the host is built with.
  The declarations are in the namespace of their one user, `GtModel.C19`.
-/
import GtModel.Proofs.Expr
import GtModel.Model.ExprHost

namespace GtModel.C19
open GtModel.Expr

def Pub (st : CState) : Prop := ∀ p ∈ st, ¬ (p.2.startsWith "_" = true)

theorem Pub.snoc {st : CState} (hp : Pub st) {name : String} (hn : ¬ (name.startsWith "_" = true)) (id : Nat) :
    Pub (st ++ [(id, name)]) :=
  List.forall_mem_append.2 ⟨hp, by simpa using hn⟩

theorem Pub.of_eq {α : Type} {x : α × CState} {a : α} {st' : CState} (h : Pub x.2) (heq : x = (a, st')) : Pub st' := by
  subst heq
  exact h

theorem hostGetattr_pub (d : HostDesc) (o : CV) (name : String) (st : CState)
    (hn : ¬ (name.startsWith "_" = true)) (hp : Pub st) : Pub (hostGetattr d o name st).2 := by
  unfold hostGetattr
  split
  · exact hp.snoc hn _
  · exact hp.snoc hn 0
  · exact hp.snoc hn 0
  · exact hp.snoc hn 0
  · exact hp
  · exact hp
  · exact hp
  · exact hp

theorem walkPath_pub (safe : Bool) (d : HostDesc) (path : List FStep) (hpath : path.any stepIsPrivate = false)
    (v : CV) (st : CState) (hp : Pub st) : Pub (walkPath safe d path v st).2 := by
  induction path generalizing v st with
  | nil => unfold walkPath; exact hp
  | cons stp rest ih =>
    simp only [List.any_cons, Bool.or_eq_false_iff] at hpath
    cases stp with
    | attr n =>
      have hn : ¬ (n.startsWith "_" = true) := by
        have := hpath.1; simp only [stepIsPrivate] at this; simp [this]
      unfold walkPath
      have h1 := hostGetattr_pub d v n st hn hp
      split
      · exact hp
      · split
        · next v' st' heq => exact ih hpath.2 v' st' (h1.of_eq heq)
        · next heq => exact h1.of_eq heq
    | idx k =>
      unfold walkPath
      dsimp only
      split
      · exact ih hpath.2 _ st hp
      · exact hp

theorem resolveRef_pub (d : HostDesc) (args : List CV) (mapping : Option CV) (r : FRef)
    (auto : Option Nat) (st : CState) (hp : Pub st) :
    Pub (resolveRef true d args mapping r auto st).2 := by
  unfold resolveRef
  simp only [Bool.true_and]
  split
  · exact hp
  · split
    · exact hp
    · rename_i hpriv
      simp only [Bool.not_eq_true] at hpriv
      split
      · exact hp
      · rename_i v _
        have h1 := walkPath_pub true d r.path hpriv v st hp
        split
        · next heq => exact h1.of_eq heq
        · rename_i o st' heq
          rw [heq] at h1
          split
          · exact h1
          · split <;> exact h1

theorem renderSpec_pub (d : HostDesc) (args : List CV) (mapping : Option CV) (ps : List SPiece)
    (auto : Option Nat) (st : CState) (hp : Pub st) :
    Pub (renderSpec true d args mapping ps auto st).2 := by
  induction ps generalizing auto st with
  | nil => unfold renderSpec; exact hp
  | cons p rest ih =>
    cases p with
    | lit s =>
      unfold renderSpec
      have h1 := ih auto st hp
      split <;> exact h1.of_eq (by assumption)
    | ref r =>
      unfold renderSpec
      have h1 := resolveRef_pub d args mapping r auto st hp
      split
      · next heq => exact h1.of_eq heq
      · rename_i o auto' st' heq
        rw [heq] at h1
        split
        · exact h1
        · have h2 := ih auto' st' h1
          split <;> exact h2.of_eq (by assumption)

theorem renderPieces_pub (d : HostDesc) (args : List CV) (mapping : Option CV) (ps : List FPiece)
    (auto : Option Nat) (st : CState) (hp : Pub st) :
    Pub (renderPieces true d args mapping ps auto st).2 := by
  induction ps generalizing auto st with
  | nil => unfold renderPieces; exact hp
  | cons p rest ih =>
    cases p with
    | lit s =>
      unfold renderPieces
      have h1 := ih auto st hp
      split <;> exact h1.of_eq (by assumption)
    | field f =>
      unfold renderPieces
      have h1 := resolveRef_pub d args mapping f.ref auto st hp
      split
      · next heq => exact h1.of_eq heq
      · rename_i o auto1 st1 heq
        rw [heq] at h1
        have h2 := renderSpec_pub d args mapping f.spec auto1 st1 h1
        split
        · next heq2 => exact h2.of_eq heq2
        · rename_i spec auto2 st2 heq2
          rw [heq2] at h2
          split
          · exact h2
          · have h3 := ih auto2 st2 h2
            split <;> exact h3.of_eq (by assumption)

theorem doFormat_pub (d : HostDesc) (fmt : String) (args : List CV) (mapping : Option CV) (st : CState)
    (hp : Pub st) : Pub (doFormat true d fmt args mapping st).2 := by
  unfold doFormat
  split
  · exact hp
  · rename_i ps _
    have h1 := renderPieces_pub d args mapping ps (some 0) st hp
    split <;> exact h1.of_eq (by assumption)

theorem cvCall_pub (d : HostDesc) (a b : CV) (st : CState) (hp : Pub st) : Pub (cvCall true d a b st).2 := by
  unfold cvCall
  split
  · exact hp
  · split
    · exact hp
    · split
      · split <;> exact hp
      · exact doFormat_pub _ _ _ _ _ hp
      · split
        · exact doFormat_pub _ _ _ _ _ hp
        · exact hp
      · split
        · exact doFormat_pub _ _ _ _ _ hp
        · exact hp
      · split
        · exact doFormat_pub _ _ _ _ _ hp
        · exact hp
      · exact hp

theorem evalGetattr_pub (d : HostDesc) (a : CV) (n : String) (hn : ¬ (n.startsWith "_" = true)) (st : CState)
    (hp : Pub st) : Pub (evalGetattr d a n st).2 := by
  unfold evalGetattr
  dsimp only
  split
  · exact hp.snoc hn _
  · exact hp

theorem concreteHost_ok (d : HostDesc) : HostOK (concreteHost d) Pub :=
  ⟨fun a n hn t h => evalGetattr_pub d a n hn t h, fun a b t h => cvCall_pub d a b t h, fun _ _ _ h => h, fun _ _ h => h,
   fun _ _ h => h, fun _ _ _ _ h => h, fun _ _ h => h, fun _ _ h => h⟩

end GtModel.C19
