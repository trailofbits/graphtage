/-
  `_consolidate` of the L4 heap model: multiset preservation, heap order, min pointer,
  and absence of the IndexError of the degree array.
-/
import GtModel.Proofs.HeapBasic

namespace GtModel.Heap
variable {K : Type} {cmp : Cmp K}

theorem nodeLt_nodel {a b : HNode K} (ha : a.deleted = false) : nodeLt cmp a b = cmp.lt a.key b.key := by
  simp [nodeLt, ha]

theorem nodeLe_nodel (T : Total cmp) {a b : HNode K} (ha : a.deleted = false) :
    nodeLe cmp a b = true ↔ cmp.lt b.key a.key = false := by
  simp only [nodeLe, nodeLt_nodel ha, Bool.or_eq_true, T.eq_iff]
  constructor
  · rintro (h | h)
    · exact T.asymm _ _ h
    · exact h.2
  · intro h
    cases h' : cmp.lt a.key b.key
    · exact Or.inr ⟨rfl, h⟩
    · exact Or.inl rfl

/-- what `_link` needs and keeps; `nodeLt` reads the `deleted` flag of roots only, so nothing is asked of inner nodes -/
def Wf (cmp : Cmp K) (l : List (HNode K)) : Prop := ∀ y ∈ l, Ord cmp y ∧ y.deleted = false

theorem Wf.perm {l l' : List (HNode K)} (h : Wf cmp l) (p : l.Perm l') : Wf cmp l' :=
  fun y hy => h y (p.mem_iff.2 hy)

theorem Wf.of_cons_append {x : HNode K} {l₁ l₂ : List (HNode K)} (h : Wf cmp (x :: (l₁ ++ l₂))) :
    Wf cmp l₁ ∧ Wf cmp (x :: l₂) :=
  List.forall_mem_append.1 (h.perm List.perm_middle.symm)

theorem wf_of_ords_nodel {l : List (HNode K)} (ho : Ords cmp l) (hd : NoDel l) : Wf cmp l :=
  fun y hy => ⟨ho y hy, nodel_flats hd (mem_flats_of_mem hy)⟩

/-- `l'` arises from `l` by linking roots -/
structure Linked (cmp : Cmp K) (l l' : List (HNode K)) : Prop where
  wf : Wf cmp l'
  ms_eq : ms l' = ms l
  root : ∀ y ∈ l', y.id ∈ l.map (·.id)

namespace Linked
variable {l l' l'' l₀ : List (HNode K)}

theorem refl (h : Wf cmp l) : Linked cmp l l :=
  ⟨h, rfl, fun _ hy => List.mem_map_of_mem hy⟩

theorem trans (h₁ : Linked cmp l l') (h₂ : Linked cmp l' l'') : Linked cmp l l'' :=
  ⟨h₂.wf, h₂.ms_eq.trans h₁.ms_eq, fun y hy => by
    obtain ⟨w, hw, he⟩ := List.mem_map.1 (h₂.root y hy)
    exact he ▸ h₁.root w hw⟩

theorem perm (h : Linked cmp l l') (p : l.Perm l'') : Linked cmp l'' l' :=
  ⟨h.wf, h.ms_eq.trans (ms_perm p), fun y hy => (p.map _).mem_iff.1 (h.root y hy)⟩

theorem append_left (h₀ : Wf cmp l₀) (h : Linked cmp l l') : Linked cmp (l₀ ++ l) (l₀ ++ l') where
  wf := List.forall_mem_append.2 ⟨h₀, h.wf⟩
  ms_eq := by rw [ms_append, ms_append, h.ms_eq]
  root y hy := by
    rw [List.map_append, List.mem_append]
    exact (List.mem_append.1 hy).imp (fun h => List.mem_map_of_mem h) (h.root y)

theorem link {p c : HNode K} (h : Wf cmp (p :: c :: l)) (hk : cmp.lt c.key p.key = false) :
    Linked cmp (p :: c :: l) (link p c :: l) := by
  obtain ⟨⟨hpo, hpd⟩, hcl⟩ := List.forall_mem_cons.1 h
  obtain ⟨⟨hco, -⟩, hl⟩ := List.forall_mem_cons.1 hcl
  refine ⟨List.forall_mem_cons.2 ⟨⟨ord_link hpo hco hk, hpd⟩, hl⟩, ?_, fun y hy => ?_⟩
  · rw [ms_link_cons, ms_cons_eq_add p (c :: l), ms_cons_eq_add c l, add_assoc]
  · rcases List.mem_cons.1 hy with rfl | hy
    · exact List.mem_cons_self
    · exact List.mem_cons_of_mem _ (List.mem_cons_of_mem _ (List.mem_map_of_mem hy))

end Linked

def somes (a : List (Option (HNode K))) : List (HNode K) := a.filterMap id

@[simp] theorem somes_nil : somes ([] : List (Option (HNode K))) = [] := rfl
@[simp] theorem somes_none (a : List (Option (HNode K))) : somes (none :: a) = somes a := rfl
@[simp] theorem somes_some (x : HNode K) (a) : somes (some x :: a) = x :: somes a := rfl
@[simp] theorem somes_append (a b : List (Option (HNode K))) : somes (a ++ b) = somes a ++ somes b :=
  List.filterMap_append
@[simp] theorem somes_replicate (n : Nat) : somes (List.replicate n (none : Option (HNode K))) = [] :=
  List.filterMap_eq_nil_iff.2 fun _ h => List.eq_of_mem_replicate h ▸ rfl

theorem somes_take_drop (a : List (Option (HNode K))) (d : Nat) : somes (a.take d) ++ somes (a.drop d) = somes a := by
  rw [← somes_append, List.take_append_drop]

theorem consGo_spec (T : Total cmp) (suf : List (Option (HNode K))) (x : HNode K) (r)
    (h : consGo cmp suf x = .ok r) (hw : Wf cmp (x :: somes suf)) :
    r.length = suf.length ∧ Linked cmp (x :: somes suf) (somes r) := by
  induction suf generalizing x r with
  | nil => cases h
  | cons o rest ih =>
    cases o with
    | none =>
      cases h
      exact ⟨rfl, Linked.refl hw⟩
    | some y =>
      simp only [consGo] at h
      split at h
      · rename_i r' hr'
        cases h
        have hyd : y.deleted = false := (hw y (by simp)).2
        rw [nodeLt_nodel hyd] at hr'
        -- whichever of `x`, `y` has the smaller key becomes the parent
        cases hlt : cmp.lt y.key x.key <;> simp only [hlt, Bool.false_eq_true, if_false, if_true] at hr'
        · have L := Linked.link hw hlt
          obtain ⟨hl, ih⟩ := ih _ r' hr' L.wf
          exact ⟨congrArg (· + 1) hl, L.trans ih⟩
        · have L := Linked.link (hw.perm (List.Perm.swap y x _)) (T.asymm _ _ hlt)
          obtain ⟨hl, ih⟩ := ih _ r' hr' L.wf
          exact ⟨congrArg (· + 1) hl, (L.trans ih).perm (List.Perm.swap x y _)⟩
      · cases h

theorem consGo_ok (suf : List (Option (HNode K))) (x : HNode K) (h : none ∈ suf) : ∃ r, consGo cmp suf x = .ok r := by
  induction suf generalizing x with
  | nil => cases h
  | cons o rest ih =>
    cases o with
    | none => exact ⟨_, rfl⟩
    | some y =>
      obtain ⟨r, hr⟩ := ih (link (if nodeLt cmp y x then y else x) (if nodeLt cmp y x then x else y))
        (by simpa using h)
      exact ⟨none :: r, by simp only [consGo, hr]⟩

theorem consInsert_spec (T : Total cmp) (a : List (Option (HNode K))) (x : HNode K) (a')
    (h : consInsert cmp a x = .ok a') (hw : Wf cmp (x :: somes a)) :
    a'.length = a.length ∧ Linked cmp (x :: somes a) (somes a') := by
  simp only [consInsert] at h
  split at h
  · rename_i r hr
    cases h
    rw [← somes_take_drop a x.kids.length] at hw ⊢
    obtain ⟨hwt, hwd⟩ := hw.of_cons_append
    obtain ⟨hl, L⟩ := consGo_spec T _ x r hr hwd
    refine ⟨?_, by rw [somes_append]; exact (L.append_left hwt).perm List.perm_middle⟩
    rw [List.length_append, hl, ← List.length_append, List.take_append_drop]
  · cases h

theorem consAll_spec (T : Total cmp) (xs : List (HNode K)) (a : List (Option (HNode K))) (a')
    (h : consAll cmp xs a = .ok a') (hw : Wf cmp (xs ++ somes a)) : Linked cmp (xs ++ somes a) (somes a') := by
  induction xs generalizing a with
  | nil =>
    cases h
    exact Linked.refl hw
  | cons x xs ih =>
    simp only [consAll] at h
    split at h
    · rename_i a1 ha1
      obtain ⟨hwxs, hwx⟩ := hw.of_cons_append
      have L1 := (consInsert_spec T a x a1 ha1 hwx).2.append_left hwxs
      exact (L1.trans (ih a1 h L1.wf)).perm List.perm_middle
    · cases h

theorem length_le_somes (l : List (Option (HNode K))) (h : none ∉ l) : l.length ≤ (somes l).length := by
  induction l with
  | nil => exact Nat.le_refl _
  | cons o os ih =>
    cases o with
    | none => exact absurd List.mem_cons_self h
    | some v => exact Nat.succ_le_succ (ih fun hc => h (List.mem_cons_of_mem _ hc))

/-- the degree array of length `n` never overflows as long as fewer than `n` nodes are being consolidated -/
theorem consInsert_ok (a : List (Option (HNode K))) (x : HNode K)
    (hn : (flats [x]).length + (flats (somes a)).length < a.length) : ∃ a', consInsert cmp a x = .ok a' := by
  have hnone : none ∈ a.drop x.kids.length := by
    -- otherwise the `a.length - degree` trees right of the slot and the `degree` children of `x` are too many nodes
    by_contra hc
    have h1 := length_le_somes _ hc
    have h2 := length_le_flats (somes (a.drop x.kids.length))
    have h3 := length_le_flats x.kids
    rw [← somes_take_drop a x.kids.length, flats_append, List.length_append] at hn
    rw [List.length_drop] at h1
    rw [flats_cons, flats_nil, List.append_nil, List.length_cons] at hn
    omega
  obtain ⟨r, hr⟩ := consGo_ok (cmp := cmp) _ x hnone
  exact ⟨a.take x.kids.length ++ r, by simp only [consInsert, hr]⟩

theorem consAll_ok (T : Total cmp) (xs : List (HNode K)) (a : List (Option (HNode K))) (hw : Wf cmp (xs ++ somes a))
    (hn : (flats xs).length + (flats (somes a)).length < a.length) : ∃ a', consAll cmp xs a = .ok a' := by
  induction xs generalizing a with
  | nil => exact ⟨a, rfl⟩
  | cons x xs ih =>
    rw [flats_cons, List.length_append] at hn
    obtain ⟨a1, ha1⟩ := consInsert_ok (cmp := cmp) a x
      (by rw [flats_cons, flats_nil, List.append_nil]; omega)
    obtain ⟨hwxs, hwx⟩ := hw.of_cons_append
    obtain ⟨hl1, L1⟩ := consInsert_spec T a x a1 ha1 hwx
    have hc := length_flats_of_ms L1.ms_eq
    rw [flats_cons, List.length_append] at hc
    obtain ⟨a', ha'⟩ := ih a1 (L1.append_left hwxs).wf (by omega)
    exact ⟨a', by simp only [consAll, ha1, ha']⟩

theorem lookup_ids_sublist (S L : List (HNode K)) :
    ((L.filterMap fun r => S.find? (·.id == r.id)).map (·.id)).Sublist (L.map (·.id)) := by
  induction L with
  | nil => exact List.Sublist.slnil
  | cons r L ih =>
    rw [List.filterMap_cons]
    cases h : S.find? (·.id == r.id) with
    | none => exact ih.cons _
    | some s =>
      have he : s.id = r.id := eq_of_beq (List.find?_some (p := fun x : HNode K => x.id == r.id) h)
      rw [List.map_cons, List.map_cons, ← he]
      exact ih.cons_cons s.id

/-- the root ring `consolidate` rebuilds by looking up, for every old root, the survivor of the same identity -/
theorem filterMap_find_perm (S L : List (HNode K)) (hS : (S.map (·.id)).Nodup) (hL : (L.map (·.id)).Nodup)
    (hsub : ∀ s ∈ S, s.id ∈ L.map (·.id)) : (L.filterMap fun r => S.find? (·.id == r.id)).Perm S := by
  refine (List.perm_ext_iff_of_nodup ((lookup_ids_sublist S L).nodup hL).of_map hS.of_map).2 fun s => ?_
  rw [List.mem_filterMap]
  constructor
  · rintro ⟨r, -, h⟩
    exact List.mem_of_find?_eq_some h
  · intro hs
    obtain ⟨r, hr, he⟩ := List.mem_map.1 (hsub s hs)
    refine ⟨r, hr, ?_⟩
    exact find?_id_eq hS hs he.symm

theorem pickMin_spec (T : Total cmp) (surv : List (HNode K)) (m0 : HNode K) (hd : ∀ t ∈ surv, t.deleted = false) :
    cmp.lt m0.key (pickMin cmp surv m0).key = false ∧
    (∀ t ∈ surv, cmp.lt t.key (pickMin cmp surv m0).key = false) ∧
    ((pickMin cmp surv m0 = m0 ∧ ∀ t ∈ surv, cmp.lt m0.key t.key = true) ∨ pickMin cmp surv m0 ∈ surv) := by
  induction surv generalizing m0 with
  | nil => exact ⟨T.irrefl _, (fun _ h => nomatch h), Or.inl ⟨rfl, (fun _ h => nomatch h)⟩⟩
  | cons t ts ih =>
    have htd : t.deleted = false := hd t List.mem_cons_self
    have hts : ∀ x ∈ ts, x.deleted = false := fun x hx => hd x (List.mem_cons_of_mem _ hx)
    rw [pickMin, List.foldl_cons, ← pickMin]
    by_cases hle : nodeLe cmp t m0 = true
    · rw [if_pos hle]
      have hle' := (nodeLe_nodel T htd).1 hle
      obtain ⟨h1, h2, h3⟩ := ih t hts
      refine ⟨T.ntrans _ _ _ hle' h1, List.forall_mem_cons.2 ⟨h1, h2⟩, Or.inr ?_⟩
      rcases h3 with ⟨h3, -⟩ | h3
      · exact h3.symm ▸ List.mem_cons_self
      · exact List.mem_cons_of_mem _ h3
    · rw [if_neg hle]
      have hlt : cmp.lt m0.key t.key = true := by
        cases h : cmp.lt m0.key t.key
        · exact absurd ((nodeLe_nodel T htd).2 h) hle
        · rfl
      obtain ⟨h1, h2, h3⟩ := ih m0 hts
      refine ⟨h1, List.forall_mem_cons.2 ⟨T.ntrans _ _ _ (T.asymm _ _ hlt) h1, h2⟩, ?_⟩
      rcases h3 with ⟨h3, h4⟩ | h3
      · exact Or.inl ⟨h3, List.forall_mem_cons.2 ⟨hlt, h4⟩⟩
      · exact Or.inr (List.mem_cons_of_mem _ h3)

theorem consolidate_spec (T : Total cmp) (n : Nat) (rs : List (HNode K)) (m0 : HNode K) (roots mid)
    (h : consolidate cmp n rs m0 = .ok (roots, mid))
    (ho : Ords cmp rs) (hd : NoDel rs) (hnd : (ids rs).Nodup) (hm0 : m0 ∈ rs) :
    ms roots = ms rs ∧ Ords cmp roots ∧
      ∃ r ∈ roots, r.id = mid ∧ ∀ r' ∈ roots, cmp.lt r'.key r.key = false := by
  simp only [consolidate] at h
  split at h
  · cases h
  · rename_i a ha
    cases h
    have L := consAll_spec T rs _ a ha (by simpa using wf_of_ords_nodel ho hd)
    rw [somes_replicate, List.append_nil] at L
    rw [show a.filterMap id = somes a from rfl]
    have hperm : (rs.filterMap fun r => (somes a).find? (·.id == r.id)).Perm (somes a) :=
      filterMap_find_perm (somes a) rs (top_ids_nodup (nodup_of_ms L.ms_eq.symm hnd)) (top_ids_nodup hnd) L.root
    obtain ⟨-, p2, p3⟩ := pickMin_spec T (somes a) m0 fun t ht => (L.wf t ht).2
    have hmem : pickMin cmp (somes a) m0 ∈ somes a := by
      -- `m0` lies in the tree of a survivor, whose key is not larger: `pickMin` cannot have kept `m0`
      refine p3.resolve_left fun ⟨_, p4⟩ => ?_
      have : item m0 ∈ items (somes a) :=
        (ms_eq_iff.1 L.ms_eq).mem_iff.2 (mem_items_of_mem hm0)
      obtain ⟨s, hs, hi⟩ := mem_items_root this
      exact Bool.false_ne_true ((root_le_all T s (L.wf s hs).1 _ hi).symm.trans (p4 s hs))
    exact ⟨(ms_perm hperm).trans L.ms_eq, fun r hr => (L.wf r (hperm.mem_iff.1 hr)).1,
      _, hperm.mem_iff.2 hmem, rfl, fun r' hr' => p2 r' (hperm.mem_iff.1 hr')⟩

theorem consolidate_ok (T : Total cmp) (n : Nat) (rs : List (HNode K)) (m0 : HNode K)
    (ho : Ords cmp rs) (hd : NoDel rs) (hn : (flats rs).length < n) : ∃ res, consolidate cmp n rs m0 = .ok res := by
  obtain ⟨a, ha⟩ := consAll_ok T rs (List.replicate n none) (by simpa using wf_of_ords_nodel ho hd) (by simpa using hn)
  simp only [consolidate, ha]
  exact ⟨_, rfl⟩

end GtModel.Heap
