/-
  L7 (continued): a CONCRETE finite host for the correspondence stream `expr`, and the stream handler.

  Values: ints, bools, strings, None, lists, tuples, dicts, sentinel objects (attribute tables with public
  and underscore-prefixed names), callable attributes of sentinels, `str.format` / `str.format_map`
  (bound and unbound), whitelisted builtins as opaque callables, float literals as opaque values.
  Everything else the real interpreter can do is outside this host: the harness does not ship such cases
  (`to_model` returns None), and the host answers `ModelScope:*` if one slips through, which shows up as a
  disagreement.

  REFLECTIVE OBJECTS.  A generator object (`CV.gen`) can be a value of an expression.  `get_member` and, with `safe`,
  `walkPath` (the traversal of `_SafeFormatter.get_field`, /repo expressions.py:86-95) refuse every attribute step on a
  generator, frame or code object (`cvReflective`); index steps are not vetted.  The walk generator → frame
  (`CV.refl .frame`) / code object (`.refl .code`) → the three namespaces of the frame (`.refl (.ns _)`, plain dicts
  whose KEYS may be underscore names) is reachable only with `concreteHostWith false`, the formatter without the
  refusals kept for the witnesses; what a namespace or a code object holds is `CV.opq`, and text rendered from any of
  them is `CV.ostr` ("some str").  The attribute tables are those of CPython 3.12 (`genAttr`, `frameAttr`, `codeAttr`);
  which keys the namespaces have is part of the host description (`NsDesc`, shipped by the harness from the real
  generator).

  `get_member` hands out `_safe_format` / `_safe_format_map` (a `string.Formatter` whose `get_field` refuses
  underscore attributes) instead of `str.format` / `str.format_map`.  Field traversal (`{0.attr[key]!r}`) is
  modelled: the attribute reads it performs are HOST-internal (they do not go through the evaluator's
  `get_member`) and are recorded in the host state; `GtModel.C19.concrete_host_no_underscore` shows that none of
  them has an underscore name.  `concreteHostWith false` is a formatter without that refusal (the PRE-FIX behaviour), kept for the witness
  that the old rule was unsafe.

  Only Lean core is imported.
-/
import GtModel.Model.Proto
import GtModel.Model.Expr

namespace GtModel.Expr
open Lean

/-- the three namespaces of a frame -/
inductive NsKind where
  | globals | locals | builtins
deriving Repr, Inhabited, DecidableEq

/-- reflective objects reachable from a generator by PUBLIC attribute names -/
inductive RKind where
  | frame | code | ns (w : NsKind)
deriving Repr, Inhabited, DecidableEq

inductive CV where
  | int (i : Int) | bool (b : Bool) | str (s : String) | none
  | list (xs : List CV) | tuple (xs : List CV) | dict (kvs : List (CV × CV))
  | sent (id : Nat)                          -- sentinel object
  | smeth (id : Nat) (name : String)         -- callable attribute of a sentinel
  | strmeth (self : String) (name : String)  -- `functools.partial(_safe_format[_map], '…')`
  | strfn (name : String)                    -- `_safe_format` / `_safe_format_map`
  | builtin (name : String)                  -- whitelisted builtin (opaque)
  | float (raw : String)                     -- float literal (opaque)
  | gen                                      -- a fresh generator object (one of `_REFLECTIVE_TYPES`)
  | refl (k : RKind)                         -- its frame / code object / a namespace dict of the frame
  | opq                                      -- a Python object this host does not describe (a value of a namespace, …)
  | ostr                                     -- a `str` whose text this host does not predict (rendered from the above)
deriving Repr, Inhabited

inductive MKind where
  | const (v : CV)   -- def m(self): return v            (v may be a private value read by the object itself)
  | ident            -- def m(self, a): return a
  | pair             -- def m(self, a, b): return (a, b)
  | gen              -- def m(self, a): yield …   (returns a generator object)
deriving Repr, Inhabited

structure SentDesc where
  id : Nat
  attrs : List (String × CV)
  meths : List (String × MKind)
deriving Repr, Inhabited

/-- the key sets of the namespaces of the generator's frame, and whether `f_globals['__builtins__']` is the very
    dict `f_builtins` (true for the globals of an imported module) -/
structure NsDesc where
  globals : List String := []
  locals : List String := []
  builtins : List String := []
  gbIsBuiltins : Bool := false
deriving Repr, Inhabited

structure HostDesc where
  sents : List SentDesc
  ns : NsDesc := {}
deriving Repr, Inhabited

/-- Host state of the concrete host: attribute reads performed INSIDE host operations (format traversal). -/
abbrev CState := List (Nat × String)

def scope (why : String) : Exc := "ModelScope:" ++ why

/-! ### Python equality, hashing, truth -/

def CV.num? : CV → Option Int
  | .int i => some i
  | .bool b => some (if b then 1 else 0)
  | _ => Option.none

mutual
  def pyEq : CV → CV → Bool
    | .int a, .int b => a == b
    | .int a, .bool b => a == (if b then 1 else 0)
    | .bool a, .int b => (if a then (1 : Int) else 0) == b
    | .bool a, .bool b => a == b
    | .str a, .str b => a == b
    | .none, .none => true
    | .list a, .list b => pyEqList a b
    | .tuple a, .tuple b => pyEqList a b
    | .dict a, .dict b => a.length == b.length && pyEqDict a b
    | .sent a, .sent b => a == b
    | .smeth a n, .smeth b m => a == b && n == m
    | .strfn a, .strfn b => a == b
    | .builtin a, .builtin b => a == b
    | _, _ => false
  def pyEqList : List CV → List CV → Bool
    | [], [] => true
    | a :: as, b :: bs => pyEq a b && pyEqList as bs
    | _, _ => false
  /-- every `(k, v)` of the first dict has an equal value under an equal key in the second -/
  def pyEqDict : List (CV × CV) → List (CV × CV) → Bool
    | [], _ => true
    | (k, v) :: rest, b => pyLookupEq k v b && pyEqDict rest b
  def pyLookupEq : CV → CV → List (CV × CV) → Bool
    | _, _, [] => false
    | k, v, (k', v') :: rest => if pyEq k k' then pyEq v v' else pyLookupEq k v rest
end

mutual
  def hashable : CV → Bool
    | .list _ => false
    | .dict _ => false
    | .tuple xs => hashableList xs
    | _ => true
  def hashableList : List CV → Bool
    | [] => true
    | x :: xs => hashable x && hashableList xs
end

def dictFind (kvs : List (CV × CV)) (k : CV) : Option CV :=
  (kvs.find? (fun kv => pyEq kv.1 k)).map (·.2)

def cvTruth : CV → Except Exc Bool
  | .int i => .ok (i != 0)
  | .bool b => .ok b
  | .str s => .ok (s != "")
  | .none => .ok false
  | .list xs => .ok (!xs.isEmpty)
  | .tuple xs => .ok (!xs.isEmpty)
  | .dict kvs => .ok (!kvs.isEmpty)
  | .float _ => .error (scope "float")
  | _ => .ok true

/-! ### str() / repr() -/

def reprStr (s : String) : String :=
  let cs := s.toList
  let q : Char := if cs.contains '\'' && !cs.contains '"' then '"' else '\''
  let body := cs.foldr (fun c acc => if c == '\\' || c == q then '\\' :: c :: acc else c :: acc) []
  String.ofList (q :: body ++ [q])

def joinSep (sep : String) : List String → String
  | [] => ""
  | [x] => x
  | x :: xs => x ++ sep ++ joinSep sep xs

/-- Text the host does not predict (`repr` of a generator / frame / code object / namespace / undescribed object)
    is rendered as this marker; a format result that contains it is `CV.ostr`.  U+FFFF is not printable, and the
    harness only ships printable strings, so no string of a shipped case contains it. -/
def opaqueMark : Char := '\uFFFF'
def opaqueText : String := String.singleton opaqueMark

mutual
  def cvRepr : CV → Except Exc String
    | .int i => .ok (toString i)
    | .bool b => .ok (if b then "True" else "False")
    | .str s => .ok (reprStr s)
    | .none => .ok "None"
    | .list xs => do let rs ← cvReprList xs; .ok ("[" ++ joinSep ", " rs ++ "]")
    | .tuple xs => do
        let rs ← cvReprList xs
        match rs with
        | [r] => .ok ("(" ++ r ++ ",)")
        | _ => .ok ("(" ++ joinSep ", " rs ++ ")")
    | .dict kvs => do let rs ← cvReprKVs kvs; .ok ("{" ++ joinSep ", " rs ++ "}")
    | .sent id => .ok ("<S" ++ toString id ++ ">")
    | .smeth id n => .ok ("<S" ++ toString id ++ "." ++ n ++ ">")
    | .gen => .ok opaqueText
    | .refl _ => .ok opaqueText
    | .opq => .ok opaqueText
    | .ostr => .ok opaqueText
    | _ => .error (scope "repr of builtin/float")
  def cvReprList : List CV → Except Exc (List String)
    | [] => .ok []
    | x :: xs => do let r ← cvRepr x; let rs ← cvReprList xs; .ok (r :: rs)
  def cvReprKVs : List (CV × CV) → Except Exc (List String)
    | [] => .ok []
    | (k, v) :: rest => do
        let a ← cvRepr k; let b ← cvRepr v; let rs ← cvReprKVs rest
        .ok ((a ++ ": " ++ b) :: rs)
end

def cvStr : CV → Except Exc String
  | .str s => .ok s
  | v => cvRepr v

/-! ### indexing, attributes -/

def seqIndex {α : Type} (xs : List α) (i : Int) : Except Exc α :=
  let n : Int := xs.length
  let j := if i < 0 then i + n else i
  if j < 0 || j ≥ n then .error "IndexError"
  else match xs[j.toNat]? with
    | some x => .ok x
    | Option.none => .error "IndexError"

def cvGetitem (a b : CV) : Except Exc CV :=
  match a with
  | .list xs => match b.num? with
    | some i => seqIndex xs i
    | Option.none => .error "TypeError"
  | .tuple xs => match b.num? with
    | some i => seqIndex xs i
    | Option.none => .error "TypeError"
  | .str s => match b.num? with
    | some i => (seqIndex s.toList i).map fun c => CV.str (String.singleton c)
    | Option.none => .error "TypeError"
  | .dict kvs =>
    if !hashable b then .error "TypeError"
    else match dictFind kvs b with
      | some v => .ok v
      | Option.none => .error "KeyError"
  | .float _ => .error (scope "float")
  | _ => .error "TypeError"

def findSent (d : HostDesc) (id : Nat) : Option SentDesc := d.sents.find? (·.id == id)

/-- `getattr(a, name)` on concrete values (no logging here). -/
def cvGetattr (d : HostDesc) (a : CV) (name : String) : Except Exc CV :=
  match a with
  | .sent id =>
    match findSent d id with
    | some sd => match sd.attrs.find? (·.1 == name) with
      | some (_, v) => .ok v
      | Option.none => .error "AttributeError"
    | Option.none => .error (scope "unknown sentinel")
  | .int i =>
    if name == "real" || name == "numerator" then .ok (.int i)
    else if name == "imag" then .ok (.int 0)
    else if name == "denominator" then .ok (.int 1)
    else .error "AttributeError"
  | .bool b =>
    if name == "real" || name == "numerator" then .ok (.int (if b then 1 else 0))
    else if name == "imag" then .ok (.int 0)
    else if name == "denominator" then .ok (.int 1)
    else .error "AttributeError"
  | .float _ => .error (scope "float")
  | _ => .error "AttributeError"

/-! ### arithmetic -/

def two64 : Int := 18446744073709551616
def two63 : Int := 9223372036854775808

/-- bitwise op on ints of magnitude < 2^63 through 64-bit two's complement -/
def bitop (f : Nat → Nat → Nat) (a b : Int) : Int :=
  let ua := (a % two64).toNat
  let ub := (b % two64).toNat
  let r : Int := (f ua ub : Nat)
  if r ≥ two63 then r - two64 else r

def isSubstr (needle hay : List Char) : Bool :=
  match hay with
  | [] => needle.isEmpty
  | _ :: rest => needle.isPrefixOf hay || isSubstr needle rest

def repeatList {α : Type} (xs : List α) (n : Int) : List α :=
  (List.replicate n.toNat xs).flatten

def cmpSym (sym : String) : Bool := sym == "<" || sym == ">" || sym == "<=" || sym == ">="

def cvBinop (sym : String) (a b : CV) : Except Exc CV :=
  match a, b with
  | .float _, _ => .error (scope "float")
  | _, .float _ => .error (scope "float")
  | _, _ =>
  if sym == "==" then .ok (.bool (pyEq a b))
  else if sym == "!=" then .ok (.bool (!pyEq a b))
  else if sym == "in" then
    match b with
    | .list xs => .ok (.bool (xs.any (pyEq a ·)))
    | .tuple xs => .ok (.bool (xs.any (pyEq a ·)))
    | .dict kvs => if !hashable a then .error "TypeError" else .ok (.bool ((dictFind kvs a).isSome))
    | .str s => match a with
      | .str n => .ok (.bool (isSubstr n.toList s.toList))
      | _ => .error "TypeError"
    | _ => .error "TypeError"
  else
  match a.num?, b.num? with
  | some x, some y =>
    let bothBool := match a, b with | .bool _, .bool _ => true | _, _ => false
    if sym == "+" then .ok (.int (x + y))
    else if sym == "-" then .ok (.int (x - y))
    else if sym == "*" then .ok (.int (x * y))
    else if sym == "//" then (if y == 0 then .error "ZeroDivisionError" else .ok (.int (Int.fdiv x y)))
    else if sym == "%" then (if y == 0 then .error "ZeroDivisionError" else .ok (.int (Int.fmod x y)))
    else if sym == "/" then (if y == 0 then .error "ZeroDivisionError" else .error (scope "true division"))
    else if sym == "<<" then (if y < 0 then .error "ValueError" else .ok (.int (x <<< y.toNat)))
    else if sym == ">>" then (if y < 0 then .error "ValueError" else .ok (.int (x >>> y.toNat)))
    else if sym == "&" then
      (if bothBool then .ok (.bool (x != 0 && y != 0)) else .ok (.int (bitop Nat.land x y)))
    else if sym == "|" then
      (if bothBool then .ok (.bool (x != 0 || y != 0)) else .ok (.int (bitop Nat.lor x y)))
    else if sym == "^" then
      (if bothBool then .ok (.bool ((x != 0) != (y != 0))) else .ok (.int (bitop Nat.xor x y)))
    else if sym == "<" then .ok (.bool (x < y))
    else if sym == ">" then .ok (.bool (x > y))
    else if sym == "<=" then .ok (.bool (x ≤ y))
    else if sym == ">=" then .ok (.bool (x ≥ y))
    else .error (scope ("operator " ++ sym))
  | _, _ =>
    match a, b with
    | .str s, .str t =>
      if sym == "+" then .ok (.str (s ++ t))
      else if sym == "<" then .ok (.bool (s < t))
      else if sym == ">" then .ok (.bool (t < s))
      else if sym == "<=" then .ok (.bool (!(t < s)))
      else if sym == ">=" then .ok (.bool (!(s < t)))
      else if sym == "%" then .error (scope "str % formatting")
      else .error "TypeError"
    | .str s, other =>
      if sym == "%" then .error (scope "str % formatting")
      else match other.num? with
        | some n => if sym == "*" then .ok (.str (String.ofList (repeatList s.toList n))) else .error "TypeError"
        | Option.none => .error "TypeError"
    | other, .str s =>
      match other.num? with
      | some n => if sym == "*" then .ok (.str (String.ofList (repeatList s.toList n))) else .error "TypeError"
      | Option.none => .error "TypeError"
    | .list xs, .list ys =>
      if sym == "+" then .ok (.list (xs ++ ys))
      else if cmpSym sym then .error (scope "list ordering")
      else .error "TypeError"
    | .tuple xs, .tuple ys =>
      if sym == "+" then .ok (.tuple (xs ++ ys))
      else if cmpSym sym then .error (scope "tuple ordering")
      else .error "TypeError"
    | .list xs, other =>
      match other.num? with
      | some n => if sym == "*" then .ok (.list (repeatList xs n)) else .error "TypeError"
      | Option.none => .error "TypeError"
    | other, .list xs =>
      match other.num? with
      | some n => if sym == "*" then .ok (.list (repeatList xs n)) else .error "TypeError"
      | Option.none => .error "TypeError"
    | .tuple xs, other =>
      match other.num? with
      | some n => if sym == "*" then .ok (.tuple (repeatList xs n)) else .error "TypeError"
      | Option.none => .error "TypeError"
    | other, .tuple xs =>
      match other.num? with
      | some n => if sym == "*" then .ok (.tuple (repeatList xs n)) else .error "TypeError"
      | Option.none => .error "TypeError"
    | .dict _, .dict _ => if sym == "|" then .error (scope "dict merge") else .error "TypeError"
    | _, _ => .error "TypeError"

def cvNeg : CV → Except Exc CV
  | .float _ => .error (scope "float")
  | v => match v.num? with
    | some x => .ok (.int (-x))
    | Option.none => .error "TypeError"

def cvInv : CV → Except Exc CV
  | .float _ => .error (scope "float")
  | v => match v.num? with
    | some x => .ok (.int (-x - 1))
    | Option.none => .error "TypeError"

/-! ### `str.format` / `str.format_map` -/

inductive FStep where
  | attr (name : String)
  | idx (key : String)
deriving Repr

/-- `name path conv` of a replacement field: `0.attr[key]!r` -/
structure FRef where
  name : String
  path : List FStep
  conv : Option Char
deriving Repr

/-- a piece of a format spec: literal text or a nested replacement field (which has no spec of its own) -/
inductive SPiece where
  | lit (s : String)
  | ref (r : FRef)
deriving Repr

structure FField where
  ref : FRef
  spec : List SPiece      -- `[]` when the field has no `:spec`
deriving Repr

inductive FPiece where
  | lit (s : String)
  | field (f : FField)
deriving Repr

def isWordChar (c : Char) : Bool := c.isAlphanum || c == '_'

/-- Parse the path part of a field: `(.attr | [key])*` -/
def parsePath : Nat → List Char → Option (List FStep)
  | 0, _ => Option.none
  | _, [] => some []
  | fuel + 1, '.' :: rest =>
    let name := rest.takeWhile isWordChar
    let rest' := rest.dropWhile isWordChar
    if name.isEmpty then Option.none
    else (parsePath fuel rest').map (FStep.attr (String.ofList name) :: ·)
  | fuel + 1, '[' :: rest =>
    let key := rest.takeWhile (· != ']')
    match rest.dropWhile (· != ']') with
    | ']' :: rest' =>
      if key.isEmpty then Option.none
      else (parsePath fuel rest').map (FStep.idx (String.ofList key) :: ·)
    | _ => Option.none
  | _, _ => Option.none

/-- Parse `name path (!r|!s)?` (no braces, no ':' inside). -/
def parseRef (body : List Char) : Option FRef :=
  let (main, conv?) : List Char × Option (Option Char) :=
    match body.reverse with
    | c :: '!' :: r => if c == 'r' || c == 's' then (r.reverse, some (some c)) else (body, Option.none)
    | _ => (body, some Option.none)
  match conv? with
  | Option.none => Option.none
  | some conv =>
    if main.contains '!' || main.contains ':' || main.contains '{' || main.contains '}' then Option.none
    else
      let name := main.takeWhile isWordChar
      let rest := main.dropWhile isWordChar
      (parsePath (rest.length + 1) rest).map fun p => { name := String.ofList name, path := p, conv := conv }

/-- Parse a format spec: literal characters and nested `{ref}` fields without a spec of their own. -/
def parseSpec : Nat → List Char → List Char → Option (List SPiece)
  | 0, _, _ => Option.none
  | _, acc, [] => some (if acc.isEmpty then [] else [SPiece.lit (String.ofList acc.reverse)])
  | fuel + 1, acc, '{' :: rest =>
    let body := rest.takeWhile (fun c => c != '}' && c != '{')
    match rest.dropWhile (fun c => c != '}' && c != '{') with
    | '}' :: rest' =>
      match parseRef body, parseSpec fuel [] rest' with
      | some r, some ps =>
        some ((if acc.isEmpty then [] else [SPiece.lit (String.ofList acc.reverse)]) ++ SPiece.ref r :: ps)
      | _, _ => Option.none
    | _ => Option.none
  | _, _, '}' :: _ => Option.none
  | fuel + 1, acc, c :: rest => parseSpec fuel (c :: acc) rest

/-- The text of a field up to its matching '}' (nested braces counted), and what follows it. -/
def splitField : Nat → Nat → List Char → List Char → Option (List Char × List Char)
  | 0, _, _, _ => Option.none
  | _, _, _, [] => Option.none
  | fuel + 1, depth, acc, '{' :: rest => splitField fuel (depth + 1) ('{' :: acc) rest
  | fuel + 1, depth, acc, '}' :: rest =>
    if depth == 0 then some (acc.reverse, rest) else splitField fuel (depth - 1) ('}' :: acc) rest
  | fuel + 1, depth, acc, c :: rest => splitField fuel depth (c :: acc) rest

/-- Parse the inside of a top-level `{…}`: `ref (':' spec)?` -/
def parseField (body : List Char) : Option FField :=
  let refPart := body.takeWhile (· != ':')
  match body.dropWhile (· != ':') with
  | [] => (parseRef refPart).map fun r => { ref := r, spec := [] }
  | _ :: specPart =>
    match parseRef refPart, parseSpec (specPart.length + 1) [] specPart with
    | some r, some sp => some { ref := r, spec := sp }
    | _, _ => Option.none

/-- Split a format string into literal text and fields.  `none` = outside the modelled class. -/
def parseFmt : Nat → List Char → List Char → Option (List FPiece)
  | 0, _, _ => Option.none
  | _, acc, [] => some (if acc.isEmpty then [] else [FPiece.lit (String.ofList acc.reverse)])
  | fuel + 1, acc, '{' :: '{' :: rest => parseFmt fuel ('{' :: acc) rest
  | fuel + 1, acc, '}' :: '}' :: rest => parseFmt fuel ('}' :: acc) rest
  | fuel + 1, acc, '{' :: rest =>
    match splitField (rest.length + 1) 0 [] rest with
    | some (body, rest') =>
      match parseField body, parseFmt fuel [] rest' with
      | some f, some ps =>
        some ((if acc.isEmpty then [] else [FPiece.lit (String.ofList acc.reverse)]) ++ FPiece.field f :: ps)
      | _, _ => Option.none
    | Option.none => Option.none
  | _, _, '}' :: _ => Option.none
  | fuel + 1, acc, c :: rest => parseFmt fuel (c :: acc) rest

def allDigits (s : String) : Bool := !s.isEmpty && s.toList.all Char.isDigit

/-- value of a string of ASCII digits (used only under `allDigits`) -/
def digitsToNat (s : String) : Nat := s.toList.foldl (fun a c => a * 10 + (c.toNat - '0'.toNat)) 0

/-! #### reflective objects: public attribute tables of CPython 3.12 -/

/-- `getattr(<fresh generator>, n)` -/
def genAttr (n : String) : Except Exc CV :=
  if n == "gi_frame" then .ok (.refl .frame)
  else if n == "gi_code" then .ok (.refl .code)
  else if n == "gi_running" || n == "gi_suspended" then .ok (.bool false)
  else if n == "gi_yieldfrom" then .ok .none
  else if n == "close" || n == "send" || n == "throw" then .ok .opq
  else .error "AttributeError"

/-- `getattr(<frame of a fresh generator>, n)` -/
def frameAttr (n : String) : Except Exc CV :=
  if n == "f_globals" then .ok (.refl (.ns .globals))
  else if n == "f_locals" then .ok (.refl (.ns .locals))
  else if n == "f_builtins" then .ok (.refl (.ns .builtins))
  else if n == "f_code" then .ok (.refl .code)
  else if n == "f_back" || n == "f_trace" then .ok .none
  else if n == "f_trace_lines" then .ok (.bool true)
  else if n == "f_trace_opcodes" then .ok (.bool false)
  else if n == "f_lasti" || n == "f_lineno" || n == "clear" then .ok .opq
  else .error "AttributeError"

def codeAttrNames : List String :=
  ["co_argcount", "co_cellvars", "co_code", "co_consts", "co_exceptiontable", "co_filename", "co_firstlineno",
   "co_flags", "co_freevars", "co_kwonlyargcount", "co_lines", "co_linetable", "co_lnotab", "co_name", "co_names",
   "co_nlocals", "co_positions", "co_posonlyargcount", "co_qualname", "co_stacksize", "co_varnames", "replace"]

/-- `getattr(<code object>, n)` -/
def codeAttr (n : String) : Except Exc CV :=
  if codeAttrNames.contains n then .ok .opq else .error "AttributeError"

def NsDesc.keys (nd : NsDesc) : NsKind → List String
  | .globals => nd.globals
  | .locals => nd.locals
  | .builtins => nd.builtins

/-- `ns[key]` for a namespace dict of the frame (all keys are strings) -/
def nsIndex (d : HostDesc) (w : NsKind) (key : CV) : Except Exc CV :=
  match key with
  | .str k =>
    if (d.ns.keys w).contains k then
      (if w == .globals && k == "__builtins__" && d.ns.gbIsBuiltins then .ok (.refl (.ns .builtins)) else .ok .opq)
    else .error "KeyError"
  | _ => .error "KeyError"

/-- host-internal getattr during field traversal: recorded in the host state when the object is a sentinel
    (under its id) or a reflective object (under id 0; sentinel ids start at 1) -/
def hostGetattr (d : HostDesc) (o : CV) (name : String) (st : CState) : Except Exc CV × CState :=
  match o with
  | .sent id => (cvGetattr d o name, st ++ [(id, name)])
  | .gen => (genAttr name, st ++ [(0, name)])
  | .refl .frame => (frameAttr name, st ++ [(0, name)])
  | .refl .code => (codeAttr name, st ++ [(0, name)])
  | .float _ => (.error (scope "float"), st)
  | .opq => (.error (scope "attribute of an undescribed object"), st)
  | .ostr => (.error (scope "attribute of an unpredicted str"), st)
  -- attributes that exist on other values (`{0.real}`, `{0.__class__}`, `{0.gi_frame.f_globals.keys}`) are outside the
  -- host; the harness does not ship such cases, every other name is an AttributeError
  | _ => (.error "AttributeError", st)

/-- objects of `_REFLECTIVE_TYPES` (generator, frame, code; modules are undescribed here) -/
def cvReflective : CV → Bool
  | .gen => true
  | .refl .frame => true
  | .refl .code => true
  | _ => false

/-- the traversal of `_SafeFormatter.get_field` (`safe`: an attribute step on a generator / frame / code object is
    refused, exactly as `get_member` refuses it; since /repo dfac3bc) resp. of `string.Formatter.get_field` -/
def walkPath (safe : Bool) (d : HostDesc) : List FStep → CV → CState → Except Exc CV × CState
  | [], o, st => (.ok o, st)
  | .attr n :: rest, o, st =>
    if safe && cvReflective o then (.error "ParseError", st)
    else
    match hostGetattr d o n st with
    | (.ok v, st') => walkPath safe d rest v st'
    | (.error e, st') => (.error e, st')
  | .idx k :: rest, o, st =>
    let key : CV := if allDigits k then .int (digitsToNat k) else .str k
    -- index steps are NOT vetted by `_SafeFormatter.get_field`: `[__builtins__]`, `[_private_global]` pass
    let r : Except Exc CV := match o with
      | .refl (.ns w) => nsIndex d w key
      | .opq => .error (scope "index of an undescribed object")
      | _ => cvGetitem o key
    match r with
    | .ok v => walkPath safe d rest v st
    | .error e => (.error e, st)

def stepIsPrivate : FStep → Bool
  | .attr n => n.startsWith "_"
  | .idx _ => false

/-- One replacement field of `string.Formatter._vformat` up to and including `convert_field`:
    the `auto_arg_index` bookkeeping (`some k` = the integer `k`, `none` = `False`), `_SafeFormatter.get_field`
    (refusal of underscore attributes when `safe`, then `get_value` and the traversal), the conversion.
    `mapping = none` is `_safe_format` (kwargs = {}), `some m` is `_safe_format_map` (args = ()). -/
def resolveRef (safe : Bool) (d : HostDesc) (args : List CV) (mapping : Option CV) (r : FRef)
    (auto : Option Nat) (st : CState) : Except Exc (CV × Option Nat) × CState :=
  -- `if field_name == '' … elif field_name.isdigit() …` (the WHOLE field name, path included)
  let numbered : Except Exc (CV × Option Nat) :=
    if r.name.isEmpty && r.path.isEmpty then
      match auto with
      | Option.none => .error "ValueError"
      | some k => .ok (.int k, some (k + 1))
    else if allDigits r.name && r.path.isEmpty then
      match auto with
      | some (_ + 1) => .error "ValueError"
      | _ => .ok (.int (digitsToNat r.name), Option.none)
    else if allDigits r.name then .ok (.int (digitsToNat r.name), auto)
    else .ok (.str r.name, auto)
  match numbered with
  | .error e => (.error e, st)
  | .ok (key, auto') =>
    -- `_SafeFormatter.get_field`: refuse underscore attributes before anything is looked up (`safe`)
    if safe && r.path.any stepIsPrivate then (.error "ParseError", st)
    else
      -- `string.Formatter.get_value`: args[key] for ints, kwargs[key] otherwise
      let first : Except Exc CV :=
        match key with
        | .int i =>
          match args[i.toNat]? with
          | some v => .ok v
          | Option.none => .error "IndexError"
        | k =>
          match mapping with
          | Option.none => .error "KeyError"
          | some m => cvGetitem m k
      match first with
      | .error e => (.error e, st)
      | .ok v =>
        match walkPath safe d r.path v st with
        | (.error e, st') => (.error e, st')
        | (.ok o, st') =>
          -- convert_field
          match r.conv with
          | Option.none => (.ok (o, auto'), st')
          | some c =>
            match (if c == 'r' then cvRepr o else cvStr o) with
            | .ok t => (.ok (.str t, auto'), st')
            | .error e => (.error e, st')

/-- `_vformat(format_spec, …, recursion_depth - 1, auto_arg_index)`: the text of the spec and the new counter.
    A nested field has an empty spec of its own, so it is rendered with `format(obj, '')`. -/
def renderSpec (safe : Bool) (d : HostDesc) (args : List CV) (mapping : Option CV) :
    List SPiece → Option Nat → CState → Except Exc (String × Option Nat) × CState
  | [], auto, st => (.ok ("", auto), st)
  | .lit s :: rest, auto, st =>
    match renderSpec safe d args mapping rest auto st with
    | (.ok (r, a), st') => (.ok (s ++ r, a), st')
    | (.error e, st') => (.error e, st')
  | .ref r :: rest, auto, st =>
    match resolveRef safe d args mapping r auto st with
    | (.error e, st') => (.error e, st')
    | (.ok (o, auto'), st') =>
      match cvStr o with
      | .error e => (.error e, st')
      | .ok t =>
        match renderSpec safe d args mapping rest auto' st' with
        | (.ok (r', a), st'') => (.ok (t ++ r', a), st'')
        | (.error e, st'') => (.error e, st'')

def padTo (align : Char) (width : Nat) (t : String) : String :=
  let n := t.length
  if width ≤ n then t
  else
    let pad := width - n
    let sp (k : Nat) : String := String.ofList (List.replicate k ' ')
    if align == '<' then t ++ sp pad
    else if align == '>' then sp pad ++ t
    else sp (pad / 2) ++ t ++ sp (pad - pad / 2)

/-- `format(obj, spec)` for the specs of the modelled class: empty, or `[<>^]?[1-9][0-9]?`. -/
def applySpec (o : CV) (spec : String) : Except Exc String :=
  if spec.isEmpty then cvStr o
  else
    let cs := spec.toList
    let (align?, ds) : Option Char × List Char :=
      match cs with
      | c :: rest => if c == '<' || c == '>' || c == '^' then (some c, rest) else (Option.none, cs)
      | [] => (Option.none, [])
    let okWidth := match ds with
      | [a] => a.isDigit && a != '0'
      | [a, b] => a.isDigit && a != '0' && b.isDigit
      | _ => false
    if !okWidth then .error (scope "format spec")
    else
      let w := digitsToNat (String.ofList ds)
      match o with
      | .str t => .ok (padTo (align?.getD '<') w t)
      | .int i => .ok (padTo (align?.getD '>') w (toString i))
      | .none => .error "TypeError"
      | .list _ => .error "TypeError"
      | .tuple _ => .error "TypeError"
      | .dict _ => .error "TypeError"
      | .sent _ => .error "TypeError"
      | .smeth _ _ => .error "TypeError"
      | .gen => .error "TypeError"         -- object.__format__ with a non-empty spec
      | .refl _ => .error "TypeError"      -- frame / code: object.__format__; namespaces: dict.__format__
      | _ => .error (scope "format spec on bool/opaque")

/-- `string.Formatter._vformat` over the top-level pieces. -/
def renderPieces (safe : Bool) (d : HostDesc) (args : List CV) (mapping : Option CV) :
    List FPiece → Option Nat → CState → Except Exc String × CState
  | [], _, st => (.ok "", st)
  | .lit s :: rest, auto, st =>
    match renderPieces safe d args mapping rest auto st with
    | (.ok r, st') => (.ok (s ++ r), st')
    | (.error e, st') => (.error e, st')
  | .field f :: rest, auto, st =>
    match resolveRef safe d args mapping f.ref auto st with
    | (.error e, st') => (.error e, st')
    | (.ok (o, auto1), st1) =>
      match renderSpec safe d args mapping f.spec auto1 st1 with
      | (.error e, st2) => (.error e, st2)
      | (.ok (spec, auto2), st2) =>
        match applySpec o spec with
        | .error e => (.error e, st2)
        | .ok t =>
          match renderPieces safe d args mapping rest auto2 st2 with
          | (.ok r, st3) => (.ok (t ++ r), st3)
          | (.error e, st3) => (.error e, st3)

def doFormat (safe : Bool) (d : HostDesc) (fmt : String) (args : List CV) (mapping : Option CV) (st : CState) :
    Except Exc CV × CState :=
  match parseFmt (fmt.length + 1) [] fmt.toList with
  | Option.none => (.error (scope "format string"), st)
  | some ps =>
    match renderPieces safe d args mapping ps (some 0) st with
    | (.ok s, st') => (.ok (if s.toList.contains opaqueMark then .ostr else .str s), st')
    | (.error e, st') => (.error e, st')

/-! ### calls -/

def starArgs : CV → Except Exc (List CV)
  | .list xs => .ok xs
  | .tuple xs => .ok xs
  | .str s => .ok (s.toList.map fun c => CV.str (String.singleton c))
  | .dict kvs => .ok (kvs.map (·.1))
  | .float _ => .error (scope "float")
  | _ => .error "TypeError"

def isCallable : CV → Bool
  | .smeth _ _ => true
  | .strmeth _ _ => true
  | .strfn _ => true
  | .builtin _ => true
  | _ => false

def cvCall (safe : Bool) (d : HostDesc) (a b : CV) (st : CState) : Except Exc CV × CState :=
  if !isCallable a then
    (match a, b with
     | .float _, _ => .error (scope "float")
     | _, .float _ => .error (scope "float")
     | _, _ => .error "TypeError", st)
  else
  match starArgs b with
  | .error e => (.error e, st)
  | .ok args =>
    match a with
    | .smeth id name =>
      match (findSent d id).bind (fun sd => sd.meths.find? (·.1 == name)) with
      | Option.none => (.error (scope "unknown method"), st)
      | some (_, .const v) => (if args.isEmpty then .ok v else .error "TypeError", st)
      | some (_, .ident) => (match args with | [x] => .ok x | _ => .error "TypeError", st)
      | some (_, .pair) => (match args with | [x, y] => .ok (.tuple [x, y]) | _ => .error "TypeError", st)
      | some (_, .gen) => (match args with | [_] => .ok .gen | _ => .error "TypeError", st)
    -- functools.partial(_safe_format, s)(*args)  /  functools.partial(_safe_format_map, s)(*args)
    | .strmeth s "format" => doFormat safe d s args Option.none st
    | .strmeth s _ =>
      (match args with
       | [m] => doFormat safe d s [] (some m) st
       | _ => (.error "TypeError", st))
    -- _safe_format(format_string, *args)  /  _safe_format_map(format_string, mapping)
    | .strfn "format" =>
      (match args with
       | .str s :: rest => doFormat safe d s rest Option.none st
       | _ => (.error "TypeError", st))
    | .strfn _ =>
      (match args with
       | [.str s, m] => doFormat safe d s [] (some m) st
       | _ => (.error "TypeError", st))
    | _ => (.error (scope "call of a builtin"), st)

/-! ### the host record -/

def pureOp {α : Type} (r : Except Exc α) : HRes CState α := fun st => (r, st)

/-- the evaluator-issued `getattr(a, n)` (from `get_member`): like format traversal, a read on a sentinel is recorded
    in the host state -/
def evalGetattr (d : HostDesc) (a : CV) (n : String) : HRes CState CV := fun st =>
  (cvGetattr d a n, match a with | .sent id => st ++ [(id, n)] | _ => st)

/-- `safe = true` is the current code; `safe = false` is a formatter WITHOUT the underscore refusal of
    `_SafeFormatter.get_field` (the pre-fix behaviour of `str.format`), kept for the witness in Props/C19. -/
def concreteHostWith (safe : Bool) (d : HostDesc) : Host CState CV where
  ofInt := CV.int
  ofFloat := CV.float
  ofStr := CV.str
  ofBool := CV.bool
  mkColl := fun c xs => match c with | .tuple => CV.tuple xs | .list => CV.list xs
  getattr := evalGetattr d
  call := cvCall safe d
  getitem := fun a b => pureOp (cvGetitem a b)
  neg := fun a => pureOp (cvNeg a)
  inv := fun a => pureOp (cvInv a)
  binop := fun s a b => pureOp (cvBinop s a b)
  truth := fun a => pureOp (cvTruth a)
  fmt := fun _ => pureOp (.ok ())   -- str() of a value of this host never raises
  isReflective := fun a => match a with | .gen => true | .refl .frame => true | .refl .code => true | _ => false
  isStrType := fun a => match a with | .builtin "str" => true | _ => false
  isStrInst := fun a => match a with | .str _ => true | _ => false
  safeFn := CV.strfn
  mkPartial := fun n a => match a with | .str s => CV.strmeth s n | _ => CV.strfn n

abbrev concreteHost (d : HostDesc) : Host CState CV := concreteHostWith true d

/-! ### JSON -/

partial def cvOfJson (j : Json) : Except String CV := do
  let a ← j.getArr?
  let tag ← (a[0]?.getD Json.null).getStr?
  let arg (i : Nat) : Json := a[i]?.getD Json.null
  match tag with
  | "i" => return .int (← (arg 1).getInt?)
  | "b" => return .bool (← (arg 1).getBool?)
  | "s" => return .str (← (arg 1).getStr?)
  | "n" => return .none
  | "l" => return .list (← (← (arg 1).getArr?).toList.mapM cvOfJson)
  | "t" => return .tuple (← (← (arg 1).getArr?).toList.mapM cvOfJson)
  | "d" =>
    let kvs ← (← (arg 1).getArr?).toList.mapM fun kv => do
      let p ← kv.getArr?
      let k ← cvOfJson (p[0]?.getD Json.null)
      let v ← cvOfJson (p[1]?.getD Json.null)
      pure (k, v)
    return .dict kvs
  | "S" => return .sent (← (arg 1).getNat?)
  | "M" => return .smeth (← (arg 1).getNat?) (← (arg 2).getStr?)
  | "sm" => return .strmeth (← (arg 1).getStr?) (← (arg 2).getStr?)
  | "sf" => return .strfn (← (arg 1).getStr?)
  | "bi" => return .builtin (← (arg 1).getStr?)
  | "f" => return .float (← (arg 1).getStr?)
  | "gen" => return .gen
  | "o?" => return .opq
  | "s?" => return .ostr
  | t => throw s!"bad value tag {t}"

partial def cvToJson : CV → Json
  | .int i => Json.arr #[Json.str "i", Json.num (JsonNumber.fromInt i)]
  | .bool b => Json.arr #[Json.str "b", Json.bool b]
  | .str s => Json.arr #[Json.str "s", Json.str s]
  | .none => Json.arr #[Json.str "n"]
  | .list xs => Json.arr #[Json.str "l", Json.arr (xs.map cvToJson).toArray]
  | .tuple xs => Json.arr #[Json.str "t", Json.arr (xs.map cvToJson).toArray]
  | .dict kvs => Json.arr #[Json.str "d", Json.arr (kvs.map fun (k, v) => Json.arr #[cvToJson k, cvToJson v]).toArray]
  | .sent id => Json.arr #[Json.str "S", Json.num (id : Nat)]
  | .smeth id n => Json.arr #[Json.str "M", Json.num (id : Nat), Json.str n]
  | .strmeth s n => Json.arr #[Json.str "sm", Json.str s, Json.str n]
  | .strfn n => Json.arr #[Json.str "sf", Json.str n]
  | .builtin n => Json.arr #[Json.str "bi", Json.str n]
  | .float r => Json.arr #[Json.str "f", Json.str r]
  | .gen => Json.arr #[Json.str "gen"]
  | .refl .frame => Json.arr #[Json.str "refl", Json.str "frame"]
  | .refl .code => Json.arr #[Json.str "refl", Json.str "code"]
  | .refl (.ns _) => Json.arr #[Json.str "refl", Json.str "ns"]
  | .opq => Json.arr #[Json.str "o?"]
  | .ostr => Json.arr #[Json.str "s?"]

def lookupOp (name : String) : Option OpSpec := opTable.find? (·.name == name)

def tokOfJson (j : Json) : Except String Tok := do
  let a ← j.getArr?
  let tag ← (a[0]?.getD Json.null).getStr?
  let arg (i : Nat) : Json := a[i]?.getD Json.null
  match tag with
  | "id" => return .ident (← (arg 1).getStr?) (← (arg 2).getNat?)
  | "int" => return .int (← (arg 1).getStr?) (← (arg 2).getInt?)
  | "float" => return .float (← (arg 1).getStr?)
  | "str" => return .str (← (arg 1).getStr?)
  | "fsc" =>
    let ct ← (arg 2).getStr?
    let c ← match ct with
      | "tuple" => pure Container.tuple
      | "list" => pure Container.list
      | _ => throw s!"bad container {ct}"
    return .fsc (← (arg 1).getInt?) c
  | "op" =>
    let n ← (arg 1).getStr?
    match lookupOp n with
    | some s => return .op s
    | Option.none => throw s!"unknown operator {n}"
  | "other" => return .other (← (arg 1).getStr?)
  | t => throw s!"bad token tag {t}"

def tokToJson : Tok → Json
  | .ident n _ => Json.arr #[Json.str "tok", Json.str "id", Json.str n]
  | .int raw _ => Json.arr #[Json.str "tok", Json.str "int", Json.str raw]
  | .float raw => Json.arr #[Json.str "tok", Json.str "float", Json.str raw]
  | .str s => Json.arr #[Json.str "tok", Json.str "str", Json.str s]
  | .fsc _ _ => Json.arr #[Json.str "tok", Json.str "fsc", Json.str ""]
  | .op s => Json.arr #[Json.str "tok", Json.str "op", Json.str s.name]
  | .other raw => Json.arr #[Json.str "tok", Json.str "other", Json.str raw]

def mkindOfJson (j : Json) : Except String MKind := do
  let a ← j.getArr?
  let tag ← (a[0]?.getD Json.null).getStr?
  match tag with
  | "const" => return .const (← cvOfJson (a[1]?.getD Json.null))
  | "ident" => return .ident
  | "pair" => return .pair
  | "gen" => return .gen
  | t => throw s!"bad method kind {t}"

def pairsOfJson {α : Type} (f : Json → Except String α) (j : Json) : Except String (List (String × α)) := do
  let a ← j.getArr?
  a.toList.mapM fun kv => do
    let p ← kv.getArr?
    let k ← (p[0]?.getD Json.null).getStr?
    let v ← f (p[1]?.getD Json.null)
    pure (k, v)

def sentOfJson (j : Json) : Except String SentDesc := do
  let id ← getNat j "id"
  let attrs ← pairsOfJson cvOfJson (← j.getObjVal? "attrs")
  let meths ← pairsOfJson mkindOfJson (← j.getObjVal? "meths")
  return { id := id, attrs := attrs, meths := meths }

def strListOfJson (j : Json) : Except String (List String) := do
  (← j.getArr?).toList.mapM fun x => x.getStr?

/-- optional `"refl": {"g": [keys of f_globals], "l": […f_locals], "b": […f_builtins], "gb": bool}` -/
def nsOfJson (j : Json) : Except String NsDesc :=
  match j.getObjVal? "refl" with
  | .error _ => pure {}
  | .ok r => do
    let g ← strListOfJson (← r.getObjVal? "g")
    let l ← strListOfJson (← r.getObjVal? "l")
    let b ← strListOfJson (← r.getObjVal? "b")
    let gb ← (← r.getObjVal? "gb").getBool?
    pure { globals := g, locals := l, builtins := b, gbIsBuiltins := gb }

/-- Stream `expr`. Input: {"tokens": […], "locals": [[name, value]…], "sentinels": […], "refl"?: {…}}.  Globals are
    the generated `defaultGlobals` names bound to opaque builtins. -/
def exprHandler : Handler := fun j => do
  let toks ← (← getArr j "tokens").toList.mapM tokOfJson
  let locals ← pairsOfJson cvOfJson (← j.getObjVal? "locals")
  let sents ← (← getArr j "sentinels").toList.mapM sentOfJson
  let d : HostDesc := { sents := sents, ns := (← nsOfJson j) }
  let globals : Env CV := defaultGlobals.map fun n => (n, CV.builtin n)
  let r := eval (concreteHost d) locals globals toks []
  let res : Json := match r.1 with
    | .ok (.obj o) => Json.arr #[Json.str "ok", cvToJson o]
    | .ok (.tok t) => Json.arr #[Json.str "ok", tokToJson t]
    | .error e => Json.arr #[Json.str "exc", Json.str e]
  let reads := r.2.reads.map fun x => Json.arr #[cvToJson x.obj, Json.str x.name, Json.bool x.viaGetattr]
  let host := (r.2.hs.filter fun p => p.2.startsWith "_").map fun p => Json.arr #[Json.num (p.1 : Nat), Json.str p.2]
  return Json.mkObj [
    ("res", res),
    ("reads", Json.arr reads.toArray),
    ("host", Json.arr host.toArray),
    ("names", Json.arr (r.2.resolved.map Json.str).toArray)
  ]

end GtModel.Expr
