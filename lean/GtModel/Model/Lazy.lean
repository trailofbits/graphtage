/-
  L3: OPERATIONAL semantics of graphtage's diff engine — lazy, state-carrying refinement.

  Every edit object is a *machine* `M`; the protocol methods are state transformers in `R = Except Err`:

      bounds   : M → R (M × Iv)          `bounds()`  (NOT side-effect free: `EditDistance.bounds()` builds the script,
                                                       fully tightens the last cell and frees the matrix)
      tighten  : M → R (M × Bool)        `tighten_bounds()`
      complete : M → R (M × Bool)        `is_complete()`
      onDiff   : M → R M                 `on_diff()`  = `edits()` recursively (what `TreeNode.diff` does at the end)
      dump     : M → R (M × DScript)     the harness' script dump (forces `edits()` and fully tightens leaves)

  Classes (one constructor each):
      const   Match / Replace / Remove / Insert                               edits.py
      kvp     KeyValuePairEdit (short-circuit `or`)                           graphtage.py
      str     StringEdit, wrapping an `ed` over single characters             graphtage.py
      fixed   FixedLengthSequenceEdit + repeat_until_tightened                sequences.py, bounds.py
      ed      EditDistance: fringe row/col, `_last_fringe`, `costs`/`path_costs`, matrix freed by `_cleanup`,
              the `__edits` cache, the `quiet` flag                            levenshtein.py
      coll    EditCollection with explode_edits=False (FixedKeyDictNodeEdit): `_edit_iter`, `_sub_edits`, `_cost`
              memo                                                             edits.py
      ms      MultiSetEdit + WeightedBipartiteMatcher (section `WeightedBipartiteMatcher and MultiSetEdit`)  multiset.py, matching.py

  Recursion is OPEN: the body of every method takes the methods for the children as a record `Ops`; `mkOps q F n` ties
  the knot by recursion on the nesting depth `n`; every `while` loop of the Python code gets at most `F` iterations.
  Running out of either is `Err.fuel`; the theorems show it never happens for `F` above the machine's measure and `n` at
  least its height, and that results depend on neither.

  Error enum: what Python would raise, by cause.  `invalidated` is not an exception: it marks the point where an
  `EditCollection` would set `valid = False` (the model stops there; the theorems show it is unreachable on the
  domain `Tree.fkOK`; outside that domain it IS reached: finding D24, see NOTES_C04).

  Lean core only.
-/
import GtModel.Model.Edits

namespace GtModel.Lazy
open Lean
open GtModel
open GtModel.EditMatrix (Move Cell step)

inductive Err where
  | fuel          -- a loop / the recursion ran out of fuel (non-termination of the Python code)
  | freed         -- `self.edit_matrix[...]` after `_cleanup` set it to None (TypeError)
  | assertion     -- an `assert` of the Python code failed
  | range         -- `Range(lo, hi)` with hi < lo (ValueError)
  | invalidated   -- an EditCollection declared itself invalid
  | emptyMin      -- `min()` / `sum()` of an empty sequence (ValueError / AttributeError)
  | index         -- list / array index out of range
  | oracle        -- an oracle answer violates its contract
  | shape         -- the machine is not of the class the caller expects
deriving DecidableEq, Repr, Inhabited

abbrev R := Except Err

/-- a finite cost interval `Range(lo, hi)` -/
structure Iv where
  lo : Nat
  hi : Nat
deriving DecidableEq, Repr, Inhabited

namespace Iv
def definitive (a : Iv) : Bool := a.lo == a.hi
def add (a b : Iv) : Iv := ⟨a.lo + b.lo, a.hi + b.hi⟩
def point (n : Nat) : Iv := ⟨n, n⟩
/-- the constructor `Range(lo, hi)` -/
def mk? (lo hi : Nat) : R Iv := if hi < lo then throw .range else pure ⟨lo, hi⟩
/-- `sub in self` -/
def contains (self sub : Iv) : Bool := decide (self.lo ≤ sub.lo) && decide (sub.hi ≤ self.hi)
def toJson (a : Iv) : Json := Json.arr #[Json.num (a.lo : Nat), Json.num (a.hi : Nat)]
end Iv

structure Lbl where
  kind : Kind
  fi : Ix := .none
  ti : Ix := .none
deriving Repr, Inhabited

/-- `EditDistance` minus its cells -/
structure EdSt where
  pre : Nat                 -- len(shared_prefix)
  suf : Nat                 -- len(reversed_shared_suffix)
  flen : Nat                -- len of the untrimmed from sequence
  tlen : Nat
  lb0 : Nat                 -- constant_cost
  ub0 : Nat                 -- cost_upper_bound
  rem : List Nat            -- bounds of Remove(from_seq[c]) (size + penalty)
  ins : List Nat            -- bounds of Insert(to_seq[r])
  fr : Int := -1            -- _fringe_row
  fc : Nat := 0             -- _fringe_col
  lastFringe : List (Nat × Nat) := []
  costs : List (List Nat)   -- (nt+1) × (nf+1)
  paths : List (List Nat)
  freed : Bool := false     -- edit_matrix is None
  cache : Option (List (Move × Nat × Nat)) := none   -- __edits (back-trace, corner first): move entering cell (r, c)
deriving Repr, Inhabited

def EdSt.nf (s : EdSt) : Nat := s.rem.length
def EdSt.nt (s : EdSt) : Nat := s.ins.length

/-- `EditCollection` minus its sub-edits -/
structure CollSt where
  ub0 : Nat                       -- _cost_upper_bound (= super().bounds().upper_bound)
  cost : Option Iv := none        -- _cost memo
  iterDone : Bool := false        -- _edit_iter is None
  inits : List Nat                -- initial_bounds.upper_bound of the expanded sub-edits (parallel to subs)
  pinits : List Nat               -- ... of the pending ones
deriving Repr, Inhabited

/-- `WeightedBipartiteMatcher` minus its edges.  The two oracle answers are stored at construction. -/
structure WmSt where
  nf : Nat                        -- len(from_nodes)
  nt : Nat
  distinct : Bool := false        -- _edges_are_distinct
  mtch : Option (List (Nat × Nat)) := none    -- _match: (from index, to index), in dict order
  memo : Option Iv := none        -- _bounds
  assign : List (Nat × Nat)       -- ORACLE: the assignment solver's answer (a partial injection, sorted by from index)
  mdCounts : List (List Nat)      -- ORACLE: tighten_bounds() steps every edge receives inside make_distinct
deriving Repr, Inhabited

/-- `MultiSetEdit` minus its machines -/
structure MsSt where
  remCosts : List Nat             -- bounds of Remove(r) for r in to_remove.elements()  (= matcher from-nodes)
  insCosts : List Nat
  remIdx : List Nat               -- child index (label) of every to_remove element
  insIdx : List Nat
  nMatch : List Script            -- `self._edits` (Match(n, n, 0) of common elements)
deriving Repr, Inhabited

inductive M where
  | const (l : Lbl) (c : Nat)
  | kvp (l : Lbl) (k v : M)
  | str (l : Lbl) (e : M)
  | fixed (l : Lbl) (subs : List M) (tail : List Script)
  | ed (l : Lbl) (s : EdSt) (cells : List (List M))        -- cells[r][c] = edit_matrix[r+1][c+1]
  | coll (l : Lbl) (s : CollSt) (pending subs : List M)
  | ms (l : Lbl) (s : MsSt) (kvps : List M) (w : WmSt) (edges : List (List M))
deriving Repr, Inhabited

def M.lbl : M → Lbl
  | .const l _ => l | .kvp l _ _ => l | .str l _ => l | .fixed l _ _ => l | .ed l _ _ => l | .coll l _ _ _ => l
  | .ms l _ _ _ _ => l

def M.relabel (m : M) (fi ti : Ix) : M :=
  match m with
  | .const l c => .const { l with fi := fi, ti := ti } c
  | .kvp l k v => .kvp { l with fi := fi, ti := ti } k v
  | .str l e => .str { l with fi := fi, ti := ti } e
  | .fixed l s t => .fixed { l with fi := fi, ti := ti } s t
  | .ed l s c => .ed { l with fi := fi, ti := ti } s c
  | .coll l s p q => .coll { l with fi := fi, ti := ti } s p q
  | .ms l s k w e => .ms { l with fi := fi, ti := ti } s k w e

/-- the script dump: like L2's `Script`, but a cost may still be an interval -/
inductive DScript where
  | mk (kind : Kind) (fi ti : Ix) (cost : Iv) (subs : List DScript)
deriving Repr, Inhabited

def DScript.ofScript : Script → DScript
  | .mk k f t c _ => .mk k f t (Iv.point c) []

/-- one recorded `make_distinct` call of a matcher: the matcher's node paths and the step counts per edge -/
structure MdEntry where
  f : List (List Nat)
  t : List (List Nat)
  counts : List (List Nat)
deriving Repr, Inhabited

/-- oracle answers: the assignment solver's answers (as in L2) and, per matcher, the number of `tighten_bounds()`
    steps each edge received inside `make_distinct` -/
structure Orc where
  assign : Oracle := []
  md : List MdEntry := []
deriving Repr, Inhabited

def Orc.mdLookup (orc : Orc) (fps tps : List (List Nat)) : List (List Nat) :=
  match orc.md.find? (fun e => e.f == fps && e.t == tps) with
  | some e => e.counts
  | none => []

/-- the methods of the children -/
structure Ops where
  bounds : M → R (M × Iv)
  tighten : M → R (M × Bool)
  complete : M → R (M × Bool)
  onDiff : M → R M
  dump : M → R (M × DScript)

/-! ### small helpers -/

def tget (t : List (List Nat)) (r c : Nat) : R Nat :=
  match t[r]? with
  | none => throw .index
  | some row => match row[c]? with
    | none => throw .index
    | some v => pure v

def tset (t : List (List Nat)) (r c v : Nat) : R (List (List Nat)) :=
  match t[r]? with
  | none => throw .index
  | some row => if c < row.length then pure (t.set r (row.set c v)) else throw .index

def mget (t : List (List M)) (r c : Nat) : R M :=
  match t[r]? with
  | none => throw .index
  | some row => match row[c]? with
    | none => throw .index
    | some v => pure v

def mset (t : List (List M)) (r c : Nat) (v : M) : R (List (List M)) :=
  match t[r]? with
  | none => throw .index
  | some row => if c < row.length then pure (t.set r (row.set c v)) else throw .index

def lget {α : Type} (l : List α) (i : Nat) : R α :=
  match l[i]? with
  | none => throw .index
  | some v => pure v

def minList : List Nat → R Nat
  | [] => throw .emptyMin
  | x :: xs => pure (xs.foldl Nat.min x)

def insertNat (x : Nat) : List Nat → List Nat
  | [] => [x]
  | y :: ys => if x ≤ y then x :: y :: ys else y :: insertNat x ys

def sortNat : List Nat → List Nat
  | [] => []
  | x :: xs => insertNat x (sortNat xs)

/-! ### const, kvp, str -/

def kvpBounds (rec : Ops) (l : Lbl) (k v : M) : R (M × Iv) := do
  let (k', bk) ← rec.bounds k
  let (v', bv) ← rec.bounds v
  pure (.kvp l k' v', bk.add bv)

def kvpTighten (rec : Ops) (l : Lbl) (k v : M) : R (M × Bool) := do
  let (k', r) ← rec.tighten k
  if r then pure (.kvp l k' v, true)
  else
    let (v', r2) ← rec.tighten v
    pure (.kvp l k' v', r2)

/-! ### FixedLengthSequenceEdit -/

def tailCost (tail : List Script) : Nat := (tail.map Script.cost).sum

/-- `bounds()`: sums the sub-edits' bounds (each child's `bounds()` is called) and the surplus tail -/
def fixedBoundsGo (rec : Ops) : List M → R (List M × Nat × Nat)
  | [] => pure ([], 0, 0)
  | m :: ms => do
      let (m', b) ← rec.bounds m
      let (ms', lo, hi) ← fixedBoundsGo rec ms
      pure (m' :: ms', b.lo + lo, b.hi + hi)

def fixedBounds (rec : Ops) (l : Lbl) (subs : List M) (tail : List Script) : R (M × Iv) := do
  let (subs', lo, hi) ← fixedBoundsGo rec subs
  let iv ← Iv.mk? (lo + tailCost tail) (hi + tailCost tail)
  pure (.fixed l subs' tail, iv)

/-- the undecorated `tighten_bounds`: the first sub-edit that can be tightened -/
def fixedRaw (rec : Ops) : List M → R (List M × Bool)
  | [] => pure ([], false)
  | m :: ms => do
      let (m1, _) ← rec.bounds m
      let (m2, r) ← rec.tighten m1
      if r then
        let (m3, _) ← rec.bounds m2
        pure (m3 :: ms, true)
      else
        let (ms', r') ← fixedRaw rec ms
        pure (m2 :: ms', r')

/-- the loop of `repeat_until_tightened` -/
def fixedLoop (rec : Ops) (l : Lbl) (tail : List Script) (start : Iv) : Nat → List M → R (M × Bool)
  | 0, _ => throw .fuel
  | n + 1, subs => do
      let (subs1, _) ← fixedRaw rec subs
      let (m2, nb) ← fixedBounds rec l subs1 tail
      if nb.lo < start.lo || nb.hi > start.hi then
        match m2 with
        | .fixed _ subs2 _ => fixedLoop rec l tail start n subs2
        | _ => throw .shape
      else if nb.definitive || nb.lo > start.lo || nb.hi < start.hi then pure (m2, true)
      else
        match m2 with
        | .fixed _ subs2 _ => fixedLoop rec l tail start n subs2
        | _ => throw .shape

def fixedTighten (rec : Ops) (n : Nat) (l : Lbl) (subs : List M) (tail : List Script) : R (M × Bool) := do
  let (m1, start) ← fixedBounds rec l subs tail
  if start.definitive then pure (m1, false)
  else
    match m1 with
    | .fixed _ subs1 _ => fixedLoop rec l tail start n subs1
    | _ => throw .shape

/-- `all(edit.is_complete() for edit in self._sub_edits)` (short-circuit) -/
def fixedComplete (rec : Ops) : List M → R (List M × Bool)
  | [] => pure ([], true)
  | m :: ms => do
      let (m', c) ← rec.complete m
      if c then
        let (ms', c') ← fixedComplete rec ms
        pure (m' :: ms', c')
      else pure (m' :: ms, false)

/-! ### EditCollection (explode_edits = False) -/

/-- `_expand_edits()`: true iff an edit was produced -/
def collExpand (s : CollSt) (pending subs : List M) : CollSt × List M × List M × Bool :=
  if s.iterDone then (s, pending, subs, false)
  else match pending, s.pinits with
    | [], _ => ({ s with iterDone := true }, [], subs, false)
    | x :: rest, i :: is => ({ s with cost := none, inits := s.inits ++ [i], pinits := is }, rest, subs ++ [x], true)
    | x :: rest, [] => ({ s with cost := none, inits := s.inits ++ [0], pinits := [] }, rest, subs ++ [x], true)

/-- the incremental bounds while `_edit_iter` is not exhausted; every sub-edit's `bounds()` is read twice -/
def collPartialGo (rec : Ops) : List M → List Nat → R (List M × Nat × Nat)
  | [], _ => pure ([], 0, 0)
  | m :: ms, is => do
      let (m1, b1) ← rec.bounds m
      let (m2, b2) ← rec.bounds m1
      let (ms', lo, dec) ← collPartialGo rec ms is.tail
      pure (m2 :: ms', b1.lo + lo, (is.headD 0 - b2.hi) + dec)

def collBounds (rec : Ops) (l : Lbl) (s : CollSt) (pending subs : List M) : R (M × Iv) := do
  match s.cost with
  | some c => pure (.coll l s pending subs, c)
  | none =>
    if s.iterDone then
      if subs.isEmpty then throw .emptyMin
      let (subs', lo, hi) ← fixedBoundsGo rec subs
      if lo > s.ub0 then throw .invalidated
      let hi' := Nat.min s.ub0 hi
      if hi' < lo then throw .range
      let tot : Iv := ⟨lo, hi'⟩
      let s' := if tot.definitive then { s with cost := some tot } else s
      pure (.coll l s' pending subs', tot)
    else
      let (subs', lo, dec) ← collPartialGo rec subs s.inits
      if dec > s.ub0 then throw .range
      let hi := s.ub0 - dec
      if lo > s.ub0 then throw .invalidated
      let hi' := Nat.min s.ub0 hi
      if hi' < lo then throw .range
      pure (.coll l s pending subs', ⟨lo, hi'⟩)

def asColl : M → R (Lbl × CollSt × List M × List M)
  | .coll l s p q => pure (l, s, p, q)
  | _ => throw .shape

/-- `_is_tightened(starting_bounds)`: `bounds()` is read once or twice (short-circuit `or`) -/
def collIsTightened (rec : Ops) (m : M) (start : Iv) : R (M × Bool) := do
  let (l, s, p, q) ← asColl m
  let (m1, b1) ← collBounds rec l s p q
  if b1.lo > start.lo then pure (m1, true)
  else
    let (l, s, p, q) ← asColl m1
    let (m2, b2) ← collBounds rec l s p q
    pure (m2, decide (b2.hi < start.hi))

/-- the `for child in self._sub_edits` loop of `tighten_bounds`, at child index `i`, `k` children to go.
    Result: `(machine, returned True?, tightened)`. -/
def collChildren (rec : Ops) (l : Lbl) (start : Iv) :
    Nat → Nat → CollSt → List M → List M → Bool → R (M × Bool × Bool)
  | 0, _, s, pending, subs, tightened => pure (.coll l s pending subs, false, tightened)
  | k + 1, i, s, pending, subs, tightened =>
      match subs[i]? with
      | none => pure (.coll l s pending subs, false, tightened)
      | some c => do
        let (c1, r) ← rec.tighten c
        let subs1 := subs.set i c1
        if r then
          let s1 := { s with cost := none }
          -- `if not child.valid`: a child is never invalid (an invalid EditCollection child is `Err.invalidated`)
          let (m2, nb) ← collBounds rec l s1 pending subs1
          if nb.lo > start.lo || nb.hi < start.hi then pure (m2, true, true)
          else
            let (_, s2, p2, q2) ← asColl m2
            collChildren rec l start k (i + 1) s2 p2 q2 true
        else
          let (c2, b) ← rec.bounds c1        -- `assert not child.valid or child.bounds().definitive()`
          if !b.definitive then throw .assertion
          collChildren rec l start k (i + 1) s pending (subs1.set i c2) tightened

def collLoop (rec : Ops) (start : Iv) : Nat → M → R (M × Bool)
  | 0, _ => throw .fuel
  | n + 1, m => do
      let (l, s, p, q) ← asColl m
      let (s1, p1, q1, produced) := collExpand s p q
      let m1 := M.coll l s1 p1 q1
      -- `if self._expand_edits() and self._is_tightened(starting_bounds): return True`
      let (m2, ret) ← if produced then collIsTightened rec m1 start else pure (m1, false)
      if ret then pure (m2, true)
      else
        let (l, s2, p2, q2) ← asColl m2
        let (m3, returned, tightened) ← collChildren rec l start q2.length 0 s2 p2 q2 false
        if returned then pure (m3, true)
        else
          let (_, s3, _, _) ← asColl m3
          if !tightened && s3.iterDone then collIsTightened rec m3 start
          else collLoop rec start n m3

def collTighten (rec : Ops) (n : Nat) (l : Lbl) (s : CollSt) (pending subs : List M) : R (M × Bool) := do
  let (m1, start) ← collBounds rec l s pending subs
  collLoop rec start n m1

/-- `edits()` consumed completely: every pending edit is expanded (`_cost` is reset by every expansion) -/
def collExpandAll (s : CollSt) (pending subs : List M) : CollSt × List M :=
  if s.iterDone then (s, subs)
  else
    ({ s with cost := if pending.isEmpty then s.cost else none, iterDone := true,
              inits := s.inits ++ s.pinits, pinits := [] }, subs ++ pending)

/-! ### EditDistance -/

/-- `_fringe_diagonal()` -/
def diag (fr : Int) (fc nf : Nat) : List (Nat × Nat) :=
  if fr < 0 || fc > nf then []
  else (List.range (Nat.min fr.toNat (nf - fc) + 1)).map fun i => (fr.toNat - i, fc + i)

/-- `is_complete()`: the matrix was freed, or its lower right cell exists (a 1×1 matrix never has one) -/
def edComplete (s : EdSt) : Bool :=
  s.freed || (decide (0 ≤ s.fr) && decide (s.nt + s.nf ≤ s.fr.toNat + s.fc) && decide (0 < s.nt + s.nf))

/-- `_add_node(row, col)`: border cells get their cumulative cost -/
def addNode (s : EdSt) (row col : Nat) : R EdSt :=
  if row == 0 && col == 0 then pure s
  else if row == 0 then do
    let c ← tget s.costs 0 (col - 1)
    let p ← tget s.paths 0 (col - 1)
    let rm ← lget s.rem (col - 1)
    pure { s with costs := ← tset s.costs 0 col (c + rm), paths := ← tset s.paths 0 col (p + 1) }
  else if col == 0 then do
    let c ← tget s.costs (row - 1) 0
    let p ← tget s.paths (row - 1) 0
    let i ← lget s.ins (row - 1)
    pure { s with costs := ← tset s.costs row 0 (c + i), paths := ← tset s.paths row 0 (p + 1) }
  else pure s

def addNodes (s : EdSt) : List (Nat × Nat) → R EdSt
  | [] => pure s
  | (r, c) :: rest => do addNodes (← addNode s r c) rest

/-- `_next_fringe()` -/
def nextFringe (s : EdSt) : R (EdSt × Bool) :=
  if edComplete s then pure (s, false)
  else do
    let last := diag s.fr s.fc s.nf
    let fr1 := s.fr + 1
    let (fr2, fc2) : Int × Nat := if fr1 ≥ (s.nt : Int) + 1 then ((s.nt : Int), s.fc + 1) else (fr1, s.fc)
    let s1 := { s with lastFringe := last, fr := fr2, fc := fc2 }
    let s2 ← addNodes s1 (diag fr2 fc2 s.nf)
    pure (s2, if fc2 ≥ s.nf then decide (fr2 < (s.nt : Int)) else true)

/-- `_best_match(row, col)`: returns the move that enters (row, col); fills `costs` / `path_costs` of an inner cell.
    The cell's `bounds()` is read only if the diagonal neighbour is the cheapest (make_distinct, then the `<` tests);
    it must be definitive there (the fringe loop / the back-trace have fully tightened it). -/
def bestMatch (rec : Ops) (s : EdSt) (cells : List (List M)) (row col : Nat) : R (EdSt × List (List M) × Move) :=
  if row == 0 then
    if col == 0 then throw .assertion else pure (s, cells, .left)
  else if col == 0 then pure (s, cells, .up)
  else do
    let d : Cell := ⟨← tget s.costs (row - 1) (col - 1), ← tget s.paths (row - 1) (col - 1), []⟩
    let l : Cell := ⟨← tget s.costs row (col - 1), ← tget s.paths row (col - 1), []⟩
    let u : Cell := ⟨← tget s.costs (row - 1) col, ← tget s.paths (row - 1) col, []⟩
    let i ← lget s.ins (row - 1)
    let rm ← lget s.rem (col - 1)
    let diagIsBest := EditMatrix.lexLe d l && EditMatrix.lexLe d u
    let (cells1, x) ← if diagIsBest then do
        let c ← mget cells (row - 1) (col - 1)
        let (c', b) ← rec.bounds c
        if !b.definitive then throw .assertion
        pure (← mset cells (row - 1) (col - 1) c', b.hi)
      else pure (cells, 0)
    let res := step i rm x d l u
    let mv : Move := res.script.headD .left
    let s1 := { s with costs := ← tset s.costs row col res.cost, paths := ← tset s.paths row col res.path }
    pure (s1, cells1, mv)

/-- `while cell.tighten_bounds(): [cell.bounds()]` -/
def tightenAll (rec : Ops) (readAfter : Bool) : Nat → M → R M
  | 0, _ => throw .fuel
  | n + 1, c => do
      let (c1, r) ← rec.tighten c
      if r then
        let c2 ← if readAfter then (do let (c2, _) ← rec.bounds c1; pure c2) else pure c1
        tightenAll rec readAfter n c2
      else pure c1

/-- the bounds reads of a non-quiet run before a fringe is tightened: twice per cell; returns the sum of widths -/
def fringeRanges (rec : Ops) (cells : List (List M)) : List (Nat × Nat) → R (List (List M) × Nat)
  | [] => pure (cells, 0)
  | (row, col) :: rest =>
      if row == 0 || col == 0 then fringeRanges rec cells rest
      else do
        let c ← mget cells (row - 1) (col - 1)
        let (c1, b1) ← rec.bounds c
        let (c2, b2) ← rec.bounds c1
        let cells1 ← mset cells (row - 1) (col - 1) c2
        let (cells2, tot) ← fringeRanges rec cells1 rest
        pure (cells2, (b1.hi - b2.lo) + tot)

/-- tighten every cell of the fringe until it is definitive, then `_best_match` it -/
def processFringe (rec : Ops) (n : Nat) (readAfter : Bool) :
    EdSt → List (List M) → List (Nat × Nat) → R (EdSt × List (List M))
  | s, cells, [] => pure (s, cells)
  | s, cells, (row, col) :: rest =>
      if row == 0 || col == 0 then do
        -- Remove / Insert: constant; `_best_match` only returns the neighbour
        let (s1, cells1, _) ← bestMatch rec s cells row col
        processFringe rec n readAfter s1 cells1 rest
      else do
        let c ← mget cells (row - 1) (col - 1)
        let c1 ← tightenAll rec readAfter n c
        let (c2, b) ← rec.bounds c1          -- `assert self.edit_matrix[row][col].bounds().definitive()`
        if !b.definitive then throw .assertion
        let cells1 ← mset cells (row - 1) (col - 1) c2
        let (s1, cells2, _) ← bestMatch rec s cells1 row col
        processFringe rec n readAfter s1 cells2 rest

/-- the corner `edit_matrix[-1][-1]`: `none` if it is a (constant) Remove / Insert -/
def cornerIdx (s : EdSt) : Option (Nat × Nat) := if s.nt == 0 || s.nf == 0 then none else some (s.nt - 1, s.nf - 1)

/-- the back-trace of `edits()` from (row, col) to (0, 0); `k` bounds the number of moves -/
def backTrace (rec : Ops) : Nat → EdSt → List (List M) → Nat → Nat → List (Move × Nat × Nat) →
    R (EdSt × List (List M) × List (Move × Nat × Nat))
  | 0, _, _, _, _, _ => throw .fuel
  | k + 1, s, cells, row, col, acc =>
      if row == 0 && col == 0 then pure (s, cells, acc.reverse)
      else do
        let (s1, cells1, mv) ← bestMatch rec s cells row col
        let (r', c') := match mv with
          | .diag => (row - 1, col - 1) | .up => (row - 1, col) | .left => (row, col - 1)
        backTrace rec k s1 cells1 r' c' ((mv, row, col) :: acc)

/-- the body of `edits()` once the matrix is complete and `__edits` is still None: fully tighten the last cell,
    back-trace, cache, and `_cleanup()` (which always frees: the bounds are the corner cost now) -/
def edFinalize (rec : Ops) (n : Nat) (s : EdSt) (cells : List (List M)) : R (EdSt × List (List M)) := do
  if s.freed then throw .freed
  let cells1 ← match cornerIdx s with
    | none => pure cells
    | some (r, c) => do
        let m ← mget cells r c
        let m' ← tightenAll rec false n m
        mset cells r c m'
  let (s1, cells2, tr) ← backTrace rec (s.nt + s.nf + 1) s cells1 s.nt s.nf []
  pure ({ s1 with cache := some tr, freed := true }, cells2)

/-- `bounds()` -/
def edBounds (rec : Ops) (n : Nat) (s : EdSt) (cells : List (List M)) : R (EdSt × List (List M) × Iv) := do
  if edComplete s then
    let (s1, cells1) ← if s.cache.isNone then edFinalize rec n s cells else pure (s, cells)
    let c ← tget s1.costs s1.nt s1.nf
    pure (s1, cells1, Iv.point c)
  else if s.fr ≤ 0 then
    pure (s, cells, ← Iv.mk? s.lb0 s.ub0)
  else do
    let cur ← (diag s.fr s.fc s.nf).mapM fun (r, c) => tget s.costs r c
    let last ← s.lastFringe.mapM fun (r, c) => tget s.costs r c
    let m := Nat.min (← minList cur) (← minList last)
    pure (s, cells, ← Iv.mk? (Nat.max s.lb0 m) s.ub0)

/-- `tighten_bounds()` once the matrix is complete (and not freed) -/
def edTightenComplete (rec : Ops) (n : Nat) (s : EdSt) (cells : List (List M)) : R (EdSt × List (List M) × Bool) := do
  match cornerIdx s with
  | none =>
      -- the corner is a Remove / Insert: definitive
      let (s1, cells1, _) ← edBounds rec n s cells      -- `_cleanup()`
      pure (s1, cells1, false)
  | some (r, c) =>
      let m ← mget cells r c
      let (m1, b) ← rec.bounds m
      if !b.definitive then
        let (m2, res) ← rec.tighten m1
        pure (s, ← mset cells r c m2, res)
      else
        let cells1 ← mset cells r c m1
        let (s1, cells2, _) ← edBounds rec n s cells1    -- `_cleanup()`
        pure (s1, cells2, false)

/-- the `while True` loop of `tighten_bounds()` while the matrix is being built -/
def edBuildLoop (rec : Ops) (quiet : Bool) (n : Nat) (initial : Iv) :
    Nat → EdSt → List (List M) → R (EdSt × List (List M) × Bool)
  | 0, _, _ => throw .fuel
  | k + 1, s, cells => do
      let firstFringe := decide (s.fr < 0)
      let (s1, ok) ← nextFringe s
      if !ok then
        if !edComplete s1 then throw .assertion
        match cornerIdx s1 with
        | none =>
            let (s2, cells2, _) ← edBounds rec n s1 cells
            pure (s2, cells2, false)
        | some (r, c) =>
            let m ← mget cells r c
            let (m1, b) ← rec.bounds m
            let cells1 ← mset cells r c m1
            if !b.definitive then
              let (s2, cells2, ret) ← edTightenComplete rec n s1 cells1     -- `ret = self.tighten_bounds()`
              if !ret then
                let (s3, cells3, _) ← edBounds rec n s2 cells2               -- `_cleanup()`
                pure (s3, cells3, false)
              else pure (s2, cells2, true)
            else
              let (s2, cells2, _) ← edBounds rec n s1 cells1                 -- `_cleanup()`
              pure (s2, cells2, false)
      else do
        let (s2, cells2) ← if firstFringe then pure (s1, cells) else do
          let fringe := diag s1.fr s1.fc s1.nf
          let (cells1, total) ← if quiet then pure (cells, 0) else fringeRanges rec cells fringe
          processFringe rec n (decide (total > 0)) s1 cells1 fringe
        let (_, _, b1) ← edBounds rec n s2 cells2
        if b1.hi < initial.hi then pure (s2, cells2, true)
        else
          let (_, _, b2) ← edBounds rec n s2 cells2
          if b2.lo > initial.lo then pure (s2, cells2, true)
          else edBuildLoop rec quiet n initial k s2 cells2

/-- `tighten_bounds()` -/
def edTighten (rec : Ops) (quiet : Bool) (n : Nat) (s : EdSt) (cells : List (List M)) :
    R (EdSt × List (List M) × Bool) := do
  if s.nf == 0 && s.nt == 0 then pure (s, cells, false)
  else if s.freed then pure (s, cells, false)
  else if edComplete s then edTightenComplete rec n s cells
  else
    let (s0, cells0, initial) ← edBounds rec n s cells
    edBuildLoop rec quiet n initial n s0 cells0

/-- `while not self.is_complete() and self.tighten_bounds(): pass` -/
def edRunToComplete (rec : Ops) (quiet : Bool) (n : Nat) : Nat → EdSt → List (List M) → R (EdSt × List (List M))
  | 0, _, _ => throw .fuel
  | k + 1, s, cells =>
      if edComplete s then pure (s, cells)
      else do
        let (s1, cells1, r) ← edTighten rec quiet n s cells
        if r then edRunToComplete rec quiet n k s1 cells1 else pure (s1, cells1)

/-- `edits()`: makes sure `__edits` exists (and the matrix is freed) -/
def edEnsure (rec : Ops) (quiet : Bool) (n : Nat) (s : EdSt) (cells : List (List M)) : R (EdSt × List (List M)) := do
  if s.cache.isSome then pure (s, cells)
  else if s.nf == 0 && s.nt == 0 then
    -- no middle part: `__edits` = the suffix matches; `_cleanup()` frees only if the bounds happen to be definitive
    let b ← Iv.mk? s.lb0 s.ub0
    pure ({ s with cache := some [], freed := s.freed || b.definitive }, cells)
  else
    let (s1, cells1) ← edRunToComplete rec quiet n n s cells
    if !edComplete s1 then throw .assertion
    if s1.cache.isSome then pure (s1, cells1) else edFinalize rec n s1 cells1

/-! ### WeightedBipartiteMatcher and MultiSetEdit -/

/-- one pass over the edge matrix reading every edge's `bounds()`: per row `f` of the intervals -/
def wmRowPass (rec : Ops) : List M → R (List M × List Iv)
  | [] => pure ([], [])
  | e :: es => do
      let (e', b) ← rec.bounds e
      let (es', bs) ← wmRowPass rec es
      pure (e' :: es', b :: bs)

def wmPass (rec : Ops) : List (List M) → R (List (List M) × List (List Iv))
  | [] => pure ([], [])
  | row :: rows => do
      let (row', bs) ← wmRowPass rec row
      let (rows', bss) ← wmPass rec rows
      pure (row' :: rows', bs :: bss)

def maxList : List Nat → R Nat
  | [] => throw .emptyMin
  | x :: xs => pure (xs.foldl Nat.max x)

/-- `bounds()` of the matcher -/
def wmBounds (rec : Ops) (w : WmSt) (edges : List (List M)) : R (WmSt × List (List M) × Iv) := do
  match w.memo with
  | some b => pure (w, edges, b)
  | none =>
    if w.nf == 0 || w.nt == 0 then
      pure ({ w with memo := some (Iv.point 0) }, edges, Iv.point 0)
    else
      match w.mtch with
      | none =>
          let k := Nat.min w.nf w.nt
          let (e1, b1) ← wmPass rec edges
          let mins ← b1.mapM fun row => minList (row.map (·.lo))
          let (e2, b2) ← wmPass rec e1
          let maxs ← b2.mapM fun row => maxList (row.map (·.hi))
          let lb := ((sortNat mins).take k).sum
          let ub := ((sortNat maxs).reverse.take k).sum
          let b ← Iv.mk? lb ub
          pure ({ w with memo := if b.definitive then some b else none }, e2, b)
      | some pairs =>
          let rec go (edges : List (List M)) (lb ub : Nat) : List (Nat × Nat) → R (List (List M) × Nat × Nat)
            | [] => pure (edges, lb, ub)
            | (i, j) :: rest => do
                let e ← mget edges i j
                let (e1, b1) ← rec.bounds e
                let (e2, b2) ← rec.bounds e1
                go (← mset edges i j e2) (lb + b1.lo) (ub + b2.hi) rest
          let (e1, lb, ub) ← go edges 0 0 pairs
          let b ← Iv.mk? lb ub
          pure ({ w with memo := if b.definitive then some b else none }, e1, b)

/-- what `make_distinct` does to ONE argument that receives `k` tighten steps: `bounds()` is read before and after
    every step -/
def mdArg (rec : Ops) : Nat → M → R (M × Iv)
  | 0, e => rec.bounds e
  | k + 1, e => do
      let (e1, _) ← rec.bounds e
      let (e2, _) ← rec.tighten e1
      mdArg rec k e2

def mdRow (rec : Ops) : List M → List Nat → R (List M × List Iv)
  | [], _ => pure ([], [])
  | e :: es, cs => do
      let (e', b) ← mdArg rec (cs.headD 0) e
      let (es', bs) ← mdRow rec es cs.tail
      pure (e' :: es', b :: bs)

def mdAll (rec : Ops) : List (List M) → List (List Nat) → R (List (List M) × List Iv)
  | [], _ => pure ([], [])
  | row :: rows, cs => do
      let (row', bs) ← mdRow rec row (cs.headD [])
      let (rows', bss) ← mdAll rec rows cs.tail
      pure (row' :: rows', bs ++ bss)

/-- post-condition of `make_distinct`: any two arguments are both definitive or do not overlap -/
def distinctOk : List Iv → Bool
  | [] => true
  | a :: rest => rest.all (fun b => (a.definitive && b.definitive) || a.hi < b.lo || b.hi < a.lo) && distinctOk rest

/-- `_make_edges_distinct()`: replays the oracle's step counts.  The post-condition of `make_distinct` (`distinctOk`)
    is irrelevant for the protocol; on the real run it is checked by the monitor (`make-distinct-postcondition`). -/
def wmMakeDistinct (rec : Ops) (w : WmSt) (edges : List (List M)) : R (WmSt × List (List M) × Bool) := do
  if w.distinct then pure (w, edges, false)
  else
    let (edges', _) ← mdAll rec edges w.mdCounts
    pure ({ w with distinct := true }, edges', true)

/-- the `matching` property: forces the matching (oracle answer; must pair min(nf, nt) nodes) -/
def wmMatching (rec : Ops) (w : WmSt) (edges : List (List M)) : R (WmSt × List (List M)) := do
  match w.mtch with
  | some _ => pure (w, edges)
  | none =>
    if w.nf == 0 || w.nt == 0 then pure ({ w with mtch := some [] }, edges)
    else
      let (w1, e1, _) ← wmMakeDistinct rec w edges
      let (e2, _) ← wmPass rec e1           -- get_edges: every edge's bounds().upper_bound
      if w1.assign.length != Nat.min w1.nf w1.nt then throw .oracle
      if w1.assign.any (fun p => p.1 ≥ w1.nf || p.2 ≥ w1.nt) then throw .oracle
      pure ({ w1 with mtch := some w1.assign }, e2)

/-- the undecorated `tighten_bounds` of the matcher -/
def wmRaw (rec : Ops) (w : WmSt) (edges : List (List M)) : R (WmSt × List (List M) × Bool) := do
  match w.mtch with
  | none =>
      let (w1, e1, r) ← wmMakeDistinct rec w edges
      if r then pure (w1, e1, true)
      else
        let (w2, e2) ← wmMatching rec w1 e1
        pure (w2, e2, true)
  | some pairs =>
      let rec go (edges : List (List M)) : List (Nat × Nat) → R (List (List M) × Bool)
        | [] => pure (edges, false)
        | (i, j) :: rest => do
            let e ← mget edges i j
            let (e1, r) ← rec.tighten e
            let edges1 ← mset edges i j e1
            if r then pure (edges1, true) else go edges1 rest
      let (e1, r) ← go edges pairs
      pure (w, e1, r)

def wmLoop (rec : Ops) (start : Iv) : Nat → WmSt → List (List M) → R (WmSt × List (List M) × Bool)
  | 0, _, _ => throw .fuel
  | n + 1, w, edges => do
      let (w1, e1, _) ← wmRaw rec w edges
      let (w2, e2, nb) ← wmBounds rec w1 e1
      if nb.lo < start.lo || nb.hi > start.hi then wmLoop rec start n w2 e2
      else if nb.definitive || nb.lo > start.lo || nb.hi < start.hi then pure (w2, e2, true)
      else wmLoop rec start n w2 e2

/-- `tighten_bounds()` of the matcher (with `repeat_until_tightened`) -/
def wmTighten (rec : Ops) (n : Nat) (w : WmSt) (edges : List (List M)) : R (WmSt × List (List M) × Bool) := do
  let (w1, e1, start) ← wmBounds rec w edges
  if start.definitive then pure (w1, e1, false)
  else wmLoop rec start n w1 e1

def sumBounds (rec : Ops) : List M → Iv → R (List M × Iv)
  | [], acc => pure ([], acc)
  | m :: ms, acc => do
      let (m', b) ← rec.bounds m
      let (ms', acc') ← sumBounds rec ms (acc.add b)
      pure (m' :: ms', acc')

/-- indices of the from-nodes / to-nodes that the matching leaves over -/
def unmatched (n : Nat) (used : List Nat) : List Nat := (List.range n).filter fun a => !(used.contains a)

/-- `MultiSetEdit.bounds()` -/
def msBounds (rec : Ops) (l : Lbl) (s : MsSt) (kvps : List M) (w : WmSt) (edges : List (List M)) : R (M × Iv) := do
  let (w1, e1, b) ← wmBounds rec w edges
  let (kvps1, b1) ← sumBounds rec kvps b
  match w1.mtch with
  | some pairs =>
      let rl := unmatched w1.nf (pairs.map (·.1))
      let il := unmatched w1.nt (pairs.map (·.2))
      let extra := (rl.map fun a => s.remCosts.getD a 0).sum + (il.map fun a => s.insCosts.getD a 0).sum
      pure (.ms l s kvps1 w1 e1, b1.add (Iv.point extra))
  | none =>
      if w1.nf > w1.nt then
        let costs := sortNat s.remCosts
        let k := w1.nf - w1.nt
        let r ← Iv.mk? (costs.take k).sum ((costs.drop (costs.length - k)).sum)
        pure (.ms l s kvps1 w1 e1, b1.add r)
      else if w1.nf < w1.nt then
        let costs := sortNat s.insCosts
        let k := w1.nt - w1.nf
        let r ← Iv.mk? (costs.take k).sum ((costs.drop (costs.length - k)).sum)
        pure (.ms l s kvps1 w1 e1, b1.add r)
      else pure (.ms l s kvps1 w1 e1, b1)

def asMs : M → R (Lbl × MsSt × List M × WmSt × List (List M))
  | .ms l s k w e => pure (l, s, k, w, e)
  | _ => throw .shape

/-- the first auto-matched key/value edit that can be tightened -/
def firstTighten (rec : Ops) : List M → R (List M × Bool)
  | [] => pure ([], false)
  | m :: ms => do
      let (m', r) ← rec.tighten m
      if r then pure (m' :: ms, true)
      else
        let (ms', r') ← firstTighten rec ms
        pure (m' :: ms', r')

/-- `MultiSetEdit.tighten_bounds()` -/
def msTighten (rec : Ops) (n : Nat) (l : Lbl) (s : MsSt) (kvps : List M) (w : WmSt) (edges : List (List M)) :
    R (M × Bool) := do
  let (kvps1, r) ← firstTighten rec kvps
  if r then pure (.ms l s kvps1 w edges, true)
  else
    let (w1, e1, r1) ← wmTighten rec n w edges
    if r1 then pure (.ms l s kvps1 w1 e1, true)
    else if w1.mtch.isSome then pure (.ms l s kvps1 w1 e1, false)
    else
      -- the matcher's bounds are definitive but it has not chosen a matching yet: force it
      let (m2, before) ← msBounds rec l s kvps1 w1 e1
      let (l, s, k2, w2, e2) ← asMs m2
      let (w3, e3) ← wmMatching rec w2 e2
      let (m4, after) ← msBounds rec l s k2 w3 e3
      pure (m4, !(after == before))

/-- forces the matching; returns it (in dict order) -/
def msForce (rec : Ops) (w : WmSt) (edges : List (List M)) : R (WmSt × List (List M) × List (Nat × Nat)) := do
  let (w1, e1) ← wmMatching rec w edges
  pure (w1, e1, w1.mtch.getD [])

/-- apply `f` to the matched edges, in dict order -/
def onPairs (f : M → R M) (edges : List (List M)) : List (Nat × Nat) → R (List (List M))
  | [] => pure edges
  | (i, j) :: rest => do
      let e ← mget edges i j
      onPairs f (← mset edges i j (← f e)) rest

/-! ### dispatch: the method bodies, parametric in the children's methods -/

def boundsB (rec : Ops) (n : Nat) : M → R (M × Iv)
  | .const l c => pure (.const l c, Iv.point c)
  | .kvp l k v => kvpBounds rec l k v
  | .str l e => do let (e', b) ← rec.bounds e; pure (.str l e', b)
  | .fixed l subs tail => fixedBounds rec l subs tail
  | .ed l s cells => do let (s', cells', b) ← edBounds rec n s cells; pure (.ed l s' cells', b)
  | .coll l s p q => collBounds rec l s p q
  | .ms l s k w e => msBounds rec l s k w e

def tightenB (rec : Ops) (quiet : Bool) (n : Nat) : M → R (M × Bool)
  | .const l c => pure (.const l c, false)
  | .kvp l k v => kvpTighten rec l k v
  | .str l e => do let (e', r) ← rec.tighten e; pure (.str l e', r)
  | .fixed l subs tail => fixedTighten rec n l subs tail
  | .ed l s cells => do let (s', cells', r) ← edTighten rec quiet n s cells; pure (.ed l s' cells', r)
  | .coll l s p q => collTighten rec n l s p q
  | .ms l s k w e => msTighten rec n l s k w e

/-- `AbstractEdit.is_complete`: `not self.valid or self.bounds().definitive()` -/
def completeViaBounds (self : Ops) (m : M) : R (M × Bool) := do
  let (m', b) ← self.bounds m
  pure (m', b.definitive)

def completeB (rec : Ops) (_n : Nat) : M → R (M × Bool)
  | .const l c => pure (.const l c, true)
  | .kvp l k v => do let (m, b) ← kvpBounds rec l k v; pure (m, b.definitive)
  | .str l e => do let (e', b) ← rec.bounds e; pure (.str l e', b.definitive)
  | .fixed l subs tail => do let (subs', c) ← fixedComplete rec subs; pure (.fixed l subs' tail, c)
  | .ed l s cells => pure (.ed l s cells, edComplete s)
  | .coll l s p q => do let (m, b) ← collBounds rec l s p q; pure (m, b.definitive)
  | .ms l s k w e => pure (.ms l s k w e, w.mtch.isSome)

def mapMStates (f : M → R M) : List M → R (List M)
  | [] => pure []
  | m :: ms => do pure ((← f m) :: (← mapMStates f ms))

/-- apply `f` to the cells on the cached path (in script order) -/
def onPath (f : M → R M) (cells : List (List M)) : List (Move × Nat × Nat) → R (List (List M))
  | [] => pure cells
  | (.diag, r, c) :: rest => do
      let m ← mget cells (r - 1) (c - 1)
      let cells1 ← mset cells (r - 1) (c - 1) (← f m)
      onPath f cells1 rest
  | _ :: rest => onPath f cells rest

/-- `CompoundEdit.on_diff`: `for edit in self.edits(): edit.on_diff(...)`; `Edit.on_diff` (leaf edits, StringEdit)
    does not look at sub-edits -/
def onDiffB (rec : Ops) (quiet : Bool) (n : Nat) : M → R M
  | .const l c => pure (.const l c)
  | .kvp l k v => do pure (.kvp l (← rec.onDiff k) (← rec.onDiff v))
  | .str l e => pure (.str l e)
  | .fixed l subs tail => do pure (.fixed l (← mapMStates rec.onDiff subs) tail)
  | .ed l s cells => do
      let (s1, cells1) ← edEnsure rec quiet n s cells
      let cells2 ← onPath rec.onDiff cells1 ((s1.cache.getD []).reverse)
      pure (.ed l s1 cells2)
  | .coll l s p q => do
      let (s1, q1) := collExpandAll s p q
      pure (.coll l s1 [] (← mapMStates rec.onDiff q1))
  | .ms l s k w e => do
      let k1 ← mapMStates rec.onDiff k
      let (w1, e1, pairs) ← msForce rec w e
      pure (.ms l s k1 w1 (← onPairs rec.onDiff e1 pairs))

def dumpList (rec : Ops) : List M → R (List M × List DScript)
  | [] => pure ([], [])
  | m :: ms => do
      let (m', d) ← rec.dump m
      let (ms', ds) ← dumpList rec ms
      pure (m' :: ms', d :: ds)

/-- dump the sub-edits of an `EditDistance` in script order (the cache is corner-first) -/
def dumpPath (rec : Ops) (s : EdSt) (cells : List (List M)) :
    List (Move × Nat × Nat) → R (List (List M) × List DScript)
  | [] => pure (cells, [])
  | (mv, r, c) :: rest => do
      match mv with
      | .diag =>
          let m ← mget cells (r - 1) (c - 1)
          let (m', d) ← rec.dump m
          let cells1 ← mset cells (r - 1) (c - 1) m'
          let (cells2, ds) ← dumpPath rec s cells1 rest
          pure (cells2, d :: ds)
      | .up =>
          let i ← lget s.ins (r - 1)
          let (cells2, ds) ← dumpPath rec s cells rest
          pure (cells2, .mk .insert (.at (r - 1 + s.pre)) .none (Iv.point i) [] :: ds)
      | .left =>
          let rm ← lget s.rem (c - 1)
          let (cells2, ds) ← dumpPath rec s cells rest
          pure (cells2, .mk .remove (.at (c - 1 + s.pre)) .none (Iv.point rm) [] :: ds)

def dumpPairs (rec : Ops) (edges : List (List M)) : List (Nat × Nat) → R (List (List M) × List DScript)
  | [] => pure (edges, [])
  | (i, j) :: rest => do
      let e ← mget edges i j
      let (e', d) ← rec.dump e
      let (edges2, ds) ← dumpPairs rec (← mset edges i j e') rest
      pure (edges2, d :: ds)

def matchesFrom (fi ti k : Nat) : List DScript :=
  (List.range k).map fun j => .mk .match_ (.at (fi + j)) (.at (ti + j)) (Iv.point 0) []

/-- the harness' `dump(e)`: sub-edits first (forcing `edits()`), then `e.bounds()` -/
def dumpB (selfBounds : M → R (M × Iv)) (rec : Ops) (quiet : Bool) (n : Nat) : M → R (M × DScript)
  | .const l c => pure (.const l c, .mk l.kind l.fi l.ti (Iv.point c) [])
  | .kvp l k v => do
      let (k', dk) ← rec.dump k
      let (v', dv) ← rec.dump v
      let (m, b) ← selfBounds (.kvp l k' v')
      pure (m, .mk l.kind l.fi l.ti b [dk, dv])
  | .str l e => do
      let (e', d) ← rec.dump e
      let subs := match d with | .mk _ _ _ _ subs => subs
      let (m, b) ← selfBounds (.str l e')
      pure (m, .mk l.kind l.fi l.ti b subs)
  | .fixed l subs tail => do
      let (subs', ds) ← dumpList rec subs
      let (m, b) ← selfBounds (.fixed l subs' tail)
      pure (m, .mk l.kind l.fi l.ti b (ds ++ tail.map DScript.ofScript))
  | .ed l s cells => do
      let (s1, cells1) ← edEnsure rec quiet n s cells
      let (cells2, ds) ← dumpPath rec s1 cells1 ((s1.cache.getD []).reverse)
      let (m, b) ← selfBounds (.ed l s1 cells2)
      let pre := matchesFrom 0 0 s1.pre
      let suf := matchesFrom (s1.flen - s1.suf) (s1.tlen - s1.suf) s1.suf
      pure (m, .mk l.kind l.fi l.ti b (pre ++ ds ++ suf))
  | .coll l s p q => do
      let (s1, q1) := collExpandAll s p q
      let (q2, ds) ← dumpList rec q1
      let (m, b) ← selfBounds (.coll l s1 [] q2)
      pure (m, .mk l.kind l.fi l.ti b ds)
  | .ms l s k w e => do
      let (k1, dk) ← dumpList rec k
      let (w1, e1, pairs) ← msForce rec w e
      let (e2, dm) ← dumpPairs rec e1 pairs
      let rl := unmatched w1.nf (pairs.map (·.1))
      let il := unmatched w1.nt (pairs.map (·.2))
      let dr : List DScript := rl.map fun a => .mk .remove (.at (s.remIdx.getD a 0)) .none (Iv.point (s.remCosts.getD a 0)) []
      let di : List DScript := il.map fun a => .mk .insert (.at (s.insIdx.getD a 0)) .none (Iv.point (s.insCosts.getD a 0)) []
      let (m, b) ← selfBounds (.ms l s k1 w1 e2)
      pure (m, .mk l.kind l.fi l.ti b (s.nMatch.map DScript.ofScript ++ dk ++ dm ++ dr ++ di))

def failOps : Ops :=
  { bounds := fun _ => throw .fuel, tighten := fun _ => throw .fuel, complete := fun _ => throw .fuel,
    onDiff := fun _ => throw .fuel, dump := fun _ => throw .fuel }

/-- the methods at recursion depth `n`; every `while` loop of the Python code gets at most `F` iterations.  Every
    field is a lambda, so the methods of the level below are only built when a child is actually called. -/
def mkOps (quiet : Bool) (F : Nat) : Nat → Ops
  | 0 => failOps
  | n + 1 =>
      { bounds := fun m => boundsB (mkOps quiet F n) F m,
        tighten := fun m => tightenB (mkOps quiet F n) quiet F m,
        complete := fun m => completeB (mkOps quiet F n) F m,
        onDiff := fun m => onDiffB (mkOps quiet F n) quiet F m,
        dump := fun m => dumpB (fun x => boundsB (mkOps quiet F n) F x) (mkOps quiet F n) quiet F m }

/-! ### the public operations on the root edit -/

inductive Op where
  | bounds | tighten | complete | valid | edits | nonzero | onDiff
deriving DecidableEq, Repr, Inhabited

inductive Res where
  | iv (b : Iv)
  | bool (b : Bool)
  | names (l : Option (List String))
  | unit
deriving Repr, Inhabited

def className : M → String
  | .const l _ => match l.kind with
      | .match_ => "Match" | .replace => "Replace" | .remove => "Remove" | .insert => "Insert" | _ => "?"
  | .kvp .. => "KeyValuePairEdit"
  | .str .. => "StringEdit"
  | .fixed .. => "FixedLengthSequenceEdit"
  | .ed .. => "EditDistance"
  | .coll .. => "FixedKeyDictNodeEdit"
  | .ms .. => "MultiSetEdit"

def scriptClass (s : Script) : String :=
  match s.kind with
  | .match_ => "Match" | .replace => "Replace" | .remove => "Remove" | .insert => "Insert" | _ => "?"

def pathNames (cells : List (List M)) : List (Move × Nat × Nat) → R (List String)
  | [] => pure []
  | (.diag, r, c) :: rest => do pure (className (← mget cells (r - 1) (c - 1)) :: (← pathNames cells rest))
  | (.up, _, _) :: rest => do pure ("Insert" :: (← pathNames cells rest))
  | (.left, _, _) :: rest => do pure ("Remove" :: (← pathNames cells rest))

/-- class name of the edge (i, j) of a matcher -/
def edgeName (edges : List (List M)) (p : Nat × Nat) : R String := do
  pure (className (← mget edges p.1 p.2))

/-- `list(e.edits())` on the root: class names of the sub-edits (`none`: the edit is not compound) -/
def editsOp (ops : Ops) (quiet : Bool) (n : Nat) : M → R (M × Option (List String))
  | .const l c => pure (.const l c, none)
  | .str l e => pure (.str l e, none)
  | .kvp l k v => pure (.kvp l k v, some [className k, className v])
  | .fixed l subs tail => pure (.fixed l subs tail, some (subs.map className ++ tail.map scriptClass))
  | .ed l s cells => do
      let (s1, cells1) ← edEnsure ops quiet n s cells
      let mid ← pathNames cells1 ((s1.cache.getD []).reverse)
      pure (.ed l s1 cells1, some (List.replicate s1.pre "Match" ++ mid ++ List.replicate s1.suf "Match"))
  | .coll l s p q =>
      let (s1, q1) := collExpandAll s p q
      pure (.coll l s1 [] q1, some (q1.map className))
  | .ms l s k w e => do
      let (w1, e1, pairs) ← msForce ops w e
      let rl := unmatched w1.nf (pairs.map (·.1))
      let il := unmatched w1.nt (pairs.map (·.2))
      let names ← pairs.mapM (edgeName e1)
      pure (.ms l s k w1 e1, some (s.nMatch.map scriptClass ++ k.map className ++ names
        ++ rl.map (fun _ => "Remove") ++ il.map (fun _ => "Insert")))

/-- `Edit.has_non_zero_cost` -/
def nonzeroLoop (ops : Ops) : Nat → M → R (M × Bool)
  | 0, _ => throw .fuel
  | k + 1, m => do
      let (m1, b1) ← ops.bounds m
      if b1.definitive then
        let (m2, b) ← ops.bounds m1
        pure (m2, decide (b.lo > 0))
      else
        let (m2, b2) ← ops.bounds m1
        if b2.lo > 0 then
          let (m3, b) ← ops.bounds m2
          pure (m3, decide (b.lo > 0))
        else
          let (m3, r) ← ops.tighten m2
          if r then nonzeroLoop ops k m3
          else
            let (m4, b) ← ops.bounds m3
            pure (m4, decide (b.lo > 0))

/-- one public operation on the root: its methods are `mkOps quiet F (n + 1)`; `edits` lists the sub-edits with the
    children's methods `mkOps quiet F n` -/
def applyOp (quiet : Bool) (F n : Nat) (op : Op) (m : M) : R (M × Res) :=
  let ops := mkOps quiet F (n + 1)
  match op with
  | .bounds => do let (m', b) ← ops.bounds m; pure (m', .iv b)
  | .tighten => do let (m', r) ← ops.tighten m; pure (m', .bool r)
  | .complete => do let (m', r) ← ops.complete m; pure (m', .bool r)
  | .valid => pure (m, .bool true)
  | .edits => do let (m', r) ← editsOp (mkOps quiet F n) quiet F m; pure (m', .names r)
  | .nonzero => do let (m', r) ← nonzeroLoop ops F m; pure (m', .bool r)
  | .onDiff => do let m' ← ops.onDiff m; pure (m', .unit)

def run (quiet : Bool) (F n : Nat) : M → List Op → R (M × List Res)
  | m, [] => pure (m, [])
  | m, op :: rest => do
      let (m1, r) ← applyOp quiet F n op m
      let (m2, rs) ← run quiet F n m1 rest
      pure (m2, r :: rs)

/-- `while e.tighten_bounds(): pass` -/
def full (ops : Ops) : Nat → M → R M
  | 0, _ => throw .fuel
  | k + 1, m => do
      let (m1, r) ← ops.tighten m
      if r then full ops k m1 else pure m1

/-- tighten to exhaustion, then dump: (final cost interval, script) -/
def finish (quiet : Bool) (F n : Nat) (m : M) : R (M × DScript) := do
  let ops := mkOps quiet F (n + 1)
  let m1 ← full ops F m
  ops.dump m1

/-! ### construction: `from.edits(to)` as a fresh machine (mirrors L2's `edits` dispatch) -/

mutual
/-- `initial_bounds` of a fresh machine -/
def initIv : M → Iv
  | .const _ c => Iv.point c
  | .kvp _ k v => (initIv k).add (initIv v)
  | .str _ e => initIv e
  | .fixed _ subs tail => let r := initIvL subs; ⟨r.lo + tailCost tail, r.hi + tailCost tail⟩
  | .ed _ s _ => ⟨s.lb0, s.ub0⟩
  | .coll _ s _ _ => ⟨0, s.ub0⟩
  | .ms .. => ⟨0, 0⟩
def initIvL : List M → Iv
  | [] => ⟨0, 0⟩
  | m :: ms => (initIv m).add (initIvL ms)
end

def mkConst (k : Kind) (c : Nat) : M := .const { kind := k } c

def ofLeafScript (s : Script) : M := .const { kind := s.kind, fi := s.fi, ti := s.ti } s.cost

def zeroTable (rows cols : Nat) : List (List Nat) := List.replicate rows (List.replicate cols 0)

/-- the `EditDistance.__init__` arithmetic: `fs` / `ts` = total sizes of the UNTRIMMED sequences, `ps` = shared
    prefix / suffix lengths -/
def edInit (ps : Nat × Nat) (fs ts : List Nat) (pen : Nat) : EdSt :=
  let larger := if fs.length < ts.length then ts else fs
  let k := larger.length - (if fs.length < ts.length then fs.length else ts.length)
  let lb0 := (((sortNat larger).take k).map (· + pen)).sum
  let ub0 := (fs.map (· + pen)).sum + (ts.map (· + pen)).sum
  let rem := (EditMatrix.middle fs ps).map (· + pen)
  let ins := (EditMatrix.middle ts ps).map (· + pen)
  { pre := ps.1, suf := ps.2, flen := fs.length, tlen := ts.length, lb0 := lb0, ub0 := ub0, rem := rem, ins := ins,
    costs := zeroTable (ins.length + 1) (rem.length + 1), paths := zeroTable (ins.length + 1) (rem.length + 1) }

/-- `StringNode(a).edits(StringNode(b))` -/
def mkStr (a b : Str) : M :=
  if a == b then mkConst .match_ 0
  else if a.length == 1 && b.length == 1 then mkConst .match_ 1
  else
    let ps := EditMatrix.trimLens a b
    let ma := EditMatrix.middle a ps
    let mb := EditMatrix.middle b ps
    let cells := mb.zipIdx.map fun (y, r) => ma.zipIdx.map fun (x, c) =>
      M.const { kind := .match_, fi := .at (c + ps.1), ti := .at (r + ps.1) } (if x == y then 0 else 1)
    .str { kind := .str } (.ed { kind := .ed } (edInit ps (a.map fun _ => 1) (b.map fun _ => 1) 0) cells)

/-- `LeafNode.edits` / `StringNode.edits` / `NullNode.edits` -/
def mkLeaf (a : Scalar) (t : Tree) : M :=
  match a, t with
  | .str s, .leaf (.str s') => mkStr s s'
  | a, t => ofLeafScript (leafEdits a t)

/-- `KeyValuePairEdit(f, t)`; `valEdit` is used when the values differ -/
def mkKvp (fk tk : Str) (valuesEqual : Bool) (valEdit : M) : M :=
  let ke := (if fk == tk then mkConst .match_ 0 else mkStr fk tk).relabel (.at 0) (.at 0)
  let ve := (if valuesEqual then mkConst .match_ 0 else valEdit).relabel (.at 1) (.at 1)
  .kvp { kind := .kvp } ke ve

def mkRemove (i size pen : Nat) : M := .const { kind := .remove, fi := .at i } (size + pen)
def mkInsert (i size pen : Nat) : M := .const { kind := .insert, fi := .at i } (size + pen)

/-- `FixedKeyDictNode._child_edits`: shared keys in from-order, then removals, then insertions in to-order.
    `vtbl[i][j]` = machine of `from.value[i].edits(to.value[j])`. -/
def fkPending (fkv tkv : List (Str × Tree)) (vtbl : List (List M)) : List M :=
  let nf := fkv.length
  let shared : List M := (List.range nf).filterMap fun i =>
    let f := fkv.getD i ([], .leaf .null)
    (findKey f.1 tkv 0).map fun j =>
      let t := tkv.getD j ([], .leaf .null)
      if kvEq f t then (mkConst .match_ 0).relabel (.at i) (.at j)
      else (mkKvp f.1 t.1 (f.2.eq t.2) ((vtbl.getD i []).getD j (mkConst .match_ 0))).relabel (.at i) (.at j)
  let rems : List M := (List.range nf).filterMap fun i =>
    let f := fkv.getD i ([], .leaf .null)
    match findKey f.1 tkv 0 with
    | some _ => none
    | none => some (mkRemove i (kvSize f) 1)
  let inss : List M := (List.range tkv.length).filterMap fun j =>
    let t := tkv.getD j ([], .leaf .null)
    match findKey t.1 fkv 0 with
    | some _ => none
    | none => some (mkInsert j (kvSize t) 1)
  shared ++ rems ++ inss

/-- `MultiSetEdit` on two `DictNode`s (cf. L2 `msScript`). `vtbl[i][j]` = machine of `from.value[i].edits(to.value[j])`. -/
def mkMs (amk : Bool) (orc : Orc) (fp tp : List Nat) (fkv tkv : List (Str × Tree)) (vtbl : List (List M)) : M :=
  let nf := fkv.length
  let nt := tkv.length
  let kvE (i j : Nat) : M :=
    let f := fkv.getD i ([], .leaf .null)
    let t := tkv.getD j ([], .leaf .null)
    (mkKvp f.1 t.1 (f.2.eq t.2) ((vtbl.getD i []).getD j (mkConst .match_ 0))).relabel (.at i) (.at j)
  let auto : List (Nat × Nat) :=
    if amk then (List.range nf).filterMap fun i => (findKey (fkv.getD i ([], .leaf .null)).1 tkv 0).map fun j => (i, j)
    else []
  let fLeft := (List.range nf).filter fun i => !(auto.any (·.1 == i))
  let tLeft := (List.range nt).filter fun j => !(auto.any (·.2 == j))
  let hasEqIn (x : Str × Tree) (idxs : List Nat) (l : List (Str × Tree)) : Bool :=
    idxs.any fun j => kvEq x (l.getD j ([], .leaf .null))
  let toMatch := fLeft.filter fun i => hasEqIn (fkv.getD i ([], .leaf .null)) tLeft tkv
  let toRemove := fLeft.filter fun i => !(hasEqIn (fkv.getD i ([], .leaf .null)) tLeft tkv)
  let toInsert := tLeft.filter fun j => !(hasEqIn (tkv.getD j ([], .leaf .null)) fLeft fkv)
  let fps := toRemove.map fun i => fp ++ [i]
  let tps := toInsert.map fun j => tp ++ [j]
  let pairs := sortPairs (orc.assign.lookup fps tps)
  let s : MsSt :=
    { remCosts := toRemove.map fun i => kvSize (fkv.getD i ([], .leaf .null)) + 1,
      insCosts := toInsert.map fun j => kvSize (tkv.getD j ([], .leaf .null)) + 1,
      remIdx := toRemove, insIdx := toInsert,
      nMatch := toMatch.map fun i => (mkMatch 0).relabel (.at i) .same }
  let w : WmSt := { nf := toRemove.length, nt := toInsert.length, assign := pairs, mdCounts := orc.mdLookup fps tps }
  .ms { kind := .ms } s (auto.map fun (i, j) => kvE i j) w
    (toRemove.map fun i => toInsert.map fun j => kvE i j)

/-- `from.edits(to)` as a fresh machine.  `fp` / `tp`: index paths of the two nodes (oracle keys). -/
def mkEdit (o : Opts) (orc : Orc) : List Nat → List Nat → Tree → Tree → M
  | _, _, .leaf a, t => mkLeaf a t
  | fp, tp, .list fcs, .list tcs =>
      if eqL fcs tcs then mkConst .match_ 0
      else if !o.ale || (fcs.length == tcs.length && (!o.alesl || fcs.length == 1)) then
        let n := Nat.min fcs.length tcs.length
        let pairs : List M := fcs.attach.zipIdx.filterMap fun (⟨fc, _⟩, i) =>
          match tcs[i]? with
          | some tc => some ((mkEdit o orc (fp ++ [i]) (tp ++ [i]) fc tc).relabel (.at i) (.at i))
          | none => none
        let rems := (List.range (fcs.length - n)).map fun k => GtModel.mkRemove (n + k) ((fcs.getD (n + k) (.leaf .null)).size) 1
        let inss := (List.range (tcs.length - n)).map fun k => GtModel.mkInsert (n + k) ((tcs.getD (n + k) (.leaf .null)).size) 1
        .fixed { kind := .fixed } pairs (rems ++ inss)
      else
        let pen := if allLeaves fcs && allLeaves tcs && allPositive fcs && allPositive tcs then 0 else 1
        let ps := EditMatrix.trimLens fcs tcs
        let mt := EditMatrix.middle tcs ps
        -- cells[r][c] = from_seq[c].edits(to_seq[r]) on the middle parts
        let cols : List (List M) := fcs.attach.zipIdx.filterMap fun (⟨fc, _⟩, ci) =>
          if ps.1 ≤ ci && ci < fcs.length - ps.2 then
            some (mt.zipIdx.map fun (tc, r) =>
              (mkEdit o orc (fp ++ [ci]) (tp ++ [r + ps.1]) fc tc).relabel (.at ci) (.at (r + ps.1)))
          else none
        let cells : List (List M) := (List.range mt.length).map fun r => cols.filterMap fun col => col[r]?
        .ed { kind := .ed } (edInit ps (fcs.map Tree.size) (tcs.map Tree.size) pen) cells
  | _, _, .list fcs, t => ofLeafScript (mkReplace (sizeL fcs) t.size)
  | fp, tp, .dict fkv, .dict tkv =>
      if (fkv.length == tkv.length && subKV fkv tkv) then mkConst .match_ 0
      else
        let vtbl : List (List M) := fkv.attach.zipIdx.map fun (⟨kv, _⟩, i) =>
          tkv.zipIdx.map fun (tkvj, j) => mkEdit o orc (fp ++ [i, 1]) (tp ++ [j, 1]) kv.2 tkvj.2
        mkMs o.amk orc fp tp fkv tkv vtbl
  | _, _, .dict fkv, t => ofLeafScript (mkReplace (sizeKV fkv) t.size)
  | fp, tp, .fdict fkv, .fdict tkv =>
      if (fkv.length == tkv.length && subKV fkv tkv) then mkConst .match_ 0
      else
        let vtbl : List (List M) := fkv.attach.zipIdx.map fun (⟨kv, _⟩, i) =>
          tkv.zipIdx.map fun (tkvj, j) => mkEdit o orc (fp ++ [i, 1]) (tp ++ [j, 1]) kv.2 tkvj.2
        let pending := fkPending fkv tkv vtbl
        .coll { kind := .fk } { ub0 := sizeKV fkv + 1 + sizeKV tkv, inits := [], pinits := pending.map fun m => (initIv m).hi }
          pending []
  | _, _, .fdict fkv, t => ofLeafScript (mkReplace (sizeKV fkv) t.size)
termination_by _ _ f _ => sizeOf f
decreasing_by
  all_goals simp_wf
  · have := List.sizeOf_lt_of_mem ‹fc ∈ fcs›; omega
  · have := List.sizeOf_lt_of_mem ‹fc ∈ fcs›; omega
  · have h1 := List.sizeOf_lt_of_mem ‹kv ∈ fkv›
    have h2 := sizeOf_snd_lt kv
    omega
  · have h1 := List.sizeOf_lt_of_mem ‹kv ∈ fkv›
    have h2 := sizeOf_snd_lt kv
    omega

/-! ### JSON for the driver -/

def ivCostJson (b : Iv) : Json :=
  if b.lo == b.hi then Json.num (b.hi : Nat)
  else Json.mkObj [("lo", Json.num (b.lo : Nat)), ("hi", Json.num (b.hi : Nat))]

partial def DScript.toJson : DScript → Json
  | .mk k f t c subs =>
      Json.arr #[Json.str k.toString, f.toJson, t.toJson, ivCostJson c, Json.arr (subs.map DScript.toJson).toArray]

def Err.toString : Err → String
  | .fuel => "fuel" | .freed => "freed" | .assertion => "assertion" | .range => "range"
  | .invalidated => "invalidated" | .emptyMin => "emptyMin" | .index => "index" | .oracle => "oracle"
  | .shape => "shape"

def Res.toJson : Res → Json
  | .iv b => b.toJson
  | .bool b => Json.bool b
  | .names none => Json.null
  | .names (some l) => Json.arr (l.map Json.str).toArray
  | .unit => Json.null

def opOfString : String → Except String Op
  | "bounds" => pure .bounds | "tighten" => pure .tighten | "complete" => pure .complete | "valid" => pure .valid
  | "edits" => pure .edits | "nonzero" => pure .nonzero | "ondiff" => pure .onDiff
  | s => throw s!"unknown op {s}"

/-- run the operations one by one so that the results before an error are still reported -/
def runCollect (quiet : Bool) (n : Nat) : M → List Op → List Json → (Option M) × List Json
  | m, [], acc => (some m, acc.reverse)
  | m, op :: rest, acc =>
      match applyOp quiet n n op m with
      | .ok (m1, r) => runCollect quiet n m1 rest (r.toJson :: acc)
      | .error e => (none, (Json.mkObj [("raise", Json.str e.toString)] :: acc).reverse)

def runOne (quiet : Bool) (n : Nat) (m : M) (ops : List Op) : Json :=
  let (m1, results) := runCollect quiet n m ops []
  let final : Json := match m1 with
    | none => Json.null
    | some m1 =>
      match finish quiet n n m1 with
      | .ok (_, d) => (match d with | .mk _ _ _ c _ => Json.mkObj [("cost", ivCostJson c), ("script", d.toJson)])
      | .error e => Json.mkObj [("raise", Json.str e.toString)]
  Json.mkObj [("results", Json.arr results.toArray), ("final", final)]

def mdOfJson (j : Json) : Except String (List MdEntry) := do
  let a ← j.getArr?
  a.toList.mapM fun e => do
    let f ← pathsOfJson (← e.getObjVal? "f")
    let t ← pathsOfJson (← e.getObjVal? "t")
    let cs ← (← e.getObjVal? "counts").getArr?
    let counts ← cs.toList.mapM jsonToNatList
    pure { f := f, t := t, counts := counts }

/-- stream handler `lazy`: {"f","t","ake","amk","ale","alesl","ops":[...],"quiets":[bool...],
    "oracle":[per run: scipy answers],"md":[per run: make_distinct step counts],"fuel":n} -/
def lazyHandler : Handler := fun j => do
  let o ← optsOfJson j
  let f ← docOfJson (← j.getObjVal? "f")
  let t ← docOfJson (← j.getObjVal? "t")
  let opsJ ← getArr j "ops"
  let ops ← opsJ.toList.mapM fun x => do opOfString (← x.getStr?)
  let qs ← getArr j "quiets"
  let quiets ← qs.toList.mapM (·.getBool?)
  let orcs := (getArr j "oracle").toOption.getD #[]
  let mds := (getArr j "md").toOption.getD #[]
  let n := (getNat j "fuel").toOption.getD 100000
  let ft := build o f
  let tt := build o t
  let outs ← quiets.zipIdx.mapM fun (q, i) => do
    let assign ← match orcs[i]? with | some a => oracleOfJson a | none => pure []
    let md ← match mds[i]? with | some a => mdOfJson a | none => pure []
    pure (runOne q n (mkEdit o { assign := assign, md := md } [] [] ft tt) ops)
  pure (Json.arr outs.toArray)

end GtModel.Lazy
