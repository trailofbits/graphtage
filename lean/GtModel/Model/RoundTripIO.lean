/-
  Driver handler of stream `roundtrip` (C12): decodes the harness' tagged document, prints it with the model
  printer and reads the REAL printed text with the model reader.
  in : {"s":"roundtrip","fmt":"json"|"json5"|"csv","doc":<tagged>,"printed":[code points],"comb":bool}
       `comb` = the real loader turns an escaped surrogate pair into one character (probed by the harness: Python's
       `json` always; the JSON5 loader only after its repair)
  out: {"print":[code points], "read":<tagged, mapping keys sorted as the loader does>|null, "valid":bool}
-/
import GtModel.Model.RoundTrip
import GtModel.Model.Tree

namespace GtModel.RoundTrip
open Lean GtModel

/-- a float arrives as the text `json.dumps` prints; it must lex as a float literal of the model's grammar
    (this validates the assumption about `float.__repr__` on every case) -/
def floatOfText (t : Str) : Except String FloatLit :=
  match lexAtom t with
  | some (.float f, []) => if f.text = t then pure f else throw "float literal does not re-print"
  | _ => throw s!"not a float literal: {t}"

mutual
partial def ofDoc : Doc → Except String JVal
  | .scalar .null => pure .null
  | .scalar (.bool b) => pure (.bool b)
  | .scalar (.int i) => pure (.int i)
  | .scalar (.float t) => do pure (.float (← floatOfText t))
  | .scalar (.str s) => pure (.str s)
  | .list cs => do pure (.arr (← ofDocs cs))
  | .obj kvs => do pure (.obj (← ofKvs kvs))
partial def ofDocs : List Doc → Except String JList
  | [] => pure .nil
  | c :: cs => do pure (.cons (← ofDoc c) (← ofDocs cs))
partial def ofKvs : List (Str × Doc) → Except String JObj
  | [] => pure .nil
  | (k, v) :: rest => do pure (.cons k (← ofDoc v) (← ofKvs rest))
end

mutual
partial def toJson : JVal → Json
  | .null => Json.mkObj [("k", "null")]
  | .bool b => Json.mkObj [("k", "bool"), ("v", Json.bool b)]
  | .int i => Json.mkObj [("k", "int"), ("v", Json.num (JsonNumber.fromInt i))]
  | .float f => Json.mkObj [("k", "float"), ("s", natListToJson f.text)]
  | .str s => Json.mkObj [("k", "str"), ("s", natListToJson s)]
  | .arr xs => Json.mkObj [("k", "list"), ("c", Json.arr (listToJson xs).toArray)]
  | .obj kvs => Json.mkObj [("k", "dict"), ("c", Json.arr (objToJson kvs).toArray)]
partial def listToJson : JList → List Json
  | .nil => []
  | .cons v t => toJson v :: listToJson t
partial def objToJson : JObj → List Json
  | .nil => []
  | .cons k v t => Json.arr #[natListToJson k, toJson v] :: objToJson t
end

/-! `DictNode.from_dict` sorts the key/value pairs of every mapping at load time -/
mutual
partial def sortKeys : JVal → JVal
  | .arr xs => .arr (sortKeysL xs)
  | .obj kvs => .obj (objOfList (sortKV (sortKeysO kvs)))
  | v => v
partial def sortKeysL : JList → JList
  | .nil => .nil
  | .cons v t => .cons (sortKeys v) (sortKeysL t)
partial def sortKeysO : JObj → List (Str × JVal)
  | .nil => []
  | .cons k v t => (k, sortKeys v) :: sortKeysO t
partial def objOfList : List (Str × JVal) → JObj
  | [] => .nil
  | (k, v) :: t => .cons k v (objOfList t)
end

def rowsOfJson (j : Json) : Except String (List (List Str)) := do
  let rows ← getArr j "rows"
  rows.toList.mapM (fun r => do
    let cells ← r.getArr?
    cells.toList.mapM jsonToNatList)

def rowsToJson (rows : List (List Str)) : Json :=
  Json.mkObj [("k", "csv"), ("rows", Json.arr (rows.map (fun r => Json.arr (r.map natListToJson).toArray)).toArray)]

def roundtripHandler : Handler := fun j => do
  let fmt ← getStr j "fmt"
  let printed ← jsonToNatList (← j.getObjVal? "printed")
  let docJ ← j.getObjVal? "doc"
  if fmt == "csv" then
    let rows ← rowsOfJson docJ
    let rd := match readCsv printed with
      | some r => rowsToJson r
      | none => Json.null
    pure (Json.mkObj [("print", natListToJson (printCsv rows)), ("read", rd),
                      ("valid", Json.bool (rows.all (fun r => r.all (fun c => !c.contains 13))))])
  else
    let v ← ofDoc (← docOfJson docJ)
    let comb ← getBool j "comb"
    let rd := match readDoc comb printed with
      | some r => toJson (sortKeys r)
      | none => Json.null
    pure (Json.mkObj [("print", natListToJson (printJson v)), ("read", rd),
                      ("valid", Json.bool (if comb then v.valid else v.valid5))])

end GtModel.RoundTrip
