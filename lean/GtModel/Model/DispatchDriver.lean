import GtModel.Gen.FormatterTables
import GtModel.Model.Proto

namespace GtModel.Dispatch
open Lean

def mroOf (cls : String) : Option (List String) :=
  match (Gen.nodeClasses ++ Gen.editClasses).find? (·.1 == cls) with
  | some (_, mro, _, _) => some mro
  | none => none

/-- stream `dispatch`: {"root": i, "path": [..], "cls": name, "edited": bool} ↦ resolved handler or null.
    `edited`: resolve for the dynamically created `Edited<cls>` class (MRO = Edited<cls>, EditedTreeNode, cls, …). -/
def dispatchHandler : Handler := fun j => do
  let ri ← getNat j "root"
  let path ← jsonToNatList (← j.getObjVal? "path")
  let cls ← getStr j "cls"
  let edited := match j.getObjVal? "edited" with | .ok (Json.bool b) => b | _ => false
  match mroOf cls with
  | none => throw s!"unknown class {cls}"
  | some mro =>
    let mro' := if edited then ("Edited" ++ cls) :: "EditedTreeNode" :: mro else mro
    match getFormatter Gen.formatters (some (ri, path)) mro' with
    | some (c, m) => pure (Json.arr #[Json.str c, Json.str m])
    | none => pure Json.null

/-- stream `dispatch_all`: {"root": i, "queries": [[path, cls, edited], ...]} ↦ list of handlers -/
def dispatchAllHandler : Handler := fun j => do
  let ri ← getNat j "root"
  let qs ← getArr j "queries"
  let outs ← qs.toList.mapM fun q => do
    let a ← q.getArr?
    if h : a.size = 3 then
      let path ← jsonToNatList a[0]
      let cls ← a[1].getStr?
      let edited ← a[2].getBool?
      match mroOf cls with
      | none => throw s!"unknown class {cls}"
      | some mro =>
        let mro' := if edited then ("Edited" ++ cls) :: "EditedTreeNode" :: mro else mro
        match getFormatter Gen.formatters (some (ri, path)) mro' with
        | some (c, m) => pure (Json.arr #[Json.str c, Json.str m])
        | none => pure Json.null
    else throw "query"
  pure (Json.arr outs.toArray)

end GtModel.Dispatch
