/-
  C09 layer: the four loaders JSON / JSON5 / YAML / PLIST.  All of them end in `json.build_tree(obj)`;
  YAML and PLIST clear the `quoted` flag of string leaves (rendering only, no effect on equality or cost) and
  PLIST wraps the root in a `PLISTNode`.  The external parsers are not modelled: a datum is one `Doc`; the ASSUMPTION
  (validated on every run by the `formats` stream) is that they return equal Python objects for the same datum.
  Lean core only.
-/
import GtModel.Model.Edits

namespace GtModel.Formats
open Lean

inductive Fmt where
  | json | json5 | yaml | plist
deriving DecidableEq, Repr, Inhabited

/-- a loaded document: a plain tree, or a tree under a `PLISTNode` wrapper -/
inductive Loaded where
  | plain (t : Tree)
  | plist (root : Tree)
deriving Repr, Inhabited

def load (o : Opts) (f : Fmt) (d : Doc) : Loaded :=
  match f with
  | .plist => .plist (build o d)
  | _ => .plain (build o d)

def Loaded.size : Loaded → Nat
  | .plain t => t.size
  | .plist r => r.size          -- PLISTNode.calculate_total_size = root.calculate_total_size()

def Loaded.payload : Loaded → Tree
  | .plain t => t
  | .plist r => r

/-- cost of `from.edits(to)` fully refined:
    * plain vs plain: the L2 script;
    * PLISTNode vs PLISTNode: EditCollection [Match(self,node,0), root.edits(root')] — the cost of the roots' edit;
    * PLISTNode vs plain: `self.root.edits(node)`;
    * plain vs PLISTNode: no node class knows PLISTNode, every `edits` falls through to `Replace(self, node)`. -/
def cost (o : Opts) (orc : Oracle) : Loaded → Loaded → Nat
  | .plain a, .plain b => (edits o orc [] [] a b).cost
  | .plist a, .plist b => (edits o orc [0] [0] a b).cost
  | .plist a, .plain b => (edits o orc [0] [] a b).cost
  | .plain a, .plist b => Nat.max a.size b.size + 1

def allFmts : List (String × Fmt) := [("json", .json), ("json5", .json5), ("yaml", .yaml), ("plist", .plist)]

/-- stream `formats`: the datum loaded in every ordered pair of formats: is the cost zero? -/
def formatsHandler : Handler := fun j => do
  let o ← optsOfJson j
  let d ← docOfJson (← j.getObjVal? "d")
  let entries : List (String × Json) := allFmts.flatMap fun (na, a) => allFmts.map fun (nb, b) =>
    (na ++ "->" ++ nb, Json.bool (cost o [] (load o a d) (load o b d) == 0))
  pure <| Json.mkObj [("zero", Json.mkObj entries)]

end GtModel.Formats
