/-
  L9: decision logic of `graphtage.__main__.main` as total functions over a parsed-arguments record.
  Mirrors: the MIME selection for both files, `graphtage.get_filetype`, the option normalisation into
  `BuildOptions` and printer options, the load-error path and the exit status.
  The file-type tables come from `GtModel.Gen.CliTables`, regenerated from /repo on every run.
  Lean core only.
-/
import GtModel.Gen.CliTables
import GtModel.Model.Tree

namespace GtModel.Cli
open Lean

/-- the argparse namespace fields that matter for which parser reads which file and how trees are built -/
structure Args where
  fromMime : Option String := none      -- --from-mime M
  fromType : Option String := none      -- --from-T   (T a type name)
  toMime : Option String := none
  toType : Option String := none
  dictStrategy : Option String := none  -- --dict-strategy auto|match|none
  noKeyEdits : Bool := false            -- -k
  noListEdits : Bool := false           -- -l
  noListEditsSameLen : Bool := false    -- -ll
  condensed : Bool := false             -- -j
  joinLists : Bool := false             -- -jl
  joinDictItems : Bool := false         -- -jd
deriving Repr, Inhabited

def defaultMime (ty : String) : Option String :=
  (Gen.fileTypes.find? (·.1 == ty)).map (·.2.1)

/-- `args.X_mime` if given, else the `const` of the first `--X-T` flag found in FILETYPES_BY_TYPENAME order
    (argparse's mutually exclusive group allows at most one of them) -/
def selectMime (mime ty : Option String) : Option String :=
  match mime with
  | some m => some m
  | none => Gen.fileTypes.findSome? fun (n, d, _) => if ty == some n then some d else none

inductive FtErr where
  | unknownType     -- "Could not determine the filetype"
  | unsupported     -- "Unsupported MIME type"
deriving Repr, DecidableEq

deriving instance DecidableEq for Except

/-- `graphtage.get_filetype(path, mime_type)`; `guess` = `mimetypes.guess_type(path)[0]` -/
def getFiletype (guess mime : Option String) : Except FtErr String :=
  let m := match mime with
    | some m => some m
    | none => guess
  match m with
  | none => .error .unknownType
  | some m =>
    match Gen.byMime.find? (·.1 == m) with
    | some (_, ty) => .ok ty
    | none => .error .unsupported

def parserFor (a : Args) (guessFrom guessTo : Option String) : Except FtErr (String × String) := do
  let f ← getFiletype guessFrom (selectMime a.fromMime a.fromType)
  let t ← getFiletype guessTo (selectMime a.toMime a.toType)
  pure (f, t)

/-- the `BuildOptions` main() constructs -/
def buildOpts (a : Args) : Opts :=
  let (ake, amk) :=
    match a.dictStrategy with
    | some "none" => (false, false)
    | some "auto" => (true, true)
    | some "match" => (true, false)
    | _ => (!a.noKeyEdits, !a.noKeyEdits)
  { ake := ake, amk := amk, ale := !a.noListEdits, alesl := !a.noListEditsSameLen }

/-- (join_lists, join_dict_items) printer options -/
def printerOpts (a : Args) : Bool × Bool := (a.condensed || a.joinLists, a.condensed || a.joinDictItems)

/-! ### load-error path and exit status -/

inductive Load where
  | tree          -- the loader returned a tree
  | message       -- the loader returned an error string (it caught the parser's exception)
  | escaped       -- an exception escaped `build_tree_handling_errors`
deriving Repr, DecidableEq

structure Outcome where
  exit : Int            -- return value of main()
  stdoutEmpty : Bool
  stderrNamesFile : Bool
  uncaught : Bool
deriving Repr, DecidableEq

/-- what main() does after both loads, given whether the documents differ (`cost > 0`) -/
def outcome (lf lt : Load) (differ : Bool) : Outcome :=
  match lf, lt with
  | .escaped, _ => ⟨0, true, false, true⟩
  | .message, _ => ⟨1, true, true, false⟩
  | .tree, .escaped => ⟨0, true, false, true⟩
  | .tree, .message => ⟨1, true, true, false⟩
  | .tree, .tree => ⟨if differ then 1 else 0, false, false, false⟩

/-- does the type's handler catch an exception of class `exc` (by MRO lookup)? -/
def catches (ty exc : String) : Bool :=
  match Gen.caught.find? (·.1 == ty), Gen.mro.find? (·.1 == exc) with
  | some (_, cs), some (_, mro) => cs.any fun c => mro.contains c
  | _, _ => false

/-- every class the type's parser is assumed to raise on invalid syntax is caught by the type's handler -/
def handlersCover (ty : String) : Bool :=
  match Gen.raisable.find? (·.1 == ty) with
  | some (_, excs) => excs.all (catches ty)
  | none => false

def loadOfInvalid (ty : String) : Load := if handlersCover ty then .message else .escaped

/-! ### driver -/

def optStr (j : Json) (k : String) : Option String :=
  match j.getObjVal? k with
  | .ok (Json.str s) => some s
  | _ => none

def optBool (j : Json) (k : String) : Bool :=
  match j.getObjVal? k with
  | .ok (Json.bool b) => b
  | _ => false

def argsOfJson (j : Json) : Args :=
  { fromMime := optStr j "from_mime", fromType := optStr j "from_type", toMime := optStr j "to_mime",
    toType := optStr j "to_type", dictStrategy := optStr j "dict_strategy", noKeyEdits := optBool j "k",
    noListEdits := optBool j "l", noListEditsSameLen := optBool j "ll", condensed := optBool j "j",
    joinLists := optBool j "jl", joinDictItems := optBool j "jd" }

def ftJson : Except FtErr String → Json
  | .ok s => Json.str s
  | .error .unknownType => Json.str "ERR:unknown-type"
  | .error .unsupported => Json.str "ERR:unsupported-mime"

/-- stream `cli`: {"runs": [{"args": {...}, "guess_from": mime|null, "guess_to": mime|null, "to_loaded": bool}]}
    ↦ per run the observable view of main(): the parser invoked per file (or which lookup failed), options.
    main() looks both types up before loading anything, and loads the second file only if the first loaded. -/
def cliRun (j : Json) : Except String Json := do
  let a := argsOfJson (← j.getObjVal? "args")
  let gf := optStr j "guess_from"
  let gt := optStr j "guess_to"
  let toLoaded := optBool j "to_loaded"
  let f := getFiletype gf (selectMime a.fromMime a.fromType)
  let t := getFiletype gt (selectMime a.toMime a.toType)
  let o := buildOpts a
  let po := printerOpts a
  let (fj, tj) : Json × Json :=
    match f, t with
    | .error _, _ => (ftJson f, Json.null)
    | .ok _, .error _ => (Json.null, ftJson t)
    | .ok _, .ok _ => (ftJson f, if toLoaded then ftJson t else Json.null)
  pure <| Json.mkObj [("from", fj), ("to", tj),
    ("opts", Json.arr #[Json.bool o.ake, Json.bool o.amk, Json.bool o.ale, Json.bool o.alesl]),
    ("printer", Json.arr #[Json.bool po.1, Json.bool po.2])]

def cliHandler : Handler := fun j => do
  let rs ← getArr j "runs"
  let outs ← rs.toList.mapM cliRun
  pure <| Json.mkObj [("runs", Json.arr outs.toArray)]

/-- stream `errorpath`: {"kind": type} ↦ predicted outcome of an invalid file of that type in either position -/
def errorPathHandler : Handler := fun j => do
  let ty ← getStr j "kind"
  let l := loadOfInvalid ty
  let o1 := outcome l .tree true
  let o2 := outcome .tree l true
  let enc (o : Outcome) : Json := Json.arr #[Json.bool (!o.uncaught && o.exit != 0), Json.bool o.stdoutEmpty, Json.bool o.stderrNamesFile]
  pure <| Json.mkObj [("runs", Json.arr #[enc o1, enc o2])]

end GtModel.Cli
