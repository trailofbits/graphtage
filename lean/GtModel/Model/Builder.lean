/-
  L6: `graphtage.builder` (Builder.build_tree work-stack machine, BasicBuilder, pydiff.PyObjBuilder),
  `graphtage.json.build_tree`, `to_obj()` of every node type, `TreeNode.copy()` / `copy_from`.
  Exact mirror of the current Python code; only Lean core is imported.

  Python object graphs are STORES: cell id ↦ payload, ids preserve sharing and cycles.
-/
import GtModel.Gen.BuilderTable

namespace GtModel.Builder
open Lean

/-! ## Python side: scalars, stores -/

inductive Kind where
  | int | bool | float | str | bytes | none
deriving DecidableEq, Repr, Inhabited

/-- A scalar Python object.  `text` is an injective rendering inside the kind; the remaining fields are oracle
answers about CPython (not graphtage): `eqc` = class of `LeafNode.__eq__` on the payload (Python `==`, hash-compatible, with
every NaN in the one class "nan": graphtage 8b61c77), `str` = `str(obj)`,
`num` = exact rational value of an int/bool/float (denominator 0 = non-finite float: (0,0) NaN, (±1,0) ±inf), `dec` = utf-8 decoding of a bytes object. -/
structure Scalar where
  kind : Kind
  text : String
  eqc : String
  str : String
  num : Option (Int × Nat)
  dec : Option String
deriving DecidableEq, Repr, Inhabited

def Scalar.none : Scalar := ⟨.none, "", "none", "None", Option.none, Option.none⟩
/-- a fresh `str` object (class / attribute names yielded by `PyObjBuilder.default_expander`) -/
def Scalar.ofStr (s : String) : Scalar := ⟨.str, s, "s:" ++ s, s, Option.none, Option.none⟩

inductive Payload where
  | scalar (s : Scalar)
  | list (items : List Nat)
  | tuple (items : List Nat)
  | dict (items : List (Nat × Nat))
  | set (items : List Nat)                       -- set / frozenset, in iteration order
  | custom (cls : String) (attrs : List (String × Nat))   -- `dir()` order, standard dunders omitted
deriving Repr, Inhabited

structure Cell where
  mro : List String          -- `type(obj).__mro__` as names
  val : Payload
deriving Repr, Inhabited

abbrev Store := List Cell

/-- what the builders pass around: a stored object, or a fresh `str` made by `default_expander` -/
inductive Ref where
  | obj (id : Nat)
  | istr (s : String)
deriving DecidableEq, Repr, Inhabited

structure Opts where
  ake : Bool      -- allow_key_edits
  amk : Bool      -- auto_match_keys
  ale : Bool      -- allow_list_edits
  alesl : Bool    -- allow_list_edits_when_same_length
  chk : Bool      -- check_for_cycles
  ign : Bool      -- ignore_cycles
deriving DecidableEq, Repr, Inhabited

inductive BKind where
  | basic | pyobj
deriving DecidableEq, Repr, Inhabited

/-- exceptions raised by the per-type builders, `to_obj`, `copy_from`, `json.build_tree` -/
inductive BErr where
  | notImplemented     -- Builder.default_builder
  | typeError
  | valueError
  | assertion
  | unicodeDecode
  | recursion          -- json.build_tree on a cyclic object
  | badRef             -- dangling id (never produced by the harness)
  | unmodelled (what : String)
deriving DecidableEq, Repr, Inhabited

/-- outcome classes of `Builder.build_tree`: the cycle error is raised by the traversal only, never by a
per-type builder (by construction of this type) -/
inductive Err where
  | cycle              -- ValueError("Detected a cycle …")
  | outOfFuel          -- the step / depth budget of the model ran out (not a Python outcome)
  | build (e : BErr)
deriving DecidableEq, Repr, Inhabited

def BErr.name : BErr → String
  | .notImplemented => "NotImplementedError"
  | .typeError => "TypeError"
  | .valueError => "ValueError"
  | .assertion => "AssertionError"
  | .unicodeDecode => "UnicodeDecodeError"
  | .recursion => "RecursionError"
  | .badRef => "badRef"
  | .unmodelled w => "unmodelled:" ++ w

def Err.name : Err → String
  | .cycle => "cycle"
  | .outOfFuel => "outOfFuel"
  | .build e => e.name

def liftB {α} : Except BErr α → Except Err α
  | .ok a => .ok a
  | .error e => .error (.build e)

/-! ## graphtage trees -/

inductive LeafCls where
  | integer | bool | float | string | null
deriving DecidableEq, Repr, Inhabited

inductive Tag where
  | list (ale alesl : Bool)          -- ListNode
  | mset (amk : Bool)                -- MultiSetNode
  | dict (py : Bool) (amk : Bool)    -- DictNode / pydiff.PyObjAttributes
  | fdict (py : Bool)                -- FixedKeyDictNode / pydiff.PyObjFixedAttributes
  | kvp (kw : Bool) (ake : Bool)     -- KeyValuePairNode / ast.KeywordArgument
  | pyobj                            -- pydiff.PyObj  (children = [class_name, attrs])
deriving DecidableEq, Repr, Inhabited

inductive Tree where
  | leaf (c : LeafCls) (s : Scalar) (quoted : Bool)
  | cyc (target : Ref) (wraps : Nat)       -- builder.CyclicReference; `wraps` = IdentityHash layers
  | node (t : Tag) (cs : List Tree)
deriving Repr, Inhabited

/-- `node.children()` -/
def Tree.children : Tree → List Tree
  | .node _ cs => cs
  | _ => []

/-- which Python container holds `_children` (decides `SequenceNode.__eq__`) -/
inductive CKind where
  | tuple | counter | pdict | kvp | pyobj
deriving DecidableEq, Repr

def Tag.ckind : Tag → CKind
  | .list .. => .tuple
  | .mset .. => .counter
  | .dict .. => .counter
  | .fdict .. => .pdict
  | .kvp .. => .kvp
  | .pyobj => .pyobj

/-- `a == b` (and equal hashes, i.e. "same dictionary key") for two DISTINCT node objects.
`CyclicReference` and `PyObj` compare by identity, hence never equal here. -/
def Tree.pyEq : Tree → Tree → Bool
  | .leaf ca sa _, .leaf cb sb _ =>
      if ca = .null then cb = .null
      else (decide (sa.kind = .bool) == decide (sb.kind = .bool)) && sa.eqc == sb.eqc
  | .node ta as, .node tb bs =>
      match ta.ckind, tb.ckind with
      | .tuple, .tuple =>
          as.length == bs.length && (as.attach.zip bs).all (fun p => Tree.pyEq p.1.1 p.2)
      | .kvp, .kvp =>
          as.length == bs.length && (as.attach.zip bs).all (fun p => Tree.pyEq p.1.1 p.2)
      | .counter, .counter =>
          as.length == bs.length &&
            as.attach.all (fun x => Tree.pyEq x.1 x.1 &&      -- `self[e]` finds `e` by identity even if `e != e`
                                    (as.attach.filter (fun y => Tree.pyEq x.1 y.1)).length
                                      == (bs.filter (fun y => Tree.pyEq x.1 y)).length)
      | .pdict, .pdict =>
          as.length == bs.length && as.attach.all (fun x => bs.any (fun y => Tree.pyEq x.1 y))
      | _, _ => false
  | _, _ => false
termination_by a => sizeOf a
decreasing_by
  all_goals simp_wf
  all_goals (try (have := List.sizeOf_lt_of_mem p.1.2; omega))
  all_goals (try (have := List.sizeOf_lt_of_mem x.2; omega))

/-- `collections.Counter(items)` as an insertion-ordered association list -/
def counterAdd {α} (eq : α → α → Bool) (x : α) : List (α × Nat) → List (α × Nat)
  | [] => [(x, 1)]
  | (y, n) :: r => if eq y x then (y, n + 1) :: r else (y, n) :: counterAdd eq x r

def counterOf {α} (eq : α → α → Bool) (xs : List α) : List (α × Nat) :=
  xs.foldl (fun acc x => counterAdd eq x acc) []

/-- `Counter.elements()` -/
def counterElems {α} (c : List (α × Nat)) : List α :=
  c.flatMap (fun p => List.replicate p.2 p.1)

/-- `list(HashableCounter(items).elements())` -/
def mkCounter {α} (eq : α → α → Bool) (xs : List α) : List α := counterElems (counterOf eq xs)

/-- `d[k] = v` on an insertion-ordered dict: an existing equal key keeps its key object and position -/
def dictInsert {κ ν} (eq : κ → κ → Bool) (k : κ) (v : ν) : List (κ × ν) → List (κ × ν)
  | [] => [(k, v)]
  | (k0, v0) :: r => if eq k0 k then (k0, v) :: r else (k0, v0) :: dictInsert eq k v r

def dictOf {κ ν} (eq : κ → κ → Bool) (kvs : List (κ × ν)) : List (κ × ν) :=
  kvs.foldl (fun acc p => dictInsert eq p.1 p.2 acc) []

/-! ## `<` on nodes and CPython's `sorted` (used by `DictNode.from_dict`) -/

/-- `LeafNode._sort_key`: the total order used when two wrapped objects cannot be compared — by kind first
    (null, numbers, bytes, strings, the rest), then by text -/
def Scalar.sortKey (s : Scalar) : Nat × String :=
  match s.kind with
  | .none => (0, "")
  | .bool => (1, s.str)
  | .int => (1, s.str)
  | .float => (1, s.str)
  | .bytes => (2, s.str)
  | .str => (3, s.text)

/-- `a.object < b.object`, falling back to `_sort_key(a.object) < _sort_key(b.object)` on TypeError
    (`LeafNode.__lt__`) -/
def scalarLt (a b : Scalar) : Bool :=
  match a.num, b.num with
  | some (p, q), some (p', q') =>
      -- denominator 0 encodes the non-finite floats: (0, 0) = NaN, (1, 0) = +inf, (-1, 0) = -inf.
      -- Python: every `<` with a NaN operand is False; -inf < x for every other x except -inf; x < +inf likewise
      if (q = 0 ∧ p = 0) ∨ (q' = 0 ∧ p' = 0) then false
      else if q = 0 then decide (p < 0) && !(q' = 0 && decide (p' < 0))
      else if q' = 0 then decide (0 < p')
      else decide (p * (q' : Int) < p' * (q : Int))
  | _, _ =>
    if a.kind = .str ∧ b.kind = .str then decide (a.text < b.text)
    else if a.kind = .bytes ∧ b.kind = .bytes then decide (a.text < b.text)
    else
      let ka := a.sortKey
      let kb := b.sortKey
      decide (ka.1 < kb.1) || (ka.1 == kb.1 && decide (ka.2 < kb.2))

/-- Python `x < y` for two nodes. -/
def nodeLt : Tree → Tree → Except BErr Bool
  | .leaf ca sa _, y =>
      if ca = .null then
        match y with
        | .leaf .null _ _ => pure false
        | _ => pure true
      else
        match y with
        | .leaf _ sb _ => pure (scalarLt sa sb)
        | .cyc .. => throw (.unmodelled "str(IdentityHash)")
        | .node .. => throw (.unmodelled "str(container node)")
  | .cyc .., _ => throw (.unmodelled "str(IdentityHash)")
  | .node (.kvp ..) _, _ => throw (.unmodelled "KeyValuePairNode < node")
  | .node .., _ => throw .typeError

/-- `KeyValuePairNode.__lt__` between two key/value pairs -/
def kvpLt (a b : Tree) : Except BErr Bool :=
  match a, b with
  | .node (.kvp ..) [ka, va], .node (.kvp ..) [kb, vb] => do
      if (← nodeLt ka kb) then pure true
      else if Tree.pyEq ka kb then nodeLt va vb
      else pure false
  | _, _ => throw (.unmodelled "kvpLt on non-kvp")

section PySort
variable {α : Type}

/-- `count_run` (CPython 3.12 listobject.c): the maximal run after the first two elements -/
def takeRun (lt : α → α → Except BErr Bool) (desc : Bool) : α → List α → Except BErr (List α × List α)
  | _, [] => pure ([], [])
  | prev, x :: xs => do
      let b ← lt x prev
      if b == desc then
        let (r, rest) ← takeRun lt desc x xs
        pure (x :: r, rest)
      else pure ([], x :: xs)

/-- the `do … while (l < r)` loop of `binarysort` -/
def bsearch (lt : α → α → Except BErr Bool) (pivot : α) (a : Array α) (l r : Nat) : Except BErr Nat :=
  if _h : l < r then do
    let p := l + (r - l) / 2
    match a[p]? with
    | Option.none => throw (.unmodelled "bsearch index")
    | some ap =>
      if (← lt pivot ap) then bsearch lt pivot a l p
      else bsearch lt pivot a (p + 1) r
  else pure l
termination_by r - l
decreasing_by all_goals omega

def binInsertAll (lt : α → α → Except BErr Bool) : List α → List α → Except BErr (List α)
  | sorted, [] => pure sorted
  | sorted, p :: ps => do
      let pos ← bsearch lt p sorted.toArray 0 sorted.length
      binInsertAll lt (sorted.take pos ++ p :: sorted.drop pos) ps

/-- `sorted(xs)` as CPython 3.12 computes it for fewer than 64 elements (one `count_run` + `binarysort`);
the comparison may raise. -/
def pySorted (lt : α → α → Except BErr Bool) : List α → Except BErr (List α)
  | [] => pure []
  | [a] => pure [a]
  | a :: b :: rest => do
      let d ← lt b a
      let (r, rest') ← takeRun lt d b rest
      let run := a :: b :: r
      let run := if d then run.reverse else run
      binInsertAll lt run rest'

end PySort

/-! ## dispatch by MRO over the generated tables -/

def resolve (table : List (String × String)) : List String → Option String
  | [] => Option.none
  | t :: ts => match table.lookup t with
      | some m => some m
      | Option.none => resolve table ts

def builders : BKind → List (String × String)
  | .basic => Gen.basicBuilders
  | .pyobj => Gen.pyobjBuilders

def expanders : BKind → List (String × String)
  | .basic => Gen.basicExpanders
  | .pyobj => Gen.pyobjExpanders

def strMro : List String := ["str", "object"]

def Store.cell? (s : Store) (r : Ref) : Option Cell :=
  match r with
  | .obj id => s[id]?
  | .istr str => some ⟨strMro, .scalar (Scalar.ofStr str)⟩

/-- `yield from obj` -/
def iterPayload : Payload → Option (List Ref)
  | .list items => some (items.map .obj)
  | .tuple items => some (items.map .obj)
  | .set items => some (items.map .obj)
  | .dict items => some (items.map (fun p => .obj p.1))
  | _ => Option.none

/-- `PyObjBuilder.default_expander` on an object without a builder -/
def pyobjExpand (cls : String) (attrs : List (String × Nat)) : List Ref :=
  .istr cls :: (attrs.filter (fun p => !("__".isPrefixOf p.1))).flatMap (fun p => [.istr p.1, .obj p.2])

/-- `list(self.expand(obj))`.  `none` = a table entry this model has no semantics for. -/
def expand? (b : BKind) (s : Store) (r : Ref) : Option (List Ref) :=
  match s.cell? r with
  | Option.none => some []
  | some cell =>
    match resolve (expanders b) cell.mro with
    | some "expand_list" => iterPayload cell.val
    | some "expand_dict" =>
        match cell.val with
        | .dict items => some (items.map (fun p => .obj p.1) ++ items.map (fun p => .obj p.2))
        | _ => Option.none
    | some _ => Option.none
    | Option.none =>
        match b with
        | .basic => if Gen.basicDefaultExpander then some [] else Option.none
        | .pyobj =>
            if !Gen.pyobjOwnDefaults then Option.none
            else if (resolve (builders b) cell.mro).isSome then some []
            else match cell.val with
              | .custom cls attrs => some (pyobjExpand cls attrs)
              | _ => Option.none

def expand (b : BKind) (s : Store) (r : Ref) : List Ref := (expand? b s r).getD []

/-- every expansion the machine can ask for is modelled (checked by the driver before running) -/
def expandModelled (b : BKind) (s : Store) : Bool :=
  (List.range s.length).all (fun i => (expand? b s (.obj i)).isSome)

/-! ## the per-type builders -/

def kvpNode (kw ake : Bool) (k v : Tree) : Tree := .node (.kvp kw ake) [k, v]

def kvpKey : Tree → Tree
  | .node (.kvp ..) (k :: _) => k
  | t => t

/-- `DictNode.from_dict(items)` / `PyObjAttributes.from_dict`, then `auto_match_keys = options.auto_match_keys` -/
def dictNodeFrom (py : Bool) (amk : Bool) (items : List (Tree × Tree)) : Except BErr Tree := do
  let kvps := items.map (fun p => kvpNode py true p.1 p.2)
  let sorted ← pySorted kvpLt kvps
  pure (.node (.dict py amk) (mkCounter Tree.pyEq sorted))

/-- `FixedKeyDictNode.from_dict(items)`: `{kvp.key: kvp for kvp in …}` -/
def fdictNodeFrom (py : Bool) (items : List (Tree × Tree)) : Tree :=
  let kvps := items.map (fun p => (p.1, kvpNode py false p.1 p.2))
  .node (.fdict py) ((dictOf Tree.pyEq kvps).map (·.2))

def mappingFrom (py : Bool) (o : Opts) (items : List (Tree × Tree)) : Except BErr Tree :=
  if o.ake then dictNodeFrom py o.amk items else pure (fdictNodeFrom py items)

/-- `BasicBuilder.build_dict` -/
def buildDict (o : Opts) (children : List Tree) : Except BErr Tree :=
  let n := children.length / 2
  let keys := children.take n
  let values := children.drop n
  mappingFrom false o (dictOf Tree.pyEq (keys.zip values))

def leafOf (c : LeafCls) (p : Payload) : Except BErr Tree :=
  match p with
  | .scalar s => pure (.leaf c s true)
  | _ => throw (.unmodelled "leaf builder on a container")

/-- apply the builder method `m` (a name from the generated table) -/
def applyBuilder (m : String) (o : Opts) (p : Payload) (children : List Tree) : Except BErr Tree :=
  match m with
  | "build_int" => leafOf .integer p
  | "build_str" => leafOf .string p
  | "build_float" => leafOf .float p
  | "build_bool" => leafOf .bool p
  | "build_none" =>
      match p with
      | .scalar s => if s.kind = .none then pure (.leaf .null Scalar.none true) else throw .assertion
      | _ => throw .assertion
  | "build_list" => pure (.node (.list o.ale o.alesl) children)
  | "build_set" => pure (.node (.mset true) (mkCounter Tree.pyEq children))
  | "build_dict" => buildDict o children
  | other => throw (.unmodelled ("builder " ++ other))

/-- pairs up `children[1::2]` with `children[2::2]` -/
def pairUp : List Tree → List (Tree × Tree)
  | a :: v :: rest => (a, v) :: pairUp rest
  | _ => []

def unquote : Tree → Tree
  | .leaf .string s _ => .leaf .string s false
  | t => t

def isStringNode : Tree → Bool
  | .leaf .string _ _ => true
  | _ => false

/-- `PyObjBuilder.default_builder` -/
def pyobjDefaultBuild (o : Opts) (children : List Tree) : Except BErr Tree :=
  match children with
  | [] => throw (.unmodelled "IndexError")
  | name :: rest =>
    if !isStringNode name then throw .assertion
    else if rest.length % 2 != 0 then throw .assertion
    else
      let members := dictOf Tree.pyEq (pairUp rest)
      if !(members.all (fun p => isStringNode p.1)) then throw .assertion
      else do
        let members := members.map (fun p => (unquote p.1, p.2))
        let attrs ← mappingFrom true o members
        pure (.node .pyobj [unquote name, attrs])

/-- `self.build(node, children)` -/
def buildNode (b : BKind) (o : Opts) (s : Store) (r : Ref) (children : List Tree) : Except BErr Tree :=
  match s.cell? r with
  | Option.none => throw .badRef
  | some cell =>
    match resolve (builders b) cell.mro with
    | some m => applyBuilder m o cell.val children
    | Option.none =>
      match b with
      | .basic => if Gen.basicDefaultBuilder then throw .notImplemented else throw (.unmodelled "default_builder")
      | .pyobj => if Gen.pyobjOwnDefaults then pyobjDefaultBuild o children else throw (.unmodelled "default_builder")

/-! ## `Builder.build_tree`: the explicit work-stack machine -/

structure Frame where
  node : Ref
  processed : List Tree     -- `processed_children`, in order
  pending : List Ref        -- `unprocessed_children`; the next one to be popped is the head
deriving Repr, Inhabited

inductive Step where
  | cont (work : List Frame)     -- top of the stack = head
  | done (t : Tree)
  | fail (e : Err)
deriving Repr, Inhabited

/-- "all of our grandchildren are leaves" -/
def allLeaves (b : BKind) (s : Store) (gcs : List Ref) : Bool :=
  gcs.all (fun g => (expand b s g).isEmpty)

/-- does the cycle scan run for this child? -/
def scans (b : BKind) (o : Opts) (s : Store) (gcs : List Ref) : Bool :=
  !gcs.isEmpty && o.chk && !allLeaves b s gcs

/-- one iteration of `while work:` -/
def step (b : BKind) (o : Opts) (s : Store) : List Frame → Step
  | [] => .done (.leaf .null Scalar.none true)            -- `return NullNode()` (unreachable)
  | f :: rest =>
    match f.pending with
    | child :: more =>
      let gcs := expand b s child
      let f' : Frame := { f with pending := more }
      if scans b o s gcs && (f.node :: rest.map (·.node)).contains child then
        if o.ign then .cont ({ f' with processed := f.processed ++ [.cyc child 1] } :: rest)
        else .fail .cycle
      else .cont (⟨child, [], gcs⟩ :: f' :: rest)
    | [] =>
      match buildNode b o s f.node f.processed with
      | .error e => .fail (.build e)
      | .ok t =>
        match rest with
        | [] => .done t
        | p :: rest' => .cont ({ p with processed := p.processed ++ [t] } :: rest')

def Step.next (b : BKind) (o : Opts) (s : Store) : Step → Step
  | .cont w => step b o s w
  | st => st

/-- run at most `fuel` iterations -/
def runSteps (b : BKind) (o : Opts) (s : Store) : Nat → Step → Step
  | 0, st => st
  | n + 1, st =>
    match st with
    | .cont w => runSteps b o s n (step b o s w)
    | st => st

def initWork (b : BKind) (s : Store) (root : Ref) : List Frame := [⟨root, [], expand b s root⟩]

/-- `Builder(options).build_tree(root)` with a step budget -/
def buildTree (b : BKind) (o : Opts) (s : Store) (fuel : Nat) (root : Ref) : Except Err Tree :=
  match runSteps b o s fuel (.cont (initWork b s root)) with
  | .done t => .ok t
  | .fail e => .error e
  | .cont _ => .error .outOfFuel

/-! ## the same function as a recursion over the ancestor path (reference semantics for the theorems) -/

def dfsChildren (b : BKind) (o : Opts) (s : Store) (recur : Ref → Except Err Tree) (path : List Ref) :
    List Ref → Except Err (List Tree)
  | [] => pure []
  | c :: cs => do
      let t ←
        if scans b o s (expand b s c) && path.contains c then
          (if o.ign then pure (Tree.cyc c 1) else throw Err.cycle)
        else recur c
      let ts ← dfsChildren b o s recur path cs
      pure (t :: ts)

/-- `depth` bounds the recursion depth (length of the ancestor path below this call) -/
def dfs (b : BKind) (o : Opts) (s : Store) : (depth : Nat) → (path : List Ref) → Ref → Except Err Tree
  | 0, _, _ => throw .outOfFuel
  | d + 1, path, x => do
      let ts ← dfsChildren b o s (dfs b o s d (x :: path)) (x :: path) (expand b s x)
      liftB (buildNode b o s x ts)

/-! ## plain values, `json.build_tree` -/

inductive PyVal where
  | scalar (mro : List String) (s : Scalar)
  | list (mro : List String) (xs : List PyVal)
  | tuple (mro : List String) (xs : List PyVal)
  | dict (mro : List String) (kvs : List (PyVal × PyVal))
  | set (mro : List String) (xs : List PyVal)
  | custom (mro : List String) (cls : String) (attrs : List (String × PyVal))
deriving Repr, Inhabited

def PyVal.mro : PyVal → List String
  | .scalar m _ | .list m _ | .tuple m _ | .dict m _ | .set m _ | .custom m _ _ => m

def optMapM {α β} (f : α → Option β) : List α → Option (List β)
  | [] => some []
  | x :: xs => match f x, optMapM f xs with
      | some y, some ys => some (y :: ys)
      | _, _ => Option.none

def pairOpt (f : Nat → Option PyVal) (p : Nat × Nat) : Option (PyVal × PyVal) :=
  match f p.1, f p.2 with
  | some k, some v => some (k, v)
  | _, _ => Option.none

/-- the tree-shaped value below a reference; `none` when `depth` is exhausted (cyclic stores) or an id dangles -/
def unfold (s : Store) : Nat → Ref → Option PyVal
  | 0, _ => Option.none
  | d + 1, r =>
    match s.cell? r with
    | Option.none => Option.none
    | some cell =>
      match cell.val with
      | .scalar sc => some (.scalar cell.mro sc)
      | .list items => (optMapM (fun i => unfold s d (.obj i)) items).map (.list cell.mro)
      | .tuple items => (optMapM (fun i => unfold s d (.obj i)) items).map (.tuple cell.mro)
      | .set items => (optMapM (fun i => unfold s d (.obj i)) items).map (.set cell.mro)
      | .dict items =>
          (optMapM (pairOpt (fun i => unfold s d (.obj i))) items).map (.dict cell.mro)
      | .custom cls attrs =>
          (optMapM (fun p => (unfold s d (.obj p.2)).map (fun v => (p.1, v))) attrs).map (.custom cell.mro cls)

/-- `json.build_tree(k, force_leaf_node=True)` and the scalar prefix of `json.build_tree` -/
def jsonLeaf (mro : List String) (p : Option Scalar) : Option (Except BErr Tree) :=
  match p with
  | Option.none => Option.none
  | some s =>
    if mro.contains "bool" then some (pure (.leaf .bool s true))
    else if mro.contains "int" then some (pure (.leaf .integer s true))
    else if mro.contains "float" then some (pure (.leaf .float s true))
    else if mro.contains "str" then some (pure (.leaf .string s true))
    else if mro.contains "bytes" then
      match s.dec with
      | some d => some (pure (.leaf .string (Scalar.ofStr d) true))
      | Option.none => some (throw .unicodeDecode)
    else Option.none

def PyVal.scalar? : PyVal → Option Scalar
  | .scalar _ s => some s
  | _ => Option.none

mutual
/-- `json.build_tree(python_obj, options)` -/
def jsonBuild (o : Opts) : PyVal → Except BErr Tree
  | .scalar mro s =>
      match jsonLeaf mro (some s) with
      | some r => r
      | Option.none =>
        if s.kind = .none then pure (.leaf .null Scalar.none true) else throw .valueError
  | .list _ xs => do
      let ts ← jsonBuildList o xs
      pure (.node (.list o.ale o.alesl) ts)
  | .tuple _ xs => do
      let ts ← jsonBuildList o xs
      pure (.node (.list o.ale o.alesl) ts)
  | .dict _ kvs => do
      let items ← jsonBuildPairs o kvs
      mappingFrom false o (dictOf Tree.pyEq items)
  | .set _ _ => throw .valueError
  | .custom _ _ _ => throw .valueError
def jsonBuildList (o : Opts) : List PyVal → Except BErr (List Tree)
  | [] => pure []
  | x :: xs => do
      let t ← jsonBuild o x
      let ts ← jsonBuildList o xs
      pure (t :: ts)
def jsonBuildPairs (o : Opts) : List (PyVal × PyVal) → Except BErr (List (Tree × Tree))
  | [] => pure []
  | (k, v) :: rest => do
      let kt ← (match jsonLeaf k.mro k.scalar? with
                | some r => r
                | Option.none => throw .valueError)
      let vt ← jsonBuild o v
      let ts ← jsonBuildPairs o rest
      pure ((kt, vt) :: ts)
end

/-- `json.build_tree` applied to the object graph below `root` -/
def jsonBuildStore (o : Opts) (s : Store) (root : Ref) : Except BErr Tree :=
  match unfold s (s.length + 2) root with
  | Option.none => throw .recursion
  | some v => jsonBuild o v

/-! ## plain Python values and `to_obj()` -/

inductive Obj where
  | scalar (s : Scalar)
  | list (xs : List Obj)
  | dict (kvs : List (Obj × Obj))
  | mset (xs : List Obj)                 -- HashableCounter, as `elements()`
  | ident (r : Ref) (wraps : Nat)        -- object_set.IdentityHash
  | tup (xs : List Obj)                  -- only `KeyValuePairNode.to_obj()` (a tuple of the pair's values; not read by any mapping, kept opaque)
deriving Repr, Inhabited

def Obj.hashable : Obj → Bool
  | .list _ => false
  | .dict _ => false
  | _ => true

/-- Python `==` + equal hash on hashable plain values (dictionary-key identity) -/
def Obj.keyEq : Obj → Obj → Bool
  | .scalar a, .scalar b => a.eqc == b.eqc
  | .ident r 1, .ident r' 1 => r == r'
  | .mset as, .mset bs =>
      as.length == bs.length &&
        as.attach.all (fun x => (as.attach.filter (fun y => Obj.keyEq x.1 y.1)).length
                                  == (bs.filter (fun y => Obj.keyEq x.1 y)).length)
  | _, _ => false
termination_by a => sizeOf a
decreasing_by
  all_goals simp_wf
  all_goals (have := List.sizeOf_lt_of_mem x.2; omega)

mutual
/-- `node.to_obj()`; `TypeError` = unhashable key / set member -/
def toObj : Tree → Except BErr Obj
  | .leaf _ s _ => pure (.scalar s)
  | .cyc r w => pure (.ident r w)
  | .node (.list ..) cs => do
      let xs ← toObjList cs
      pure (.list xs)
  | .node (.mset ..) cs => do
      let xs ← toObjList cs
      if xs.all Obj.hashable then pure (.mset (mkCounter Obj.keyEq xs)) else throw .typeError
  | .node (.dict ..) cs => do
      let kvs ← toObjItems cs
      if kvs.all (fun p => p.1.hashable) then pure (.dict (dictOf Obj.keyEq kvs)) else throw .typeError
  | .node (.fdict ..) cs => do
      let kvs ← toObjItems cs
      if kvs.all (fun p => p.1.hashable) then pure (.dict (dictOf Obj.keyEq kvs)) else throw .typeError
  | .node (.kvp ..) _ => pure (.tup [])
  | .node .pyobj cs =>
      match cs with
      | [.leaf _ s _, attrs] => do
          let a ← toObj attrs
          pure (.dict [(.scalar s, a)])
      | _ => throw (.unmodelled "PyObj shape")
def toObjList : List Tree → Except BErr (List Obj)
  | [] => pure []
  | t :: ts => do
      let x ← toObj t
      let xs ← toObjList ts
      pure (x :: xs)
/-- `for k, v in self.items()` over key/value-pair children -/
def toObjItems : List Tree → Except BErr (List (Obj × Obj))
  | [] => pure []
  | t :: ts => do
      let kv ← (match t with
        | .node (.kvp ..) [k, v] => do
            let ko ← toObj k
            let vo ← toObj v
            pure (ko, vo)
        | _ => throw (.unmodelled "mapping child is not a key/value pair"))
      let rest ← toObjItems ts
      pure (kv :: rest)
end

/-! ## the specification side: the value an object graph denotes -/

mutual
/-- tuples read back as lists, sets as multisets, custom objects as `{class: {attr: value}}` -/
def normalise : PyVal → Obj
  | .scalar _ s => .scalar s
  | .list _ xs => .list (normaliseList xs)
  | .tuple _ xs => .list (normaliseList xs)
  | .set _ xs => .mset (normaliseList xs)
  | .dict _ kvs => .dict (normalisePairs kvs)
  | .custom _ cls attrs => .dict [(.scalar (Scalar.ofStr cls), .dict (normaliseAttrs attrs))]
def normaliseList : List PyVal → List Obj
  | [] => []
  | x :: xs => normalise x :: normaliseList xs
def normalisePairs : List (PyVal × PyVal) → List (Obj × Obj)
  | [] => []
  | (k, v) :: rest => (normalise k, normalise v) :: normalisePairs rest
def normaliseAttrs : List (String × PyVal) → List (Obj × Obj)
  | [] => []
  | (a, v) :: rest =>
      if "__".isPrefixOf a then normaliseAttrs rest
      else (.scalar (Scalar.ofStr a), normalise v) :: normaliseAttrs rest
end

/-! ## `TreeNode.copy()` -/

/-- `node.copy_from(children)` -/
def copyFrom : Tree → List Tree → Except BErr Tree
  | .leaf c s _, _ => pure (.leaf c (if c = .null then Scalar.none else s) true)   -- `self.__class__(self.object)`: `quoted` is dropped
  | .cyc r w, _ => pure (.cyc r (w + 1))                 -- re-wraps the IdentityHash
  | .node (.list ..) _, cs => pure (.node (.list true true) cs)      -- both list flags are dropped
  | .node (.mset amk) _, cs => pure (.node (.mset amk) (mkCounter Tree.pyEq cs))
  | .node (.dict py amk) _, cs => pure (.node (.dict py amk) (mkCounter Tree.pyEq cs))
  | .node (.fdict py) _, cs => pure (.node (.fdict py) ((dictOf Tree.pyEq (cs.map (fun c => (kvpKey c, c)))).map (·.2)))
  | .node (.kvp kw ake) _, cs =>
      match cs with
      | [k, v] => pure (.node (.kvp kw ake) [k, v])
      | _ => throw .valueError
  | .node .pyobj _, cs =>
      match cs with
      | [n, a] => pure (.node .pyobj [n, a])
      | _ => throw .typeError

structure CFrame where
  node : Tree
  processed : List Tree
  remaining : List Tree      -- next to be popped = head
deriving Repr, Inhabited

inductive CStep where
  | cont (work : List CFrame)
  | done (t : Tree)
  | fail (e : BErr)
deriving Repr, Inhabited

/-- one iteration of the `while work:` loop of `TreeNode.copy` -/
def copyStep : List CFrame → CStep
  | [] => .fail (.notImplemented)        -- `raise NotImplementedError("This should not be reachable")`
  | f :: work =>
    match f.remaining with
    | [] =>
      match copyFrom f.node f.processed with
      | .error e => .fail e
      | .ok t =>
        match work with
        | [] => .done t
        | p :: work' => .cont ({ p with processed := p.processed ++ [t] } :: work')
    | child :: more =>
      .cont (⟨child, [], child.children⟩ :: { f with remaining := more } :: work)

def copyRun : Nat → CStep → CStep
  | 0, st => st
  | n + 1, st =>
    match st with
    | .cont w => copyRun n (copyStep w)
    | st => st

def copyInit (t : Tree) : List CFrame := [⟨t, [], t.children⟩]

def copyTree (fuel : Nat) (t : Tree) : Except Err Tree :=
  match copyRun fuel (.cont (copyInit t)) with
  | .done t => .ok t
  | .fail e => .error (.build e)
  | .cont _ => .error .outOfFuel

mutual
/-- the recursive reading of `copy()` -/
def copyRec : Tree → Except BErr Tree
  | .leaf c s q => copyFrom (.leaf c s q) []
  | .cyc r w => copyFrom (.cyc r w) []
  | .node t cs => do
      let cs' ← copyRecList cs
      copyFrom (.node t cs) cs'
def copyRecList : List Tree → Except BErr (List Tree)
  | [] => pure []
  | t :: ts => do
      let t' ← copyRec t
      let ts' ← copyRecList ts
      pure (t' :: ts')
end

mutual
def Tree.size : Tree → Nat
  | .node _ cs => 1 + Tree.sizeList cs
  | _ => 1
def Tree.sizeList : List Tree → Nat
  | [] => 0
  | t :: ts => t.size + Tree.sizeList ts
end

end GtModel.Builder
