/-
  Stream `build`: JSON reader / dumper around `GtModel.Builder` (see harness/streams/build.py).
-/
import GtModel.Model.Builder
import GtModel.Model.Proto

namespace GtModel.Builder
open Lean

def kindOfString : String → Except String Kind
  | "int" => pure .int | "bool" => pure .bool | "float" => pure .float
  | "str" => pure .str | "bytes" => pure .bytes | "none" => pure .none
  | k => throw s!"kind {k}"

def Kind.name : Kind → String
  | .int => "int" | .bool => "bool" | .float => "float" | .str => "str" | .bytes => "bytes" | .none => "none"

def optStr (j : Json) (k : String) : Option String :=
  match j.getObjVal? k with
  | .ok (Json.str s) => some s
  | _ => Option.none

def parseCell (j : Json) : Except String Cell := do
  let t ← getStr j "t"
  let mroJ ← getArr j "mro"
  let mro ← mroJ.toList.mapM (·.getStr?)
  let v ← j.getObjVal? "v"
  match t with
  | "list" => pure ⟨mro, .list (← jsonToNatList v)⟩
  | "tuple" => pure ⟨mro, .tuple (← jsonToNatList v)⟩
  | "set" => pure ⟨mro, .set (← jsonToNatList v)⟩
  | "frozenset" => pure ⟨mro, .set (← jsonToNatList v)⟩
  | "dict" => do
      let a ← v.getArr?
      let items ← a.toList.mapM (fun p => do
        let l ← jsonToNatList p
        match l with
        | [k, w] => pure (k, w)
        | _ => throw "dict item")
      pure ⟨mro, .dict items⟩
  | "custom" => do
      let cls ← getStr j "cls"
      let a ← v.getArr?
      let attrs ← a.toList.mapM (fun p => do
        let l ← p.getArr?
        match l.toList with
        | [n, w] => do pure ((← n.getStr?), (← w.getNat?))
        | _ => throw "attr item")
      pure ⟨mro, .custom cls attrs⟩
  | k => do
      let kind ← kindOfString k
      let text ← v.getStr?
      let eqc ← getStr j "eqc"
      let str ← getStr j "str"
      let num ← (match j.getObjVal? "num" with
        | .ok (Json.arr #[p, q]) => do pure (some ((← p.getInt?), (← q.getNat?)))
        | _ => pure Option.none)
      pure ⟨mro, .scalar ⟨kind, text, eqc, str, num, optStr j "dec"⟩⟩

def parseOpts (j : Json) : Except String Opts := do
  pure ⟨← getBool j "ake", ← getBool j "amk", ← getBool j "ale", ← getBool j "alesl", ← getBool j "chk", ← getBool j "ign"⟩

def jl (xs : List Json) : Json := Json.arr xs.toArray
def jn (n : Nat) : Json := Json.num (n : Nat)

def refId : Ref → Json
  | .obj i => jn i
  | .istr _ => Json.num (-1 : Int)

def leafClsName : LeafCls → String
  | .integer => "IntegerNode" | .bool => "BoolNode" | .float => "FloatNode"
  | .string => "StringNode" | .null => "NullNode"

mutual
def dumpTree : Tree → Json
  | .leaf c s q => jl ["leaf", leafClsName c, s.kind.name, s.text, Json.bool q]
  | .cyc r w => jl ["cyc", "CyclicReference", refId r, jn w]
  | .node (.list a b) cs => jl ["list", "ListNode", Json.bool a, Json.bool b, jl (dumpTrees cs)]
  | .node (.mset a) cs => jl ["mset", "MultiSetNode", Json.bool a, jl (dumpTrees cs)]
  | .node (.dict py a) cs => jl ["dict", if py then "PyObjAttributes" else "DictNode", Json.bool a, jl (dumpTrees cs)]
  | .node (.fdict py) cs => jl ["fdict", if py then "PyObjFixedAttributes" else "FixedKeyDictNode", jl (dumpTrees cs)]
  | .node (.kvp kw a) cs =>
      jl ([Json.str "kvp", Json.str (if kw then "KeywordArgument" else "KeyValuePairNode"), Json.bool a] ++ dumpTrees cs)
  | .node .pyobj cs => jl ([Json.str "pyobj", Json.str "PyObj"] ++ dumpTrees cs)
def dumpTrees : List Tree → List Json
  | [] => []
  | t :: ts => dumpTree t :: dumpTrees ts
end

mutual
def dumpObj : Obj → Json
  | .scalar s => jl ["s", s.kind.name, s.text]
  | .list xs => jl ["l", jl (dumpObjs xs)]
  | .mset xs => jl ["m", jl (dumpObjs xs)]
  | .tup xs => jl ["t", jl (dumpObjs xs)]
  | .ident r w => jl ["id", refId r, jn w]
  | .dict kvs => jl ["d", jl (dumpPairs kvs)]
def dumpObjs : List Obj → List Json
  | [] => []
  | x :: xs => dumpObj x :: dumpObjs xs
def dumpPairs : List (Obj × Obj) → List Json
  | [] => []
  | (k, v) :: r => jl [dumpObj k, dumpObj v] :: dumpPairs r
end

def errJ (e : Err) : Json := Json.mkObj [("err", Json.str e.name)]
def berrJ (e : BErr) : Json := Json.mkObj [("err", Json.str e.name)]

def toObjJ (t : Tree) : Json :=
  match toObj t with
  | .ok x => dumpObj x
  | .error e => berrJ e

def stepFuel : Nat := 2000000

/-- one run: build through the chosen entry point, then `to_obj()`, `copy()`, `copy() == tree`, `copy().to_obj()`.
The recursive reference semantics (`dfs`, `copyRec`) are cross-checked against the machines on every run. -/
def runOne (s : Store) (root : Nat) (entry : String) (o : Opts) : Except String Json := do
  let built : Except Err Tree ← (match entry with
    | "json" => pure (liftB (jsonBuildStore o s (.obj root)))
    | e => do
        let b : BKind ← (match e with
          | "basic" => pure BKind.basic
          | "pydiff" => pure BKind.pyobj
          | _ => throw s!"entry {e}")
        if !expandModelled b s then throw "an expander of the generated table is not modelled"
        let m := buildTree b o s stepFuel (.obj root)
        -- reference semantics must agree (depth: a simple path has at most |store|+1 cells plus one inline str)
        let depth := if o.chk then s.length + 3 else 4 * s.length + 8
        let r := dfs b o s depth [] (.obj root)
        (match m, r with
          | .ok t, .ok t' => if dumpTree t == dumpTree t' then pure () else throw "machine/dfs trees differ"
          | .error e, .error e' =>
              if e == e' || e' == .outOfFuel then pure () else throw s!"machine/dfs errors differ {e.name} {e'.name}"
          | .ok _, .error .outOfFuel => pure ()
          | _, _ => throw "machine/dfs disagree")
        pure m)
  match built with
  | .error (.build (.unmodelled w)) => throw s!"unmodelled {w}"
  | .error .outOfFuel => throw "out of fuel"
  | .error (.build .badRef) => throw "bad reference"
  | .error e => pure (errJ e)
  | .ok t =>
    let cp := copyTree (4 * t.size + 8) t
    let cpJ : List (String × Json) ← (match cp, copyRec t with
      | .error .outOfFuel, _ => throw "copy out of fuel"
      | .error e, .error e' => if e == .build e' then pure [("copy", errJ e)] else throw "copy machine/rec errors differ"
      | .ok c, .ok c' =>
          if dumpTree c == dumpTree c' then
            pure [("copy", dumpTree c), ("copy_eq", Json.bool (Tree.pyEq c t)), ("copy_toobj", toObjJ c)]
          else throw "copy machine/rec differ"
      | _, _ => throw "copy machine/rec disagree")
    pure (Json.mkObj ([("err", Json.str "ok"), ("tree", dumpTree t), ("toobj", toObjJ t)] ++ cpJ))

def buildHandler : Handler := fun j => do
  let cellsJ ← getArr j "store"
  let s ← cellsJ.toList.mapM parseCell
  let root ← getNat j "root"
  let runs ← getArr j "runs"
  let outs ← runs.toList.mapM (fun r => do
    let entry ← getStr r "entry"
    let o ← parseOpts (← r.getObjVal? "opts")
    runOne s root entry o)
  pure (jl outs)

end GtModel.Builder
