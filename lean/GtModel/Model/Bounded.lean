/-
  L-bounded: `graphtage.bounds` — `Bounded` items as arbitrary finite trajectories, `BoundedComparator.__lt__/__le__`,
  `min_bounded`, `make_distinct` (relational in intervaltree's iteration order: choice function as parameter),
  `sort` (heap treated abstractly: replay + validation of the heap's comparison transcript).
  Only Lean core + the L0 Range model are imported.
-/
import GtModel.Model.Range

namespace GtModel.Bounded
open GtModel

/-! ## Items = trajectories -/

/-- A `Bounded` object: `cur` is what `bounds()` returns now, `rest` the ranges the following successful
`tighten_bounds()` calls will move to.  `pos` counts successful tightenings, `calls` all calls. -/
structure Item where
  cur : Range
  rest : List Range
  pos : Nat
  calls : Nat
deriving Repr, DecidableEq

namespace Item

def ofTraj : List Range → Option Item
  | [] => none
  | r :: rs => some ⟨r, rs, 0, 0⟩

/-- the whole remaining trajectory (non-empty) -/
def traj (it : Item) : List Range := it.cur :: it.rest

/-- `tighten_bounds()`: advance one position and answer `True`, or answer `False` at the last position. -/
def tighten (it : Item) : Bool × Item :=
  match it.rest with
  | [] => (false, { it with calls := it.calls + 1 })
  | r :: rs => (true, ⟨r, rs, it.pos + 1, it.calls + 1⟩)

end Item

/-- The collection: item `i` of the Python list is `σ[i]`. -/
abbrev St := List Item

/-- `items[i].tighten_bounds()` -/
def tightenAt (σ : St) (i : Nat) : Bool × St :=
  match σ[i]? with
  | none => (false, σ)
  | some it => ((it.tighten).1, σ.set i (it.tighten).2)

def curAt (σ : St) (i : Nat) : Option Range := (σ[i]?).map (·.cur)

/-- total number of tightenings still possible: the termination measure of every loop below -/
def total (σ : St) : Nat := (σ.map (fun it => it.rest.length)).sum

theorem total_set {σ : St} {i : Nat} {it x : Item} (h : σ[i]? = some it) :
    total (σ.set i x) + it.rest.length = total σ + x.rest.length := by
  induction σ generalizing i with
  | nil => simp at h
  | cons a as ih =>
    cases i with
    | zero => simp at h; subst h; simp [total]; omega
    | succ i =>
      simp at h
      have := ih h
      simp [total] at this ⊢
      omega

theorem Item.tighten_true {it : Item} (h : (it.tighten).1 = true) :
    (it.tighten).2.rest.length + 1 = it.rest.length := by
  unfold Item.tighten at *
  cases hr : it.rest <;> simp_all

theorem Item.tighten_false {it : Item} (h : (it.tighten).1 = false) :
    (it.tighten).2.rest.length = it.rest.length := by
  unfold Item.tighten at *
  cases hr : it.rest <;> simp_all

theorem total_tightenAt_true {σ : St} {i : Nat} (h : (tightenAt σ i).1 = true) :
    total (tightenAt σ i).2 + 1 = total σ := by
  unfold tightenAt at h ⊢
  split at h
  · simp at h
  · rename_i it hi
    have h1 := total_set (x := (it.tighten).2) hi
    have h2 := Item.tighten_true h
    simp only []
    omega

theorem total_tightenAt_false {σ : St} {i : Nat} (h : (tightenAt σ i).1 = false) :
    total (tightenAt σ i).2 = total σ := by
  unfold tightenAt at h ⊢
  split at h
  · rfl
  · rename_i it hi
    have h1 := total_set (x := (it.tighten).2) hi
    have h2 := Item.tighten_false h
    simp only []
    omega

theorem total_tightenAt_le (σ : St) (i : Nat) : total (tightenAt σ i).2 ≤ total σ := by
  cases h : (tightenAt σ i).1
  · rw [total_tightenAt_false h]; exact Nat.le_refl _
  · have := total_tightenAt_true h; omega

/-! ## `BoundedComparator` -/

/-- The `while` loop of `BoundedComparator.__lt__` for `self.bounded = items[i]`, `other.bounded = items[j]`:
```
while not (a.bounds().dominates(b.bounds()) or b.bounds().dominates(a.bounds()))
      and (a.tighten_bounds() or b.tighten_bounds()): pass
```
(short-circuit `or`: `b` is only asked when `a` answered `False`).  Well-founded on `total`. -/
def ltLoop (σ : St) (i j : Nat) : St :=
  match σ[i]?, σ[j]? with
  | some a, some b =>
    if a.cur.dominates b.cur || b.cur.dominates a.cur then σ
    else if h1 : (tightenAt σ i).1 = true then ltLoop (tightenAt σ i).2 i j
    else if h2 : (tightenAt (tightenAt σ i).2 j).1 = true then ltLoop (tightenAt (tightenAt σ i).2 j).2 i j
    else (tightenAt (tightenAt σ i).2 j).2
  | _, _ => σ
termination_by total σ
decreasing_by
  · have := total_tightenAt_true h1; omega
  · have := total_tightenAt_true h2; have := total_tightenAt_le σ i; omega

/-- `BoundedComparator(items[i]) < BoundedComparator(items[j])`; `idlt` is the oracle answer to
`id(self) < id(other)`. -/
def ltCmp (σ : St) (i j : Nat) (idlt : Bool) : Bool × St :=
  let σ' := ltLoop σ i j
  match σ'[i]?, σ'[j]? with
  | some a, some b => (a.cur.dominates b.cur || (a.cur == b.cur && idlt), σ')
  | _, _ => (false, σ')

/-- `while a.tighten_bounds() or b.tighten_bounds(): pass` -/
def fullTighten (σ : St) (i j : Nat) : St :=
  if h1 : (tightenAt σ i).1 = true then fullTighten (tightenAt σ i).2 i j
  else if h2 : (tightenAt (tightenAt σ i).2 j).1 = true then fullTighten (tightenAt (tightenAt σ i).2 j).2 i j
  else (tightenAt (tightenAt σ i).2 j).2
termination_by total σ
decreasing_by
  · have := total_tightenAt_true h1; omega
  · have := total_tightenAt_true h2; have := total_tightenAt_le σ i; omega

/-- `BoundedComparator.__le__` -/
def leCmp (σ : St) (i j : Nat) (idlt : Bool) : Bool × St :=
  let r := ltCmp σ i j idlt
  if r.1 then (true, r.2)
  else
    let σ2 := fullTighten r.2 i j
    (curAt σ2 i == curAt σ2 j, σ2)

/-! ## `min_bounded` -/

/-- the `for` loop of `min_bounded`; `orc k` answers `id(b) < id(best)` for the comparator made for item `k`. -/
def minLoop (orc : Nat → Bool) : St → List Nat → Option Nat → Option Nat × St
  | σ, [], best => (best, σ)
  | σ, k :: ks, none => minLoop orc σ ks (some k)
  | σ, k :: ks, some b =>
    let r := ltCmp σ k b (orc k)
    minLoop orc r.2 ks (if r.1 then some k else some b)

/-- `min_bounded(iter(items))`; `none` is Python's `None` for an empty collection. -/
def minBounded (orc : Nat → Bool) (σ : St) : Option Nat × St :=
  minLoop orc σ (List.range σ.length) none

/-! ## `make_distinct` -/

/-- an `intervaltree.Interval(lo, hi + 1, data=items[idx])` -/
structure Entry where
  idx : Nat
  lo : Int
  hi : Int
deriving DecidableEq, Repr

namespace Entry
/-- `m.end - m.begin` -/
def size (e : Entry) : Int := e.hi + 1 - e.lo
/-- does the interval overlap the query `[lo, hi + 1)` ? -/
def overlaps (e : Entry) (lo hi : Int) : Bool := decide (e.lo < hi + 1) && decide (lo < e.hi + 1)
end Entry

def finOf (r : Range) : Option (Int × Int) :=
  match r.lo, r.hi with
  | .fin a, .fin b => some (a, b)
  | _, _ => none

/-- `tree.add(iv)`: a set. -/
def treeAdd (tree : List Entry) (e : Entry) : List Entry := if tree.contains e then tree else tree ++ [e]

inductive MDRes where
  | ok (σ : St) (rounds : Nat)       -- returned normally after `rounds` iterations that removed something
  | valueError (σ : St)              -- "Could not tighten … to a finite bound"
  | fuel                             -- never returned (`mdLoop_spec` in Proofs/DistinctLoop; `C17.make_distinct_terminates`)
  | badChoice                        -- the oracle's choice was not an admissible iteration-order choice
  | hang                             -- the Python loop would spin forever (non-converging item)
  | unsupported                      -- input outside the modelled domain (a range that is not nested)
deriving Repr

/-- the first loop of `make_distinct`: tighten non-finite items once, insert all intervals -/
def mdInit : St → List Nat → List Entry → Except St (List Entry × St)
  | σ, [], tree => .ok (tree, σ)
  | σ, k :: ks, tree =>
    match σ[k]? with
    | none => .error σ
    | some it =>
      let σ1 := if it.cur.finite then σ else (tightenAt σ k).2
      match (curAt σ1 k).bind finOf with
      | some (lo, hi) => mdInit σ1 ks (treeAdd tree ⟨k, lo, hi⟩)
      | none => .error σ1

/-- the exit test of the inner loop: both definitive, or disjoint -/
def sepB (x y : Range) : Bool := (x.definitive && y.definitive) || Bound.lt x.hi y.lo || Bound.lt y.hi x.lo

/-- The inner `while True` of `make_distinct` on items `b`, `s`; `none` = spins forever. -/
def sepLoop (σ : St) (b s : Nat) : Option St :=
  match σ[b]?, σ[s]? with
  | some x, some y =>
    if sepB x.cur y.cur then some σ
    else if h : (tightenAt σ b).1 = true ∨ (tightenAt (tightenAt σ b).2 s).1 = true then
      sepLoop (tightenAt (tightenAt σ b).2 s).2 b s
    else none
  | _, _ => none
termination_by total σ
decreasing_by
  rcases h with h | h
  · have := total_tightenAt_true h; have := total_tightenAt_le (tightenAt σ b).2 s; omega
  · have := total_tightenAt_true h; have := total_tightenAt_le σ b; omega

/-- resolve an oracle answer (an item index) to a maximal-size member of the candidate set -/
def pick (k : Nat) (cands : List Entry) : Option Entry :=
  match cands.find? (fun e => e.idx == k) with
  | none => none
  | some e => if cands.all (fun m => decide (m.size ≤ e.size)) then some e else none

/-- `if tree.overlaps(new.begin, new.end): tree.add(new)` for item `k` -/
def readd (tree : List Entry) (σ : St) (k : Nat) : Option (List Entry) :=
  match (curAt σ k).bind finOf with
  | none => none
  | some (lo, hi) => some (if tree.any (fun e => e.overlaps lo hi) then treeAdd tree ⟨k, lo, hi⟩ else tree)

/-- a choice function: round number → (false: biggest in the tree | true: biggest among the matching) → candidates →
item index.  Every iteration order of intervaltree's sets is realised by some such function. -/
abbrev Choice := Nat → Bool → List Entry → Nat

/-- the main `while len(tree) > 1` loop -/
def mdLoop (ch : Choice) : Nat → Nat → List Entry → St → MDRes
  | 0, _, _, _ => .fuel
  | f + 1, r, tree, σ =>
    if tree.length ≤ 1 then .ok σ r else
    match pick (ch r false tree) tree with
    | none => .badChoice
    | some big =>
      match σ[big.idx]? with
      | none => .unsupported
      | some bi =>
        if bi.cur.definitive then .ok σ r else
        let tree1 := tree.erase big
        let matching := tree1.filter (fun e => e.overlaps big.lo big.hi)
        if matching.isEmpty then mdLoop ch f (r + 1) tree1 σ else
        match pick (ch r true matching) matching with
        | none => .badChoice
        | some sec =>
          let tree2 := tree1.erase sec
          match sepLoop σ big.idx sec.idx with
          | none => .hang
          | some σ' =>
            match readd tree2 σ' big.idx with
            | none => .unsupported
            | some tree3 =>
              match readd tree3 σ' sec.idx with
              | none => .unsupported
              | some tree4 => mdLoop ch f (r + 1) tree4 σ'

/-- `make_distinct(*items)` -/
def makeDistinct (ch : Choice) (σ : St) : MDRes :=
  match mdInit σ (List.range σ.length) [] with
  | .error σ1 => .valueError σ1
  | .ok (tree, σ1) => mdLoop ch (total σ1 + tree.length + 1) 0 tree σ1

/-- the iteration-order-independent default: first maximal element -/
def firstMax : List Entry → Option Entry
  | [] => none
  | e :: es => match firstMax es with
    | none => some e
    | some m => if m.size > e.size then some m else some e

/-! ## `sort`: the heap is abstract; its comparison transcript is replayed and validated -/

inductive SortEv where
  | cmp (i j : Nat) (idlt res : Bool)   -- the heap evaluated `key(items[i]) < key(items[j])` and got `res`
  | pop (i : Nat)                       -- `heap.pop()` returned `items[i]`
deriving Repr

structure SortSt where
  σ : St
  remaining : List Nat
  know : List (Nat × Nat)      -- (x, y): a comparison established  final x ≤ final y
  out : List Nat

/-- everything reachable from the members of `s` in one `know` step, added to `s` -/
def reachStep (know : List (Nat × Nat)) (s : List Nat) : List Nat :=
  s ++ (know.filter (fun p => s.contains p.1)).map (·.2)

def reachN (know : List (Nat × Nat)) : Nat → List Nat → List Nat
  | 0, s => s
  | n + 1, s => reachN know n (reachStep know s)

/-- is the popped element `m` below every other remaining element through performed comparisons? -/
def justified (know : List (Nat × Nat)) (remaining : List Nat) (m : Nat) : Bool :=
  let r := reachN know remaining.length [m]
  remaining.all (fun y => r.contains y)

inductive SortErr where
  | mismatch      -- a recorded comparison result differs from the model's `ltCmp`
  | notRemaining  -- popped something that is not in the heap
  | unjustified   -- the contract assumed of the heap is violated by this transcript
  | badIndex      -- a comparison mentions an item that does not exist
deriving Repr

def sortReplay : List SortEv → SortSt → Except SortErr SortSt
  | [], s => .ok s
  | .cmp i j idlt res :: evs, s =>
    let r := ltCmp s.σ i j idlt
    if s.σ.length ≤ i || s.σ.length ≤ j then .error .badIndex
    else if r.1 != res then .error .mismatch
    else sortReplay evs { s with σ := r.2, know := (if res then (i, j) else (j, i)) :: s.know }
  | .pop m :: evs, s =>
    if !s.remaining.contains m then .error .notRemaining
    else if !justified s.know s.remaining m then .error .unjustified
    else sortReplay evs { s with remaining := s.remaining.erase m, out := s.out ++ [m] }

def sortInit (σ : St) : SortSt := ⟨σ, List.range σ.length, [], []⟩

/-! ## JSON driver -/
open Lean

def itemsOfJson (j : Json) : Except String St := do
  let a ← j.getArr?
  a.toList.mapM fun t => do
    let rs ← (← t.getArr?).toList.mapM Range.ofJson
    match Item.ofTraj rs with
    | some it => pure it
    | none => throw "empty trajectory"

def stateJson (σ : St) : List (String × Json) :=
  [("pos", natListToJson (σ.map (·.pos))), ("calls", natListToJson (σ.map (·.calls)))]

def optNatJson : Option Nat → Json
  | none => Json.null
  | some n => Json.num (n : Nat)

def parseSortEv (j : Json) : Except String SortEv := do
  let a ← j.getArr?
  match a.toList with
  | [Json.str "c", i, k, idlt, res] => pure (.cmp (← i.getNat?) (← k.getNat?) (← idlt.getBool?) (← res.getBool?))
  | [Json.str "p", i] => pure (.pop (← i.getNat?))
  | _ => throw "bad sort event"

/-- rounds of `make_distinct` recovered from the recorded `remove` / `__getitem__` events -/
def parseRounds : List Json → Except String (List (Nat × Option Nat))
  | [] => pure []
  | e1 :: e2 :: rest => do
    match (← e1.getArr?).toList, (← e2.getArr?).toList with
    | [Json.str "rm", b], [Json.str "q", n] =>
      let b ← b.getNat?
      let n ← n.getNat?
      if n == 0 then
        let tl ← parseRounds rest
        pure ((b, none) :: tl)
      else
        match rest with
        | e3 :: rest' =>
          match (← e3.getArr?).toList with
          | [Json.str "rm", s] =>
            let s ← s.getNat?
            let tl ← parseRounds rest'
            pure ((b, some s) :: tl)
          | _ => throw "bad distinct events (second)"
        | [] => throw "bad distinct events (truncated)"
    | _, _ => throw "bad distinct events"
  | _ => throw "bad distinct events (odd)"

def choiceOf (rounds : List (Nat × Option Nat)) : Choice := fun r sec cands =>
  match rounds[r]? with
  | some (b, s) => if sec then s.getD 1000000000 else b
  | none => match firstMax cands with
    | some e => e.idx
    | none => 0

def boundedCore (op : String) (σ : St) (j : Json) : Except String Json := do
  match op with
  | "lt" | "le" =>
    let idlt ← getBool j "idlt"
    if σ.length != 2 then throw "lt/le need two items"
    let r := if op == "lt" then ltCmp σ 0 1 idlt else leCmp σ 0 1 idlt
    pure <| Json.mkObj (("res", Json.bool r.1) :: stateJson r.2)
  | "min" =>
    let cmps ← getArr j "cmps"
    let bits ← cmps.toList.mapM fun c => do
      let a ← c.getArr?
      match a.toList with
      | [i, _, b, _] => pure ((← i.getNat?), (← b.getBool?))
      | _ => throw "bad cmp"
    let orc : Nat → Bool := fun k => match bits.find? (·.1 == k) with
      | some p => p.2
      | none => false
    let r := minBounded orc σ
    pure <| Json.mkObj (("res", optNatJson r.1) :: ("ncmp", Json.num (σ.length - 1 : Nat)) :: stateJson r.2)
  | "distinct" =>
    let ev ← getArr j "ev"
    let rounds ← parseRounds ev.toList
    match makeDistinct (choiceOf rounds) σ with
    | .ok σ' r =>
      pure <| Json.mkObj (("err", Json.null) :: ("oracle", Json.str (if r == rounds.length then "ok" else s!"rounds {r} vs {rounds.length}")) :: stateJson σ')
    | .valueError σ' =>
      pure <| Json.mkObj (("err", Json.str "ValueError") :: ("oracle", Json.str (if rounds.length == 0 then "ok" else "rounds")) :: stateJson σ')
    | .fuel => throw "make_distinct: fuel"
    | .badChoice => throw "make_distinct: inadmissible oracle choice"
    | .hang => pure <| Json.mkObj [("error", Json.str "hang")]
    | .unsupported => throw "make_distinct: unsupported input"
  | "sort" =>
    let ev ← getArr j "ev"
    let evs ← ev.toList.mapM parseSortEv
    match sortReplay evs (sortInit σ) with
    | .ok s =>
      pure <| Json.mkObj (("out", natListToJson s.out) :: ("justified", Json.bool s.remaining.isEmpty) :: stateJson s.σ)
    | .error e => throw s!"sort replay: {repr e}"
  | _ => throw s!"unknown op {op}"

end GtModel.Bounded
