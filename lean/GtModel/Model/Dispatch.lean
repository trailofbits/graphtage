/-
  C13 layer: `graphtage.formatter.get_formatter` / `_get_formatter` — which `print_*` method handles which class.
  The resolution only inspects (i) the MRO names of the node/edit class, (ii) the `print_*` attribute names of each
  formatter instance, (iii) the sub-formatter tree with its parent pointers and (iv) the global FORMATTERS list.
  A formatter instance is addressed as (index into FORMATTERS, path of sub-formatter indices).
  Lean core only.
-/

namespace GtModel.Dispatch
open Lean

inductive Fmt where
  | mk (cls : String) (prints : List String) (subs : List Fmt)
deriving Repr, Inhabited

namespace Fmt
def cls : Fmt → String | mk c _ _ => c
def prints : Fmt → List String | mk _ p _ => p
def subs : Fmt → List Fmt | mk _ _ s => s
def has (f : Fmt) (c : String) : Bool := f.prints.contains ("print_" ++ c)
end Fmt

def nodeAt : Fmt → List Nat → Option Fmt
  | f, [] => some f
  | f, i :: rest => match f.subs[i]? with
    | some s => nodeAt s rest
    | none => none

/-- a resolved handler: (class of the formatter instance holding it, method name) -/
abbrev Handler' := String × String

/-- the scan of `_get_formatter` over the MRO: `print_<c>` on the base, then on each sub-formatter, for each `c`
    in MRO order.  (`sub_formatter not in tested` compares an instance with a set of classes: always true.) -/
def scan (base : Fmt) : List String → Option Handler'
  | [] => none
  | c :: rest =>
      if base.has c then some (base.cls, "print_" ++ c)
      else match base.subs.find? (·.has c) with
        | some s => some (s.cls, "print_" ++ c)
        | none => scan base rest

/-- paths (relative to `path`) of the grandchildren collected during a failed scan: once per MRO entry -/
def grandchildPaths (base : Fmt) (path : List Nat) (mro : List String) : List (List Nat) :=
  let once : List (List Nat) := (List.range base.subs.length).flatMap fun i =>
    (List.range ((base.subs.getD i (.mk "" [] [])).subs.length)).map fun j => path ++ [i, j]
  (mro.map fun _ => once).flatten

mutual
/-- `_get_formatter(node_type, base, tested)` with the formatter addressed by `path` under `root` -/
def getF (root : Fmt) (mro : List String) : Nat → List Nat → List String → Option Handler' × List String
  | 0, _, tested => (none, tested)
  | fuel + 1, path, tested =>
    match nodeAt root path with
    | none => (none, tested)
    | some base =>
      let r : Option Handler' × List String :=
        if tested.contains base.cls then (none, tested)
        else match scan base mro with
          | some h => (some h, tested)
          | none =>
            let tested1 := tested ++ [base.cls] ++ base.subs.map Fmt.cls
            loopG root mro fuel (grandchildPaths base path mro) tested1
      match r with
      | (some h, t) => (some h, t)
      | (none, t) => if path.isEmpty then (none, t) else getF root mro fuel path.dropLast t
def loopG (root : Fmt) (mro : List String) : Nat → List (List Nat) → List String → Option Handler' × List String
  | 0, _, tested => (none, tested)
  | _, [], tested => (none, tested)
  | fuel + 1, g :: gs, tested =>
    match getF root mro fuel g tested with
    | (some h, t) => (some h, t)
    | (none, t) => loopG root mro fuel gs t
end

/-- recursion budget of the model; the Python search has none (it ends because `tested` grows).  That 400 suffices on the
    generated tables: `C13.fuel_sufficient` (doubling changes no answer at a root), stream `dispatch` (every instance). -/
def FUEL : Nat := 400

/-- `get_formatter(node_type, base_formatter)`: the base first, then every root in FORMATTERS not tested yet -/
def getFormatter (roots : List Fmt) (base : Option (Nat × List Nat)) (mro : List String) : Option Handler' :=
  let (r0, t0) : Option Handler' × List String :=
    match base with
    | none => (none, [])
    | some (ri, path) => match roots[ri]? with
      | some root => getF root mro FUEL path []
      | none => (none, [])
  match r0 with
  | some h => some h
  | none =>
    let rec go : List Fmt → List String → Option Handler'
      | [], _ => none
      | f :: fs, tested =>
        if tested.contains f.cls then go fs tested
        else match getF f mro FUEL [] tested with
          | (some h, _) => some h
          | (none, t) => go fs t
    go roots t0

/-- every formatter instance reachable in a tree, as paths -/
def allPaths : Fmt → List (List Nat)
  | .mk _ _ subs => [] :: (subsPaths subs 0)
where
  subsPaths : List Fmt → Nat → List (List Nat)
    | [], _ => []
    | s :: rest, i => ((allPaths s).map (i :: ·)) ++ subsPaths rest (i + 1)

end GtModel.Dispatch
