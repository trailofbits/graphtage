/-
  C03 "The reported cost equals the sum of its parts, in every view."

  Model: `GtModel.edits` (Model/Edits.lean) = the fully refined edit script of `from.edits(to)`; validated against the
  real engine by the correspondence stream `script`.

  (a) `reported_eq_sum`: at EVERY nesting level, a node that carries sub-edits (KeyValuePairEdit,
      FixedLengthSequenceEdit, EditDistance, MultiSetEdit, FixedKeyDictNodeEdit, StringEdit) reports exactly the sum
      of the costs of its sub-edits; Match/Replace/Remove/Insert carry none.  For `EditDistance`/`StringEdit` the
      reported cost is the lower-right matrix cell (`solve_total_eq_sum`) and the sub-edits are the replayed path.
  (b) `three_views_agree`: the flat edit list of `get_all_edit_contexts` (CompoundEdits exploded, StringEdit not,
      zero-cost edits skipped), the root edit's own cost, and `edited_cost()` of the annotated root (which sums the
      root's edit list = the root edit) are the same number.

  These two are statements about the L2 SCRIPT and need no hypothesis (all options, every oracle answer — the
  assignment solver's recorded matchings are sanitised —, all trees).  What they do NOT say by themselves: for the
  compound kinds kvp / fixed / ms / fk the script's cost is produced by `mkCompound`, i.e. it is the sum BY DEFINITION;
  only `ed` (EditDistance) and `str` (StringEdit) carry an independently computed total (`solve_total_eq_sum`).
  That the number the ENGINE reports for a compound edit (`bounds()` after tightening: matcher bounds + automatic pairs
  + left-overs for MultiSetEdit, …) is this sum is `C03.engine_reported_eq_sum_docs` (Props/C03l.lean), obtained from
  `C05.history_independent_docs` — and that link DOES have hypotheses: `OrcFull` (every recorded solver answer has full
  size; with a short answer L2's script still sums up while the machine stops with `Err.oracle`), distinct keys, `fkOK`
  without key edits (D24).
-/
import GtModel.Proofs.EditsCost

namespace GtModel.C03
open GtModel

/-- C03(a) for the L2 script; see the head of the file for what it does not say -/
theorem reported_eq_sum (o : Opts) (orc : Oracle) (fp tp : List Nat) (f t : Tree) :
    (edits o orc fp tp f t).CostOK :=
  costOK_edits o orc f fp tp t

/-- C03(a), unfolded one level for readability: the root of a script with sub-edits reports their sum -/
theorem reported_eq_sum_root (o : Opts) (orc : Oracle) (fp tp : List Nat) (f t : Tree)
    (h : (edits o orc fp tp f t).kind.hasSubs = true) :
    (edits o orc fp tp f t).cost = sumCosts (edits o orc fp tp f t).subs := by
  have := (Script.costOK_iff _).1 (reported_eq_sum o orc fp tp f t)
  simpa [h] using this.1

/-- C03(b) for the L2 script: `flatSum` is a second traversal of the same script value and `editedCost s` is `s.cost`
    by definition; the three REAL views (`edited_cost()`, Σ `get_all_edits()`, `bounds()`) are compared by the
    streams' monitors, and `bounds()` after any run is tied to `s.cost` by `engine_reported_eq_sum_docs` -/
theorem three_views_agree (o : Opts) (orc : Oracle) (fp tp : List Nat) (f t : Tree) :
    flatSum (edits o orc fp tp f t) = (edits o orc fp tp f t).cost ∧
    editedCost (edits o orc fp tp f t) = (edits o orc fp tp f t).cost :=
  ⟨flatSum_eq_cost _ (reported_eq_sum o orc fp tp f t), rfl⟩

theorem three_views_agree_docs (o : Opts) (orc : Oracle) (f t : Doc) :
    flatSum (diffDocs o orc f t) = (diffDocs o orc f t).cost := (three_views_agree ..).1

/-- `[1.0, "abc"]` → `["axc", 2.0, null]`-style script with a nested string edit (literal copy of a model output) -/
def sample : Script := .mk .ed .none .none 8
  [.mk .remove (.at 0) .none 2 [],
   .mk .str (.at 1) (.at 0) 2 [.mk .match_ (.at 0) (.at 0) 0 [], .mk .insert (.at 1) .none 1 [],
     .mk .remove (.at 1) .none 1 [], .mk .match_ (.at 2) (.at 2) 0 []],
   .mk .ms (.at 2) (.at 1) 2
     [.mk .kvp (.at 0) (.at 0) 1 [.mk .match_ (.at 0) (.at 0) 0 [], .mk .match_ (.at 1) (.at 1) 1 []],
      .mk .kvp (.at 1) (.at 1) 1 [.mk .match_ (.at 0) (.at 0) 1 [], .mk .match_ (.at 1) (.at 1) 0 []]],
   .mk .insert (.at 2) .none 2 []]

example : sample.CostOK := by simp [sample, Script.CostOK, CostOKL, Kind.hasSubs, sumCosts]
example : flatSum sample = 8 := by decide
/-- a node whose reported cost is NOT the sum of its parts (defect D6 shape) is rejected -/
example : ¬ (Script.mk .ed .none .none 3 [.mk .remove (.at 0) .none 2 []]).CostOK := by
  simp [Script.CostOK, CostOKL, Kind.hasSubs, sumCosts]

/-- the model on a concrete pair at the level of the string edit: "abc" → "axc" reports 2 = insert 1 + remove 1 -/
example : strEdits [97, 98, 99] [97, 120, 99] =
    .mk .str .none .none 2 [.mk .match_ (.at 0) (.at 0) 0 [], .mk .insert (.at 1) .none 1 [],
      .mk .remove (.at 1) .none 1 [], .mk .match_ (.at 2) (.at 2) 0 []] :=
  Script.eq_of_beq _ _ (by decide +kernel)

end GtModel.C03
