/-
  C06 "Both documents can be read back from the rendered diff: in a diff rendered as JSON, deleting everything marked
  as inserted leaves text that parses to the first document and deleting everything marked as removed leaves text
  that parses to the second document (separator placement aside).  The rendering carries no change marks exactly
  when the documents are equal."

  SCOPE.  The statement is about the COLOUR rendering (`Printer(ansi_color=True)`): the marks are the combining
  strike / under-plus characters and the red / green background of the ANSI output, recovered by the `render` stream
  (without colour `Match.print` / `Replace.print` write `old -> new` with no marks at all, so nothing could be
  projected).  "Parses to" is stated with a JSON TOKENIZER, not a full JSON parser: the projection and the canonical
  text of the document have the same token structure (strings as single tokens, `[ ] { } :`, literals; commas ignored),
  given as a token tree `Val`; that two JSON texts with the same token tree denote the same data is not formalised
  (the stream's monitor does parse both projections of the real output with `json.loads` and compares them as data).

  Model: `GtModel.Render.render f t s` (Model/Render.lean, validated against the real JSON formatter by stream
  `render`: exact equality of the (character, mark) sequences) over the L2 script `s = edits o orc [] [] f t`.

  Vocabulary
    projFrom r / projTo r   delete every character marked inserted / removed (and the `->` arrows)
    tokens                  JSON tokenizer over code points: strings as single tokens, `[ ] { } : ,`, literals
    dropCommas              "separator placement aside": comma tokens are ignored
    printJson f             the rendering of the unedited node (= `jsonText f`)
    treeVal f : Val         the JSON value of a node as a token tree; `(treeVal f).toks = dropCommas (tokens (printJson f))`
                            (`printJson_toks`)
    ValPerm v w             v and w are equal up to the ORDER of the members of objects, recursively: the least
                            equivalence that is a congruence for members (same key), lists (element-wise, in order) and
                            objects (element-wise after a permutation of the members).  Nothing else is identified:
                            related values have the same multiset of tokens (`ValPerm.toks_perm`), atoms are related
                            only to themselves (`ValPerm.atom_eq`); see the examples at the end (a reordered object is
                            accepted, two objects with different members are rejected).
                            (Needed because a mapping's pairs are printed in EDIT order — matched pairs first, then
                            removals, then insertions — on both sides; and a zero-cost Match prints the to-node, the
                            cost gate the from-node: node-equal trees, which for trees with distinct keys are
                            `ValPerm`-related, `Render.eq_valPerm`.)
    hasMark r               some character of the rendering is not plain

  PROVED, for all options `o`, all oracles (assignment-solver answers) `orc`, all trees whose mappings have distinct
  keys (`Tree.KeysDistinct`, what `build` produces) and whose float leaves carry a literal repr (`litOK`):
    (1) `project_from` : ∃ v, ValPerm v (treeVal f) ∧ dropCommas (tokens (projFrom (render f t (edits o orc [] [] f t)))) = v.toks
    (2) `project_to`   : ∃ v, ValPerm v (treeVal t) ∧ dropCommas (tokens (projTo   (render f t (edits o orc [] [] f t)))) = v.toks
        each together with `dropCommas (tokens (printJson f)) = (treeVal f).toks`;
        corollaries without `Val`: `project_from_tokens` / `project_to_tokens` — the comma-less token list of the
        projection is a permutation of that of the document's canonical text;
    (3) `marks_iff`    : hasMark (render f t (edits o orc [] [] f t)) = true ↔ f.eq t = false
    and for whole documents (`diffDocs`, `Doc.distinctKeys`, `Doc.floatsOK` of Proofs/RenderPlain): `project_from_docs`, `project_to_docs`,
    `marks_iff_docs` (… ↔ the documents differ as data, `Doc.dataEq`).
  Also: `project_from_wf` / `project_to_wf` / `projection_is_value` for EVERY well-formed script (`Render.WF`).
-/
import GtModel.Proofs.RenderMarks
import GtModel.Props.C02

namespace GtModel.C06
open GtModel GtModel.Render

/-- `s` is a well-formed edit of `f` into `t` (see `Render.WF`), printed behind the root cost gate -/
def ScriptWellFormed (f t : Tree) (s : Script) : Prop :=
  WF (.tree f) (.tree t) s ∧ Gate (.tree f) (.tree t) s

/-- the comma-less tokens of the canonical text of a node are the tokens of its value -/
theorem printJson_toks (f : Tree) (hf : litOK f = true) : dropCommas (tokens (printJson f)) = (treeVal f).toks :=
  (textOK (.tree f) hf).2

/-- (1) for every well-formed script -/
theorem project_from_wf (f t : Tree) (s : Script) (hf : litOK f = true) (ht : litOK t = true)
    (hs : ScriptWellFormed f t s) :
    ∃ v, ValPerm v (treeVal f) ∧ dropCommas (tokens (projFrom (render f t s))) = v.toks := by
  -- `projFrom` is `proj (keepS true)` and `projTo` is `proj (keepS false)`, by definition
  obtain ⟨_, v, hv, hT⟩ := render_spec f t s hf ht hs.1 hs.2 true
  exact ⟨v, hv, hT⟩

/-- (2) for every well-formed script -/
theorem project_to_wf (f t : Tree) (s : Script) (hf : litOK f = true) (ht : litOK t = true)
    (hs : ScriptWellFormed f t s) :
    ∃ v, ValPerm v (treeVal t) ∧ dropCommas (tokens (projTo (render f t s))) = v.toks := by
  obtain ⟨_, v, hv, hT⟩ := render_spec f t s hf ht hs.1 hs.2 false
  exact ⟨v, hv, hT⟩

/-- both projections are complete JSON values: followed by punctuation or nothing, their tokens do not change -/
theorem projection_is_value (f t : Tree) (s : Script) (hf : litOK f = true) (ht : litOK t = true)
    (hs : ScriptWellFormed f t s) :
    ClosedT (projFrom (render f t s)) ∧ ClosedT (projTo (render f t s)) :=
  ⟨(render_spec f t s hf ht hs.1 hs.2 true).1, (render_spec f t s hf ht hs.1 hs.2 false).1⟩

/-- the script the engine computes is a well-formed edit, for all options, oracles, paths and trees with distinct keys -/
theorem script_wellformed (o : Opts) (orc : Oracle) (fp tp : List Nat) (f t : Tree)
    (hf : f.KeysDistinct) (ht : t.KeysDistinct) : ScriptWellFormed f t (edits o orc fp tp f t) :=
  Render.script_wellformed o orc fp tp f t hf ht

/-- (1) deleting everything inserted leaves the first document -/
theorem project_from (o : Opts) (orc : Oracle) (f t : Tree) (hf : f.KeysDistinct) (ht : t.KeysDistinct)
    (hlf : litOK f = true) (hlt : litOK t = true) :
    ∃ v, ValPerm v (treeVal f) ∧
      dropCommas (tokens (projFrom (render f t (edits o orc [] [] f t)))) = v.toks ∧
      dropCommas (tokens (printJson f)) = (treeVal f).toks := by
  obtain ⟨v, hv, hT⟩ := project_from_wf f t _ hlf hlt (script_wellformed o orc [] [] f t hf ht)
  exact ⟨v, hv, hT, printJson_toks f hlf⟩

/-- (2) deleting everything removed leaves the second document -/
theorem project_to (o : Opts) (orc : Oracle) (f t : Tree) (hf : f.KeysDistinct) (ht : t.KeysDistinct)
    (hlf : litOK f = true) (hlt : litOK t = true) :
    ∃ v, ValPerm v (treeVal t) ∧
      dropCommas (tokens (projTo (render f t (edits o orc [] [] f t)))) = v.toks ∧
      dropCommas (tokens (printJson t)) = (treeVal t).toks := by
  obtain ⟨v, hv, hT⟩ := project_to_wf f t _ hlf hlt (script_wellformed o orc [] [] f t hf ht)
  exact ⟨v, hv, hT, printJson_toks t hlt⟩

/-- (1) without `Val`: the comma-less tokens of the from-projection are those of the first document's canonical text,
    up to their order (which only the reordering of object members can change) -/
theorem project_from_tokens (o : Opts) (orc : Oracle) (f t : Tree) (hf : f.KeysDistinct) (ht : t.KeysDistinct)
    (hlf : litOK f = true) (hlt : litOK t = true) :
    (dropCommas (tokens (projFrom (render f t (edits o orc [] [] f t))))).Perm (dropCommas (tokens (printJson f))) := by
  obtain ⟨v, hv, hT, hP⟩ := project_from o orc f t hf ht hlf hlt
  rw [hT, hP]; exact hv.toks_perm

/-- (2) without `Val` -/
theorem project_to_tokens (o : Opts) (orc : Oracle) (f t : Tree) (hf : f.KeysDistinct) (ht : t.KeysDistinct)
    (hlf : litOK f = true) (hlt : litOK t = true) :
    (dropCommas (tokens (projTo (render f t (edits o orc [] [] f t))))).Perm (dropCommas (tokens (printJson t))) := by
  obtain ⟨v, hv, hT, hP⟩ := project_to o orc f t hf ht hlf hlt
  rw [hT, hP]; exact hv.toks_perm

/-- non-vacuity of the tree-level hypotheses: a nested tree with a mapping, a float and a string -/
example :
    let f : Tree := .list [.dict [([97], .leaf (.float [49, 46, 53])), ([98], .leaf (.str [34, 92]))], .leaf .null]
    f.KeysDistinct ∧ litOK f = true := by decide

/-- an edit of cost 0 whose kind is not `isCompound` (that is: Match, Replace, Remove, Insert, StringEdit) is rendered
    as the unmarked from-node -/
theorem no_marks_of_zero_cost_leaf (f t : Tree) (s : Script) (h0 : s.cost = 0) (hk : isCompound s.kind = false) :
    hasMark (render f t s) = false := by
  cases s with
  | mk k fi ti c subs =>
    simp only [Script.cost, Script.kind] at h0 hk
    subst h0
    simp only [render, Script.cost, Nat.lt_irrefl, decide_false]
    rw [renderEdit_false, hk]
    exact hasMark_plain _

/-- a Match / Replace of positive cost shows the arrow -/
theorem marks_of_change (f t : Tree) (k : Kind) (fi ti : Ix) (c : Nat) (subs : List Script) (hc : c > 0)
    (hk : k = .match_ ∨ k = .replace) : hasMark (render f t (.mk k fi ti c subs)) = true := by
  rcases hk with rfl | rfl <;>
    simp [render, Script.cost, hc, renderEdit, hasMark_append, hasMark_arrow]

/-- (3) the rendering carries a change mark exactly when the two nodes are not equal -/
theorem marks_iff (o : Opts) (orc : Oracle) (f t : Tree) (hf : f.KeysDistinct) (ht : t.KeysDistinct)
    (hlf : litOK f = true) (hlt : litOK t = true) :
    hasMark (render f t (edits o orc [] [] f t)) = true ↔ f.eq t = false := by
  -- C02 speaks of `Tree.WF`, the same predicate as `Tree.keysDistinct`
  have hf' : f.WF = true := f.WF_eq_keysDistinct ▸ hf
  have ht' : t.WF = true := t.WF_eq_keysDistinct ▸ ht
  have hz := C02.zero_cost_iff_eq o orc [] [] f t hf' ht'
  by_cases h0 : (edits o orc [] [] f t).cost = 0
  · rw [(cost_zero_iff_match o orc [] [] f t hf' ht').1 h0, no_marks_of_zero_cost_leaf f t _ rfl rfl, hz.1 h0]
    simp
  · have hpos : (edits o orc [] [] f t).cost > 0 := by omega
    have hne : f.eq t = false := by
      cases h : f.eq t with
      | false => rfl
      | true => exact absurd (hz.2 h) h0
    simp only [render, hpos, decide_true, positive_cost_shows o orc [] [] f t hf ht hlf hlt hpos, hne]

/-- `build` keeps keys distinct, in the words of this file: `Doc.distinctKeys` on documents (as C02), `Tree.KeysDistinct`
    on trees (as C01) -/
theorem build_kd' (o : Opts) (d : Doc) (h : d.distinctKeys = true) : (build o d).KeysDistinct := by
  have := C02.build_WF o d h
  rw [Tree.WF_eq_keysDistinct] at this
  exact this

/-- (1) for whole documents: objects with distinct keys (what every JSON parser delivers) -/
theorem project_from_docs (o : Opts) (orc : Oracle) (a b : Doc) (ha : a.distinctKeys = true) (hb : b.distinctKeys = true)
    (hfa : a.floatsOK = true) (hfb : b.floatsOK = true) :
    ∃ v, ValPerm v (treeVal (build o a)) ∧
      dropCommas (tokens (projFrom (render (build o a) (build o b) (diffDocs o orc a b)))) = v.toks ∧
      dropCommas (tokens (printJson (build o a))) = (treeVal (build o a)).toks :=
  project_from o orc _ _ (build_kd' o a ha) (build_kd' o b hb) (build_litOK o a hfa) (build_litOK o b hfb)

/-- (2) for whole documents -/
theorem project_to_docs (o : Opts) (orc : Oracle) (a b : Doc) (ha : a.distinctKeys = true) (hb : b.distinctKeys = true)
    (hfa : a.floatsOK = true) (hfb : b.floatsOK = true) :
    ∃ v, ValPerm v (treeVal (build o b)) ∧
      dropCommas (tokens (projTo (render (build o a) (build o b) (diffDocs o orc a b)))) = v.toks ∧
      dropCommas (tokens (printJson (build o b))) = (treeVal (build o b)).toks :=
  project_to o orc _ _ (build_kd' o a ha) (build_kd' o b hb) (build_litOK o a hfa) (build_litOK o b hfb)

/-- (3) for whole documents: the rendering carries a change mark exactly when the documents differ as data -/
theorem marks_iff_docs (o : Opts) (orc : Oracle) (a b : Doc) (ha : a.distinctKeys = true) (hb : b.distinctKeys = true)
    (hfa : a.floatsOK = true) (hfb : b.floatsOK = true) :
    hasMark (render (build o a) (build o b) (diffDocs o orc a b)) = true ↔ Doc.dataEq a b = false := by
  rw [← C02.eq_iff_dataEq o a b ha hb]
  exact marks_iff o orc _ _ (build_kd' o a ha) (build_kd' o b hb) (build_litOK o a hfa) (build_litOK o b hfb)

/-- non-vacuity of the document-level hypotheses -/
example : (Doc.obj [([98], .list [.scalar (.int 1), .scalar (.float [49, 46, 53]), .obj [([97], .scalar .null)]]),
    ([97], .scalar (.bool true))]).distinctKeys = true ∧
    (Doc.obj [([98], .list [.scalar (.int 1), .scalar (.float [49, 46, 53]), .obj [([97], .scalar .null)]]),
    ([97], .scalar (.bool true))]).floatsOK = true := by decide

/-- "ab" → "ac" as the engine edits it: match a, insert c, remove b -/
def strS : Script := .mk .str .none .none 2
  [.mk .match_ (.at 0) (.at 0) 0 [], .mk .insert (.at 1) .none 1 [], .mk .remove (.at 1) .none 1 []]

example : ScriptWellFormed (.leaf (.str [97, 98])) (.leaf (.str [97, 99])) strS := by
  refine ⟨?_, by simp [Gate, strS, Script.kind, Script.cost]⟩
  simp only [strS, WF]
  refine ⟨[97, 98], [97, 99], rfl, rfl, ?_, by decide, by decide⟩
  intro s hs
  simp only [List.mem_cons, List.mem_nil_iff, or_false] at hs
  rcases hs with rfl | rfl | rfl <;> simp [classifyChar]

/-- the rendering of that script: `"a` `c`(inserted) `b`(removed) `"` -/
example : render (.leaf (.str [97, 98])) (.leaf (.str [97, 99])) strS =
    [(34, .plain), (97, .plain), (99, .inserted), (98, .removed), (34, .plain)] := by decide

/-- a script of the shape the engine computes for [1, 2] → [1] (EditDistance: match, remove; the engine's costs are 1,
    here 2), rendered `[1` `,2`(removed) `]` -/
def listS : Script := .mk .ed .none .none 2 [.mk .match_ (.at 0) (.at 0) 0 [], .mk .remove (.at 1) .none 2 []]
def l12 : Tree := .list [.leaf (.float [49]), .leaf (.float [50])]
def l1 : Tree := .list [.leaf (.float [49])]

example : render l12 l1 listS =
    [(91, .plain), (49, .plain), (44, .removed), (50, .removed), (93, .plain)] := by decide

example : ScriptWellFormed l12 l1 listS := by
  refine ⟨?_, by simp [Gate, listS, Script.kind, Script.cost]⟩
  simp only [listS, WF, WFSubs]
  refine ⟨⟨91, 93, rfl, rfl, ?_⟩, ⟨_, _, rfl, ?_⟩, ⟨_, _, rfl, trivial⟩, trivial⟩
  · simp only [if_true]
    exact ⟨ValPermL.refl' _, ValPermL.refl' _⟩
  · exact Or.inr (.refl _)

/-- a script that loses an element is NOT well formed (so the hypothesis says something) -/
example : ¬ ScriptWellFormed l12 l1 (.mk .ed .none .none 0 [.mk .match_ (.at 0) (.at 0) 0 []]) := by
  intro h
  have hc := h.1
  simp only [WF] at hc
  obtain ⟨⟨o, c, hb, _, hcov⟩, _⟩ := hc
  cases hb
  -- the one surviving element would have to cover both elements of the first list
  cases hcov.1 with
  | cons _ h2 => cases h2

/-- `{"a": 1, "b": 2}` -/
def objAB : Tree := .dict [([97], .leaf (.int 1)), ([98], .leaf (.int 2))]
/-- `{"b": 2, "a": 1}` -/
def objBA : Tree := .dict [([98], .leaf (.int 2)), ([97], .leaf (.int 1))]
/-- `{"c": "x", "d": [null]}` -/
def objCD : Tree := .dict [([99], .leaf (.str [120])), ([100], .list [.leaf .null])]

/-- the same object with its members in another order is accepted -/
example : ValPerm (treeVal objAB) (treeVal objBA) := by
  simp only [objAB, objBA, treeVal, valKV]
  exact .map (.permL (List.Perm.swap _ _ _) (.cons (.refl _) (.cons (.refl _) .nil)))

/-- two objects with the same number of members but different members are REJECTED -/
example : ¬ ValPerm (treeVal objAB) (treeVal objCD) := fun h =>
  absurd (h.toks_perm.mem_iff.1 (by decide : Tok.str [97] ∈ (treeVal objAB).toks)) (by decide)

end GtModel.C06
