/-
  C03 for general multisets (`MultiSetNode` of arbitrary nodes WITH duplicates; library API only):
  "The reported cost equals the sum of its parts" — FALSE on the current code (defect D21), characterised exactly.

  Model: `GtModel.MSet.msGeneral` / `msGenScript` (Model/MSetEdits.lean), validated against the real engine by stream
  `scriptmset` (exact script and cost comparison, D21 cases included).

  * `mset_reported_eq_sum_iff`: the reported cost of a `MultiSetEdit` equals the sum of its sub-edits IF AND ONLY IF the
    matcher's cached bound equals the sum over the entries of its node-keyed matching dict.
  * `mset_reported_eq_sum_partial`: it does whenever the matcher's bounds were NOT definitive before a matching
    existed (`lo ≠ hi`), or one side of the matcher is empty — with or without duplicates, for every oracle.
    NOT proved: "… whenever no two unmatched from-elements are equal" (NOTES_L2M.md says what it would take).
  * `mset_d21_witness`: `MultiSetNode([1, 1])` → `MultiSetNode([4, 5])`: all four edges cost 1, the matcher caches
    [2, 2]; the dict keyed by node keeps ONE entry for the two equal nodes `1`; reported 2 + Remove 2 + Insert 2 = 6,
    listed sub-edits Match 1 + Remove 2 + Insert 2 = 5.
-/
import GtModel.Proofs.MSetLemmas

namespace GtModel.C03
open GtModel GtModel.MSet

/-- the matcher's pre-matching range, as `msGenScript` computes it -/
def msLoHi (p : Parts) (etbl : Nat → Nat → Script) : Nat × Nat :=
  let nf := p.remE.length
  let nt := p.insE.length
  let rows := (List.range nf).map fun a => (List.range nt).map fun b => (etbl a b).cost
  (sumSmallest (Nat.min nf nt) (rows.map fun r => r.foldl Nat.min (r.headD 0)),
   sumLargest (Nat.min nf nt) (rows.map fun r => r.foldl Nat.max 0))

/-- the sub-edits the matching dict contributes -/
def msMatched (orc : Oracle) (fp tp : List Nat) (p : Parts) (etbl : Nat → Nat → Script) : List Script :=
  (collide p.remE (MSet.msPairs orc fp tp p)).map fun (k, b) =>
    (etbl (p.remE.idxOf k) b).relabel (.at (p.chF.idxOf k)) (.at (p.chT.idxOf (p.insE.getD b 0)))

/-- `WeightedBipartiteMatcher.bounds()` once everything is tightened -/
def msMatcherBound (orc : Oracle) (fp tp : List Nat) (p : Parts) (etbl : Nat → Nat → Script) : Nat :=
  if p.remE.length == 0 || p.insE.length == 0 then 0
  else if (msLoHi p etbl).1 == (msLoHi p etbl).2 then (msLoHi p etbl).1
  else sumCosts (msMatched orc fp tp p etbl)

theorem sumCosts_map_match0 (l : List Nat) (f : Nat → Ix) :
    sumCosts (l.map fun k => (mkMatch 0).relabel (f k) .same) = 0 := by
  induction l with
  | nil => rfl
  | cons x xs ih => simp [ih]

/-- the Remove edits of the elements the matching leaves over -/
def msRems (orc : Oracle) (fp tp : List Nat) (fs : List Tree) (p : Parts) : List Script :=
  (elementsOf (firstOcc p.remE) fun k =>
      p.remE.count k - (if (collide p.remE (MSet.msPairs orc fp tp p)).any (·.1 == k) then 1 else 0)).map
    fun k => mkRemove (p.chF.idxOf k) ((fs.getD (p.fcls.idxOf k) (.leaf .null)).size) 1

/-- the Insert edits of the elements the matching leaves over -/
def msInss (orc : Oracle) (fp tp : List Nat) (ts : List Tree) (p : Parts) : List Script :=
  (elementsOf (firstOcc p.insE) fun k =>
      p.insE.count k - ((collide p.remE (MSet.msPairs orc fp tp p)).map fun e => p.insE.getD e.2 0).count k).map
    fun k => mkInsert (p.chT.idxOf k) ((ts.getD (p.tcls.idxOf k) (.leaf .null)).size) 1

/-- `MultiSetEdit.bounds()` = matcher bounds + the left-over removals and insertions -/
theorem msGenScript_cost (orc : Oracle) (fp tp : List Nat) (fs ts : List Tree) (p : Parts) (etbl : Nat → Nat → Script) :
    (msGenScript orc fp tp fs ts p etbl).cost =
      msMatcherBound orc fp tp p etbl + sumCosts (msRems orc fp tp fs p) + sumCosts (msInss orc fp tp ts p) := rfl

/-- `MultiSetEdit.edits()` = identity matches, the dict entries, removals, insertions -/
theorem msGenScript_subs (orc : Oracle) (fp tp : List Nat) (fs ts : List Tree) (p : Parts) (etbl : Nat → Nat → Script) :
    (msGenScript orc fp tp fs ts p etbl).subs =
      (p.matE.map fun k => (mkMatch 0).relabel (.at (p.chF.idxOf k)) .same) ++ msMatched orc fp tp p etbl
        ++ msRems orc fp tp fs p ++ msInss orc fp tp ts p := rfl

/-- exact characterisation: reported = Σ sub-edits ⇔ the matcher's (possibly cached) bound = Σ over the dict entries -/
theorem mset_reported_eq_sum_iff (orc : Oracle) (fp tp : List Nat) (fs ts : List Tree) (p : Parts)
    (etbl : Nat → Nat → Script) :
    (msGenScript orc fp tp fs ts p etbl).cost = sumCosts (msGenScript orc fp tp fs ts p etbl).subs ↔
      msMatcherBound orc fp tp p etbl = sumCosts (msMatched orc fp tp p etbl) := by
  rw [msGenScript_cost, msGenScript_subs]
  simp only [sumCosts_append, sumCosts_map_match0, Nat.zero_add]
  constructor <;> intro h <;> omega

/-- no pair survives when one side of the matcher is empty -/
theorem msMatched_nil (orc : Oracle) (fp tp : List Nat) (p : Parts) (etbl : Nat → Nat → Script)
    (h : p.remE.length = 0 ∨ p.insE.length = 0) : msMatched orc fp tp p etbl = [] := by
  have hp := MSet.msPairs_pinj orc fp tp p
  have : MSet.msPairs orc fp tp p = [] := by
    cases hq : MSet.msPairs orc fp tp p with
    | nil => rfl
    | cons q qs =>
      have := hp.2.2 q (by rw [hq]; simp)
      omega
  simp [msMatched, this, collide, firstOcc]

/-- C03(a) for general multisets, the part that holds: if the matcher's bounds were not definitive before a matching
    existed, or one side of the matcher is empty, the reported cost is the sum of the sub-edits — duplicates or not,
    for every oracle answer -/
theorem mset_reported_eq_sum_partial (orc : Oracle) (fp tp : List Nat) (fs ts : List Tree) (p : Parts)
    (etbl : Nat → Nat → Script)
    (h : p.remE.length = 0 ∨ p.insE.length = 0 ∨ (msLoHi p etbl).1 ≠ (msLoHi p etbl).2) :
    (msGenScript orc fp tp fs ts p etbl).cost = sumCosts (msGenScript orc fp tp fs ts p etbl).subs := by
  rw [mset_reported_eq_sum_iff]
  unfold msMatcherBound
  rcases h with h | h | h
  · rw [msMatched_nil orc fp tp p etbl (Or.inl h)]; simp [h]
  · rw [msMatched_nil orc fp tp p etbl (Or.inr h)]; simp [h]
  · split
    · rename_i h0
      simp only [Bool.or_eq_true, beq_iff_eq] at h0
      rw [msMatched_nil orc fp tp p etbl h0]; rfl
    · simp [h]

/-- the parts of `MultiSetNode([1, 1])` vs `MultiSetNode([4, 5])`: classes 0, 0 | 2, 3; nothing in common -/
def d21Parts : Parts :=
  { fcls := [0, 0], tcls := [2, 3], chF := [0, 0], chT := [2, 3], matE := [], remE := [0, 0], insE := [2, 3] }

theorem d21Parts_eq : parts [.leaf (.int 1), .leaf (.int 1)] [.leaf (.int 4), .leaf (.int 5)] = d21Parts := by
  simp [parts, classesFrom, classOf, Tree.eq, Scalar.eq, firstOcc, elementsOf, d21Parts, List.findIdx?_cons]

/-- D21 witness: every edge `1 → 4`, `1 → 5` is `Match` of cost 1; whatever the solver answers (here the recorded
    `[(0,0),(1,1)]`), the reported cost is 6 and the listed sub-edits (Match 1→5, Remove 1, Insert 4) sum to 5 -/
theorem mset_d21_witness :
    let orc : Oracle := [{ f := [[0], [0]], t := [[0], [1]], pairs := [(0, 0), (1, 1)] }]
    let s := msGenScript orc [] [] [.leaf (.int 1), .leaf (.int 1)] [.leaf (.int 4), .leaf (.int 5)] d21Parts
      (fun _ _ => mkMatch 1)
    s.cost = 6 ∧ sumCosts s.subs = 5 ∧ s.subs.map Script.kind = [.match_, .remove, .insert] ∧
      fromIdx s.subs = [.at 0, .at 0] := by
  decide +kernel

/-- … and the hypothesis of `mset_reported_eq_sum_partial` indeed fails there: the pre-matching range is [2, 2] -/
example : msLoHi d21Parts (fun _ _ => mkMatch 1) = (2, 2) := by decide +kernel

/-- non-vacuity of `mset_reported_eq_sum_partial` WITH duplicates: `[1, 1]` vs `[4, 55]` (edges cost 1 and 2): the range
    is [2, 4], not definitive, and reported = Σ sub-edits = 6 although the dict collides -/
example :
    let p : Parts := d21Parts
    let etbl : Nat → Nat → Script := fun _ b => mkMatch (b + 1)
    (msLoHi p etbl).1 ≠ (msLoHi p etbl).2 ∧
      (msGenScript [] [] [] [.leaf (.int 1), .leaf (.int 1)] [.leaf (.int 4), .leaf (.int 55)] p etbl).cost = 6 := by
  decide +kernel

/-! ### counter-example: "for every oracle answer" needs FULLNESS of the solver's matching, also WITHOUT duplicates

  `MultiSetNode([1, 2])` → `MultiSetNode([4, 5])` (no duplicates; all four edges cost 1, so the matcher caches [2, 2]) with
  an EMPTY (non-full, but sanitised-valid) solver answer: the faithful model reports 2 + 4·2 = 10, the sub-edits sum to 8.
  The real code behaves the same (checked by patching `min_weight_bipartite_matching` to return `{}` on
  `{"a":1,"b":1}` → `{"c":1,"d":1}`, auto_match_keys=False: `MultiSetEdit.bounds()` = 22, Σ sub-edits = 20).
  The L2 model `GtModel.msScript` (DictNodes; what `C03.reported_eq_sum` is about) DEFINES the cost of an `ms` node as
  `sumCosts subs` (`mkCompound`), so there the equation is `rfl` for every answer — it does not mirror
  `MultiSetEdit.bounds()` = `matcher.bounds()` + ….  The tie for `ms` costs is the correspondence stream only. -/

example :
    let orc : Oracle := [{ f := [[0], [1]], t := [[0], [1]], pairs := [] }]
    let p : Parts := { fcls := [0, 1], tcls := [2, 3], chF := [0, 1], chT := [2, 3], matE := [], remE := [0, 1], insE := [2, 3] }
    let s := msGenScript orc [] [] [.leaf (.int 1), .leaf (.int 2)] [.leaf (.int 4), .leaf (.int 5)] p (fun _ _ => mkMatch 1)
    s.cost = 10 ∧ sumCosts s.subs = 8 := by
  decide +kernel

-- … while the L2 `msScript` on the analogous mappings reports the sum by definition (`rfl`), same empty answer
example :
    let orc : Oracle := [{ f := [[0], [1]], t := [[0], [1]], pairs := [] }]
    let fkv : List (Str × Tree) := [([97], .leaf (.int 1)), ([98], .leaf (.int 1))]
    let tkv : List (Str × Tree) := [([99], .leaf (.int 1)), ([100], .leaf (.int 1))]
    (msScript false orc [] [] fkv tkv []).cost = sumCosts (msScript false orc [] [] fkv tkv []).subs := rfl

end GtModel.C03
