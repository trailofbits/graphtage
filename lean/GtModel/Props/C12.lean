/-
  C12 — printing an unedited document yields text that parses back equal (JSON, JSON5, CSV part).

  Model: `GtModel.RoundTrip` (GtModel/Model/RoundTrip.lean): `printJson` mirrors the JSON formatter on an unedited
  tree character for character (layout included); `readJson` is the specification of the loader (RFC 8259 parser
  with Python's surrogate-pair handling).  Both are tied to the real code by the `roundtrip` stream: the model
  printer's text equals the real text exactly and the model reader applied to the REAL printed text returns what
  the real loader returned.

  Full-strength statement  `∀ v, readJson (printJson v) = some v`  is FALSE for values that no loader produces:
    * a string holding a high surrogate directly followed by a low surrogate reads back as ONE character
      (`pair_hypothesis_needed`); `json.loads` never returns such a string (it combines the pair), so `valid` is
      an invariant of loaded documents, checked on every case of the stream ("valid": true);
    * a float token that is not a number literal with a fraction/exponent (`float.__repr__` always produces one;
      this is the CPython guarantee the theorem assumes; the driver re-lexes every shipped token and the stream
      fails if one does not fit).
  JSON5: the loader is `json5.load` followed by `JSON5._combine_surrogates` (`loadJson5`; its model and the UTF-16
  theory of splitting and joining surrogates are in `Proofs/RoundTripJson5`); `read_print_json5` is the
  round trip for ALL code points on the same domain as `read_print`.  The stream ties `readDoc comb` (`comb` probed on
  the real loader), not `loadJson5`, to the code.  `read_print_json5_bmp` and
  `json5_astral_counterexample` describe the `json5` library ALONE, without `_combine_surrogates`.
  NOT covered by theorems (stream only): YAML, plist and XML round trips; the JSON5-only source syntax (the printed
  text is plain JSON); that `float(repr(x)) == x` (CPython).
-/
import GtModel.Proofs.RoundTripJson5
import GtModel.Proofs.RoundTripCsv

namespace GtModel.C12
open GtModel.RoundTrip

/-- JSON: for every loaded document — any nesting depth, strings over all code points incl. lone surrogates,
    integers of any size, float literals — the parser applied to the printed text returns the document. -/
theorem read_print (v : JVal) (hv : v.valid = true) : readJson (printJson v) = some v :=
  readDoc_printJson true v (okStr_true ▸ hv)

/-- The `json5` library ALONE, which does not recombine escaped surrogate pairs: the round trip holds exactly on
    documents whose strings stay inside the Basic Multilingual Plane. -/
theorem read_print_json5_bmp (v : JVal) (hv : v.valid5 = true) : readJson5 (printJson v) = some v :=
  readDoc_printJson false v (okStr_false ▸ hv)

/-- The recorded defect: with the `json5` library alone U+10000 comes back as two surrogates. -/
theorem json5_astral_counterexample :
    readJson5 (printJson (.str [65536])) = some (.str [55296, 56320]) := by rfl

/-- the `valid` hypothesis of `read_print` cannot be dropped: an (unloadable) adjacent surrogate pair is merged -/
theorem pair_hypothesis_needed :
    readJson (printJson (.str [55357, 56832])) = some (.str [128512]) := by rfl

/-- `{"a\"\\": [1, -0.5e-7, "\ud800x\udc00 😀", [], {}], "": null}` with a lone high and a lone low surrogate -/
def sample : JVal :=
  .obj (.cons [97, 34, 92]
        (.arr (.cons (.int 1) (.cons (.float (.num true [48] [53] (some (some 45, [55]))))
          (.cons (.str [55296, 120, 56320, 32, 128512]) (.cons (.arr .nil) (.cons (.obj .nil) .nil))))))
        (.cons [] .null .nil))

example : sample.valid = true := by decide
example : (JVal.arr (.cons (.str [233, 8232, 65534]) (.cons (.int (-5)) .nil))).valid5 = true := by decide

/-- what the `json5` library itself returns for printed text: the document with every astral character as two
    surrogates (defect D-json5-astral of the library, for ALL documents) -/
theorem json5_library_splits (v : JVal) (hv : v.valid = true) : readJson5 (printJson v) = some (splitVal v) := by
  have h := read_print_json5_bmp (splitVal v) (valid5_split v hv)
  rwa [show printJson (splitVal v) = printJson v from printVal_split 0 v hv] at h

/-- JSON5, ALL CODE POINTS: for every loaded document (same domain as `read_print`: code points in range, no high
    surrogate directly followed by a low one; lone surrogates and astral characters included) the JSON5 loader —
    `json5.load` followed by `_combine_surrogates` — applied to the printed text returns the document -/
theorem read_print_json5 (v : JVal) (hv : v.valid = true) : loadJson5 (printJson v) = some v := by
  unfold loadJson5
  rw [json5_library_splits v hv, Option.map_some, combine_split v hv]

/-- the loader on the library's counterexample U+10000, and on 😀 next to a lone high and a lone low surrogate -/
example : loadJson5 (printJson (.str [65536])) = some (.str [65536]) := by rfl
example : loadJson5 (printJson sample) = some sample := read_print_json5 sample (by decide)
/-- `_combine_surrogates` leaves lone surrogates alone and joins a pair -/
example : combineStr [55296, 120, 56320, 55357, 56832] = [55296, 120, 56320, 128512] := by decide

/-- the reader state machine alone (no newline translation) returns every table, whatever its cells contain:
    commas, quotes, line feeds, carriage returns, empty cells, empty rows, no rows -/
theorem csv_machine (rows : List (List Str)) :
    ((printCsv rows).foldl Csv.feed {}).rows.reverse = rows ∧ ((printCsv rows).foldl Csv.feed {}).err = false := by
  simp only [tableRun rows []]; simp

/-- CSV: reading the printed text of a table (through a file opened with universal newlines, as the loader
    does) returns the table, provided no cell contains a carriage return — which holds for every loaded table,
    because the same universal-newlines translation already turned '\r' into '\n' when the table was loaded. -/
theorem csv_read_print (rows : List (List Str)) (h : ∀ r ∈ rows, ∀ c ∈ r, 13 ∉ c) :
    readCsv (printCsv rows) = some rows := by
  have hcr : 13 ∉ printCsv rows := by
    rw [mem_printCsv (by decide) (by decide) (by decide)]
    exact fun ⟨r, hr, c, hc, hx⟩ => h r hr c hc hx
  simp only [readCsv, translate_id _ hcr, lastIsNl_printCsv, tableRun rows []]
  simp [Csv.finish]

/-- the hypothesis of `csv_read_print` cannot be dropped: a '\r' inside a cell comes back as '\n' -/
theorem csv_cr_counterexample : readCsv (printCsv [[[97, 13, 98]]]) = some [[[97, 10, 98]]] := by decide

/-- non-vacuity: `a,"b""c",` / (empty row) / `"x` newline `y"` / `""` -/
example : readCsv (printCsv [[[97], [98, 34, 99], []], [], [[120, 10, 121]], [[]]])
    = some [[[97], [98, 34, 99], []], [], [[120, 10, 121]], [[]]] :=
  csv_read_print _ (by decide)

-- `JSON5.build_tree` recombines surrogate pairs and the driver, told so by the probed flag `comb`, reads its text with
-- `readDoc true` (= `readJson`).  For that loader `valid5` is the wrong hypothesis: the document below satisfies it but does not
-- round-trip (it is not `valid`; no loader produces it).
example : (JVal.str [55296, 56320]).valid5 = true ∧
    readJson (printJson (.str [55296, 56320])) = some (.str [65536]) := ⟨by decide, by rfl⟩

end GtModel.C12
