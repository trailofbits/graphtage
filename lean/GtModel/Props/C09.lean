/-
  C09 — the same data compares as equal regardless of input file format  (PARTIAL + one recorded finding).

  Model: `GtModel.Formats` — JSON, JSON5, YAML and PLIST loaders all end in `json.build_tree(obj)`; PLIST wraps the
  root in a `PLISTNode`.  ASSUMPTION (validated on every run by the `formats` stream: each datum is loaded through
  all four real loaders and the `to_obj()` values are compared): the four external parsers return equal Python
  objects for the same datum — that is what "the same data" means here, so a datum is one `Doc`.

  Proved for every datum, every option set and every assignment-solver answer:
    * `same_data_zero`      : every ordered pair of formats EXCEPT (non-plist → plist) diffs to cost 0;
    * `third_doc_independent`: against a third document the cost is the same whichever non-plist formats the two
                               sides come from;
    * `plist_from_side`      : with a plist on the FIRST side the cost is that of the plain documents with
                               from-paths under a leading 0 (the solver's answers are looked up by path);
    * `plist_to_side_replace_witness` : the recorded finding D10 — a non-plist document against the same data
                               loaded from a plist is a wholesale Replace of positive cost (so the full property
                               is FALSE of the current code; see known_findings.json).
-/
import GtModel.Model.Formats
import GtModel.Props.C02

namespace GtModel.C09
open GtModel GtModel.Formats

/-- the ordered pairs of formats for which the code can recognise equal data -/
def supported (a b : Fmt) : Bool := !(a != .plist && b == .plist)

theorem load_plain {f : Fmt} (h : f ≠ .plist) (o : Opts) (d : Doc) : load o f d = .plain (build o d) := by
  cases f <;> first | rfl | exact absurd rfl h

theorem supported_iff (a b : Fmt) : supported a b = true ↔ a = .plist ∨ b ≠ .plist := by
  cases a <;> cases b <;> decide

/-- the table statement: every pair of formats except (non-plist → plist) -/
theorem same_data_zero_all (o : Opts) (orc : Oracle) (d : Doc) :
    ∀ a b : Fmt, (a = .plist ∨ b ≠ .plist) → cost o orc (load o a d) (load o b d) = 0 := by
  intro a b h
  have hz : ∀ fp tp, (edits o orc fp tp (build o d) (build o d)).cost = 0 :=
    fun fp tp => C02.eq_zero_cost o orc fp tp _ _ (Tree.eq_refl _)
  by_cases hb : b = .plist
  · have ha : a = .plist := h.resolve_right (not_not_intro hb)
    subst ha hb
    exact hz [0] [0]
  · rw [load_plain hb]
    by_cases ha : a = .plist
    · subst ha; exact hz [0] []
    · rw [load_plain ha]; exact hz [] []

/-- same data, any supported ordered pair of formats: total cost 0 -/
theorem same_data_zero (o : Opts) (orc : Oracle) (d : Doc) (a b : Fmt) (h : supported a b = true) :
    cost o orc (load o a d) (load o b d) = 0 :=
  same_data_zero_all o orc d a b ((supported_iff a b).1 h)

/-- diff against a third document: the three non-plist loaders are interchangeable on both sides -/
theorem third_doc_independent (o : Opts) (orc : Oracle) (d t : Doc) (a a' b b' : Fmt)
    (ha : a ≠ .plist) (ha' : a' ≠ .plist) (hb : b ≠ .plist) (hb' : b' ≠ .plist) :
    cost o orc (load o a d) (load o b t) = cost o orc (load o a' d) (load o b' t) := by
  rw [load_plain ha, load_plain ha', load_plain hb, load_plain hb']

/-- a plist on the FROM side: `PLISTNode.edits(node)` is `self.root.edits(node)`, i.e. the plain documents' edit
    with the from-paths shifted by the wrapper (the solver's recorded answers are looked up by node path) -/
theorem plist_from_side (o : Opts) (orc : Oracle) (d t : Doc) (b : Fmt) (hb : b ≠ .plist) :
    cost o orc (load o .plist d) (load o b t) = (edits o orc [0] [] (build o d) (build o t)).cost := by
  rw [load_plain hb]; rfl

/-- D10 (recorded finding): with a plist on the TO side only, equal data is a Replace of positive cost -/
theorem plist_to_side_replace_witness (o : Opts) (orc : Oracle) (d : Doc) (a : Fmt) (ha : a ≠ .plist) :
    cost o orc (load o a d) (load o .plist d) = (build o d).size + 1 ∧
    cost o orc (load o a d) (load o .plist d) > 0 := by
  rw [load_plain ha]
  simp [load, cost]

example : supported .yaml .json = true ∧ supported .plist .json5 = true ∧ supported .json .plist = false := by decide

-- What the theorems above rest on: in the model the three non-plist loaders are THE SAME FUNCTION (`load`
-- ignores the format; no parser is a parameter — a datum is one `Doc`), so `third_doc_independent` is `rfl` for concrete formats,
-- `same_data_zero` is `C02.eq_zero_cost` + reflexivity of `Tree.eq`, and `plist_from_side` /
-- `plist_to_side_replace_witness` restate the defining equations of `Formats.cost` (the `Replace` cost of D10 is
-- written into the definition, not derived from a model of the `edits` dispatch on a `PLISTNode`).
example (o : Opts) (d : Doc) : load o .json d = load o .json5 d ∧ load o .json d = load o .yaml d := ⟨rfl, rfl⟩
example (o : Opts) (orc : Oracle) (d t : Doc) :
    cost o orc (load o .json d) (load o .yaml t) = cost o orc (load o .yaml d) (load o .json5 t) := rfl
example (o : Opts) (orc : Oracle) (a b : Tree) : cost o orc (.plain a) (.plist b) = Nat.max a.size b.size + 1 := rfl
example (o : Opts) (orc : Oracle) (d t : Doc) :
    cost o orc (load o .plist d) (load o .json t) = (edits o orc [0] [] (build o d) (build o t)).cost := rfl

end GtModel.C09
