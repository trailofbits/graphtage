/-
  C03 for XML / HTML elements: "The reported cost equals the sum of its parts, in every view."

  Model: `GtModel.Xml.xmlEdits` (Model/XmlEdits.lean) = the fully refined script of `XMLElement.edits`, validated
  against the real engine by the correspondence stream `scriptxml` (exact script comparison).

  (a) `xml_reported_eq_sum`: at EVERY nesting level, an XMLElementEdit reports the sum of its parts (tag edit,
      attribute edit, optional text edit, child-list edit), the child-list edits (FixedLengthSequenceEdit /
      EditDistance) report the sum of their sub-edits (for EditDistance the reported cost is the lower-right matrix
      cell: `solve_total_eq_sum`), and the embedded L2 scripts (tag / text `StringEdit`s, the attribute
      `MultiSetEdit` / `FixedKeyDictNodeEdit` with its key/value pair edits) satisfy L2's `Script.CostOK`
      (`C03.reported_eq_sum`).
  (b) `xml_three_views_agree`: the flat edit list of `get_all_edit_contexts` (compound edits exploded, zero-cost
      edits skipped), the root edit's own cost and `edited_cost()` of the annotated root are the same number.

  No hypotheses on the SCRIPT: all options, all oracle answers (assignment-solver matchings of the attribute
  MultiSetEdits), all elements — the attribute mapping may be ANY L2 tree.  Caveat (as for L2, Props/C03.lean): the
  cost of an XMLElementEdit / fixed child-list script is a sum BY DEFINITION (`xCompound`); only `kidsEd` and the
  embedded `ed` / `str` scripts carry an independent total, and there is NO operational (L3) model of
  `XMLElementEdit.bounds()` — the engine-side link `C03.engine_reported_eq_sum_docs` (needs `OrcFull`) covers
  JSON-family documents only; for XML the reported cost is tied to the sum by the `scriptxml` stream's monitor.
-/
import GtModel.Proofs.XmlCost

namespace GtModel.C03
open GtModel GtModel.Xml

/-- every node of `xmlEdits …` reports the sum of its sub-edits, at every nesting level; embedded L2 scripts are
    `Script.CostOK` -/
theorem xml_reported_eq_sum (o : Opts) (orc : Oracle) (fp tp : List Nat) (f t : XTree) :
    (xmlEdits o orc fp tp f t).CostOK :=
  costOK_xmlEdits o orc f fp tp t

/-- C03(a), unfolded one level: an XMLElementEdit (the script of two unequal elements) reports the sum of its
    parts, and its parts are exactly: tag edit, attribute edit, the text edit when either side has text, and the
    edit of the child lists -/
theorem xml_reported_eq_sum_root (o : Opts) (orc : Oracle) (fp tp : List Nat) (f t : XTree)
    (h : XTree.eq f t = false) :
    (xmlEdits o orc fp tp f t).cost =
      (strEdits f.tag t.tag).cost + (edits o orc (fp ++ [1]) (tp ++ [1]) f.attrib t.attrib).cost
        + (match textEdit f.text t.text with | some e => e.cost | none => 0)
        + (kidsScript o f.children t.children
            (kidsTbl o orc fp tp (kidsIx f.text) (kidsIx t.text) f.children t.children)).cost := by
  obtain ⟨ftag, fattr, ftext, fcs⟩ := f
  obtain ⟨ttag, tattr, ttext, tcs⟩ := t
  rw [xmlEdits_eq, h, if_neg Bool.false_ne_true, elemScript_cost]
  rfl

-- non-vacuity of `xml_reported_eq_sum_root`: `<a>x<b/></a>` and `<a/>` are unequal elements
example : XTree.eq (.mk [97] (.dict []) (some [120]) [.mk [98] (.dict []) none []]) (.mk [97] (.dict []) none []) = false := by
  simp [XTree.eq, eqText, strip, lstrip, isPySpace, Tree.eq, subKV]

/-- the whole comparison of two documents -/
theorem xml_reported_eq_sum_docs (o : Opts) (orc : Oracle) (f t : XDoc) : (diffXml o orc f t).CostOK :=
  xml_reported_eq_sum ..

/-- the flat list of `get_all_edit_contexts`, the root edit's cost and `edited_cost()` of the root are the same number -/
theorem xml_three_views_agree (o : Opts) (orc : Oracle) (fp tp : List Nat) (f t : XTree) :
    xflatSum (xmlEdits o orc fp tp f t) = (xmlEdits o orc fp tp f t).cost ∧
    xeditedCost (xmlEdits o orc fp tp f t) = (xmlEdits o orc fp tp f t).cost :=
  ⟨xflatSum_eq_cost _ (xml_reported_eq_sum o orc fp tp f t), rfl⟩

/-- `<a k="1"> x<b/></a>` → `<a k="2">x<c/><d/></a>` (attribute value, leading white space of the text and the children
    change); the script has the shape `xmlEdits` produces -/
def xsample : XScript := .mk .elem .none .none 7
  [.emb (.mk .match_ (.at 0) (.at 0) 0 []),
   .emb (.mk .ms (.at 1) (.at 1) 1
     [.mk .kvp (.at 0) (.at 0) 1 [.mk .match_ (.at 0) (.at 0) 0 [], .mk .match_ (.at 1) (.at 1) 1 []]]),
   .emb (.mk .str (.at 2) (.at 2) 1 [.mk .remove (.at 0) .none 1 [], .mk .match_ (.at 1) (.at 0) 0 []]),
   .mk .ed (.at 3) (.at 3) 5
     [.mk .elem (.at 0) (.at 0) 1
        [.emb (.mk .match_ (.at 0) (.at 0) 1 []), .emb (.mk .match_ (.at 1) (.at 1) 0 []), .mk .match_ (.at 2) (.at 2) 0 []],
      .mk .insert (.at 1) .none 4 []]]

example : xsample.CostOK := by
  simp [xsample, XScript.CostOK, XCostOKL, XKind.hasSubs, xsum, Script.CostOK, CostOKL, Kind.hasSubs, sumCosts]
example : xflatSum xsample = 7 := by
  simp [xsample, xflatSum, xflatCosts, xflatCostsL, XKind.isCompoundEdit, XKind.hasSubs, flatEdits, flatEditsL,
    Kind.isCompoundEdit]
/-- an XMLElementEdit whose reported cost is NOT the sum of its parts is rejected -/
example : ¬ (XScript.mk .elem .none .none 3 [.emb (mkMatch 1), .emb (mkMatch 0), xMatch 0]).CostOK := by
  simp [XScript.CostOK, XCostOKL, XKind.hasSubs, xsum, xMatch]
/-- … and so is one whose embedded attribute script is wrong inside -/
example : ¬ (XScript.mk .elem .none .none 1
    [.emb (mkMatch 0), .emb (.mk .ms .none .none 1 [mkRemove 0 1 1]), xMatch 0]).CostOK := by
  simp [XScript.CostOK, XCostOKL, XKind.hasSubs, xsum, xMatch, Script.CostOK, CostOKL, Kind.hasSubs, sumCosts]

end GtModel.C03
