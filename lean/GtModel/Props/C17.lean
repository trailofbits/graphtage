/-
  C17 — bound-driven search, ordering and separation are correct.
  Items are arbitrary finite trajectories (`ValidSt σ fs`: item `i` is a chain of strictly shrinking nested ranges
  ending in the point `fs[i]`), so every statement quantifies over all collections and all tightening schedules.
-/
import GtModel.Proofs.DistinctLoop
import GtModel.Proofs.SortLemmas
import GtModel.Proofs.SearchStep

namespace GtModel.C17
open GtModel GtModel.Bounded

/-- a concrete non-trivial collection satisfying the hypotheses used below (non-vacuity) -/
def exσ : St :=
  [⟨⟨.fin 0, .fin 6⟩, [⟨.fin 1, .fin 6⟩, ⟨.fin 2, .fin 2⟩], 0, 0⟩,
   ⟨⟨.fin 1, .fin 3⟩, [⟨.fin 1, .fin 2⟩, ⟨.fin 1, .fin 1⟩], 0, 0⟩,
   ⟨⟨.fin 2, .fin 2⟩, [], 0, 0⟩]

theorem exσ_valid : ValidSt exσ [2, 1, 2] := by
  refine .cons ?_ (.cons ?_ (.cons ?_ .nil)) <;>
    simp [Item.Valid, Item.traj, ValidL, StrictSub, Range.contains, Range.point, Bound.le, Bound.lt]

/-- `__lt__` terminates: `ltLoop` is a total function defined by well-founded recursion on the number of
tightenings still possible (no fuel); it only ever tightens, so that number does not grow. -/
theorem lt_terminates (σ : St) (i j : Nat) (idlt : Bool) :
    Reach σ (ltCmp σ i j idlt).2 ∧ total (ltCmp σ i j idlt).2 ≤ total σ := by
  rw [ltCmp_snd]
  exact ⟨ltLoop_reach σ i j, (ltLoop_reach σ i j).total_le⟩

/-- `a < b` answered `True` implies `final a ≤ final b`, answered `False` implies `final b ≤ final a`, for every
answer of the `id()` oracle; the items only advance along their trajectories (and stay valid). -/
theorem lt_consistent {σ : St} {fs : List Int} (hv : ValidSt σ fs) (i j : Nat) (idlt : Bool) {ni nj : Int}
    (hi : fs[i]? = some ni) (hj : fs[j]? = some nj) :
    Adv σ (ltCmp σ i j idlt).2 ∧ ValidSt (ltCmp σ i j idlt).2 fs ∧
    ((ltCmp σ i j idlt).1 = true → ni ≤ nj) ∧ ((ltCmp σ i j idlt).1 = false → nj ≤ ni) := by
  obtain ⟨r, t, f⟩ := ltCmp_spec hv i j idlt hi hj
  exact ⟨r.adv, r.valid hv, t, f⟩

example : ValidSt exσ [2, 1, 2] ∧ ([2, 1, 2] : List Int)[0]? = some 2 ∧ ([2, 1, 2] : List Int)[1]? = some 1 :=
  ⟨exσ_valid, rfl, rfl⟩

/-- `a <= b` is exactly `final a ≤ final b`. -/
theorem le_correct {σ : St} {fs : List Int} (hv : ValidSt σ fs) (i j : Nat) (idlt : Bool) {ni nj : Int}
    (hi : fs[i]? = some ni) (hj : fs[j]? = some nj) :
    Adv σ (leCmp σ i j idlt).2 ∧ ((leCmp σ i j idlt).1 = true ↔ ni ≤ nj) := by
  obtain ⟨r, h⟩ := leCmp_spec hv i j idlt hi hj
  exact ⟨r.adv, h⟩

/-- `min_bounded` returns `None` exactly for the empty collection; otherwise an item whose final cost is minimal
among all items — for every `id()` oracle.  (Termination: `minLoop` is structural over the list, every comparator
call is total.) -/
theorem min_bounded_min {σ : St} {fs : List Int} (hv : ValidSt σ fs) (orc : Nat → Bool) :
    Adv σ (minBounded orc σ).2 ∧ ((minBounded orc σ).1 = none ↔ σ = []) ∧
    ∀ m, (minBounded orc σ).1 = some m → ∃ nm, fs[m]? = some nm ∧ ∀ (k : Nat) (nk : Int), fs[k]? = some nk → nm ≤ nk := by
  unfold minBounded
  have mem : ∀ k, k ∈ List.range σ.length ↔ k < fs.length := fun k => by rw [List.mem_range, hv.1]
  cases hks : List.range σ.length with
  | nil =>
    have : σ = [] := List.eq_nil_of_length_eq_zero (List.range_eq_nil.mp hks)
    exact ⟨Adv.refl σ, by simp [minLoop, this], fun m h => by simp [minLoop] at h⟩
  | cons k ks =>
    rw [hks] at mem
    obtain ⟨m, e, r, hm, hle⟩ := minLoop_some orc ks σ k hv ((mem k).mp (List.mem_cons_self ..))
      (fun k' h => (mem k').mp (List.mem_cons_of_mem _ h))
    have hne : σ ≠ [] := fun h => by rw [h] at hks; cases hks
    simp only [minLoop, e]
    refine ⟨r.adv, by simp [hne], ?_⟩
    rintro m' ⟨rfl⟩
    refine ⟨fs[m], List.getElem?_eq_getElem hm, fun k' nk hk' => ?_⟩
    exact (hle k' ((mem k').mpr (List.getElem?_eq_some_iff.mp hk').1)).le_of_get (List.getElem?_eq_getElem hm) hk'

/-- For every choice function (= every iteration order of intervaltree's sets): if `make_distinct` returns, every
pair of distinct items is either disjoint or both definitive (`sepB`), and items only advanced along their
trajectories.  The other possible outcomes are the documented `ValueError` (an item is still not finite after one
tightening) and `badChoice` (the given function is not an admissible iteration-order choice). -/
theorem make_distinct_post (ch : Choice) {σ : St} {fs : List Int} (hv : ValidSt σ fs) :
    match makeDistinct ch σ with
    | .ok σ' _ => Adv σ σ' ∧ ValidSt σ' fs ∧
        ∀ (i j : Nat) (a b : Item), i ≠ j → σ'[i]? = some a → σ'[j]? = some b → sepB a.cur b.cur = true
    | .valueError σ' => Adv σ σ'
    | .badChoice => True
    | .fuel => False
    | .hang => False
    | .unsupported => False := by
  have h := makeDistinct_spec ch hv
  cases hres : makeDistinct ch σ <;> rw [hres] at h
  · exact ⟨h.1.adv, h.1.valid hv, fun i j a b hij ha hb => h.2 i j hij a b ha hb⟩
  · exact h.adv
  · exact h
  · trivial
  · exact h
  · exact h

/-- `make_distinct` terminates on converging items whatever the iteration order: the fuel given to the main loop
(`total σ + |tree| + 1`) is never exhausted and the inner loop never spins. -/
theorem make_distinct_terminates (ch : Choice) {σ : St} {fs : List Int} (hv : ValidSt σ fs) :
    (match makeDistinct ch σ with | .fuel => False | .hang => False | _ => True) := by
  have h := makeDistinct_spec ch hv
  cases hres : makeDistinct ch σ <;> rw [hres] at h
  · trivial
  · trivial
  · exact h
  · trivial
  · exact h
  · trivial

-- non-vacuity: with an admissible choice (the default `firstMax`) the `.ok` branch of `make_distinct_post` is
-- really taken on `exσ` (one round that tightens items 0 and 1 twice each, then the early `break` on a definitive
-- biggest interval): result ranges `[2,2], [1,1], [2,2]`.
example : (match makeDistinct (choiceOf []) exσ with
    | .ok σ' r => some (σ'.map (·.cur), r) | _ => none) =
    some ([⟨.fin 2, .fin 2⟩, ⟨.fin 1, .fin 1⟩, ⟨.fin 2, .fin 2⟩], 1) := by decide +kernel

-- the `badChoice => True` branch is real: a choice function that does not name a maximal-size interval is NOT
-- replaced by an admissible one, the run is abandoned and the theorem says nothing about it ("for every ADMISSIBLE
-- choice"; the driver turns `badChoice` into a stream error).
example : (match makeDistinct (fun _ _ _ => 2) exσ with | .badChoice => true | _ => false) = true := by decide +kernel

/-- `bounds.sort` with the heap treated as ANY comparison-based priority queue.
Hypothesis (the contract a heap must meet; discharged dynamically for every recorded run, and the statement the C16
heap theorems have to provide for a comparator that is merely *consistent* with a total preorder): the transcript
`evs` of comparator calls and pops is accepted by `sortReplay`, i.e. every recorded comparison result is what
`BoundedComparator.__lt__` answers in the current state, and every popped item is connected to every other item still
in the heap by a chain of performed comparisons (`justified`).
Conclusion: the output is non-decreasing in final cost and, together with what is still in the heap, a permutation of
the input; in particular a full drain is a sorted permutation.  Only the content of `lt_consistent` is used (`ltCmp_le`) — the comparator is
neither transitive nor antisymmetric on ties.
FULL STATEMENT (not proved here, needs the C16 heap model): for the Fibonacci heap of `graphtage.fibonacci`, the
transcript produced by `push`-all / `pop`-until-empty is always accepted by `sortReplay`, is finite, and empties
the heap. -/
theorem sort_sorted_partial {σ : St} {fs : List Int} (hv : ValidSt σ fs) (evs : List SortEv) (s' : SortSt)
    (h : sortReplay evs (sortInit σ) = .ok s') :
    Adv σ s'.σ ∧ s'.out.Pairwise (LE fs) ∧ (s'.out ++ s'.remaining).Perm (List.range σ.length) ∧
    (s'.remaining = [] → s'.out.Perm (List.range σ.length)) := by
  obtain ⟨r, inv⟩ := sortReplay_spec fs evs (sortInit σ) s' (sortInit_inv hv) h
  have hp := inv.perm
  rw [← hv.1] at hp
  refine ⟨r.adv, inv.sorted, hp, ?_⟩
  intro he; rw [he] at hp; simpa using hp

def pops : List SortEv → Nat
  | [] => 0
  | .pop _ :: evs => pops evs + 1
  | .cmp .. :: evs => pops evs

theorem sortReplay_pops : ∀ (evs : List SortEv) (s s' : SortSt), sortReplay evs s = .ok s' →
    s'.out.length = s.out.length + pops evs
  | [], s, s', h => by cases h; rfl
  | .cmp i j idlt res :: evs, s, s', h => by
    have := sortReplay_pops evs _ s' (sortReplay_cmp h).2.2.2
    exact this
  | .pop m :: evs, s, s', h => by
    have := sortReplay_pops evs _ s' (sortReplay_pop h).2.2
    simp only [List.length_append, List.length_cons, List.length_nil] at this
    simp only [pops]; omega

/-- TERMINATION of `bounds.sort`, as far as it does not depend on the heap's own loops (same heap contract as
`sort_sorted_partial`: the transcript of comparator calls and pops is accepted by `sortReplay`).
  (1) every comparator call is a terminating computation (`lt_terminates`: `ltLoop` is total, no fuel) and the calls of
      the WHOLE sort together perform at most `total σ` successful tightenings: the potential never grows;
  (2) the drain loop `while heap: yield heap.pop()` runs exactly `pops evs` times, never more than `n` times, and after
      `n` pops the heap is empty — then the output is the sorted permutation of `sort_sorted_partial`.
NOT proved (part of the assumed heap contract): that the Fibonacci heap performs finitely many comparator calls per
`push` / `pop` (C16's heap functions are total, but they take a pure comparator and are not connected to this model). -/
theorem sort_terminates_partial {σ : St} {fs : List Int} (hv : ValidSt σ fs) (evs : List SortEv) (s' : SortSt)
    (h : sortReplay evs (sortInit σ) = .ok s') :
    total s'.σ ≤ total σ ∧
    s'.out.length = pops evs ∧ pops evs + s'.remaining.length = σ.length ∧
    (pops evs = σ.length → s'.remaining = [] ∧ s'.out.Perm (List.range σ.length) ∧ s'.out.Pairwise (LE fs)) := by
  obtain ⟨r, inv⟩ := sortReplay_spec fs evs (sortInit σ) s' (sortInit_inv hv) h
  have hp := sortReplay_pops evs _ s' h
  simp only [sortInit, List.length_nil, Nat.zero_add] at hp
  have hl := inv.perm.length_eq
  rw [← hv.1] at hl
  simp only [List.length_append, List.length_range] at hl
  have hr : total s'.σ ≤ total σ := r.total_le
  refine ⟨hr, hp, by omega, fun hn => ?_⟩
  have he : s'.remaining = [] := List.eq_nil_of_length_eq_zero (by omega)
  exact ⟨he, (sort_sorted_partial hv evs s' h).2.2.2 he, inv.sorted⟩

-- non-vacuity: on `exσ` (total trajectory length 4) the recorded full drain has 3 pops = 3 items
example : pops [.cmp 1 0 false true, .cmp 2 1 false false, .pop 1, .cmp 0 2 true true, .pop 0, .pop 2] = exσ.length := by
  decide

-- non-vacuity: a transcript with real tightening inside the comparisons (item 1 is tightened twice by the first
-- comparison) and a full drain is accepted by `sortReplay` on `exσ`; output `[1, 0, 2]` (final costs 1, 2, 2).
example : (match sortReplay [.cmp 1 0 false true, .cmp 2 1 false false, .pop 1, .cmp 0 2 true true, .pop 0, .pop 2]
      (sortInit exσ) with | .ok s => some (s.out, s.remaining) | .error _ => none) = some ([1, 0, 2], []) := by
  decide +kernel

-- how weak the hypothesis is on its own: the EMPTY transcript is accepted for every collection, and then the
-- theorem only says `[]` is sorted.  That the heap performs any comparison, pops anything, or ever empties
-- (`remaining = []`) is part of the assumed contract, not of the conclusion.
example (σ : St) : sortReplay [] (sortInit σ) = .ok (sortInit σ) := rfl

-- a pop that is not certified by performed comparisons is rejected, i.e. "every pop is a minimum w.r.t. the
-- comparisons made" is ASSUMED by `sort_sorted_partial` (what is proved is the rest: `lt_consistent` and transitivity of `LE`).
example : (match sortReplay [.pop 0] (sortInit exσ) with | .error .unjustified => true | _ => false) = true := by
  decide +kernel

/-- `tighten_bounds()` terminates from EVERY state of the search (any heaps, any stale keys, any oracle for the
heap's choice among equal keys): the fuel `measure + 1` given to its `while True` loop is never exhausted, the
measure (tightenings still possible + unprocessed input) never grows, and an answer `True` means it strictly
decreased. -/
theorem search_tighten_terminates (sel : Sel) (s : SS) :
    ∃ b s', tightenBounds sel s = some (b, s') ∧ s'.measure ≤ s.measure ∧ (b = true → s'.measure < s.measure) :=
  tightenBounds_spec sel s

/-- `search()` terminates: the fuel `measure + 2` of `searchLoop` (one more than `searchLoop_spec` needs) is never
exhausted, and the measure does not grow. -/
theorem search_terminates (sel : Sel) (s : SS) : ∃ s', search sel s = some s' ∧ s'.measure ≤ s.measure := by
  obtain ⟨s', e, l⟩ := searchLoop_spec sel (s.measure + 2) s (by omega)
  exact ⟨s', e, l⟩

/-- the default `initial_bounds` (`Range(-∞, ∞)`): all graphtage ever passes -/
def defaultIb : Range := ⟨.negInf, .posInf⟩

/-- **`search()` returns an item of minimum final cost** — for every collection of converging items (every
tightening schedule) and EVERY heap oracle `sel` (the heap's choice among nodes of equal key; an inadmissible answer
is replaced by the first minimal node), with the default `initial_bounds`.  `None` exactly for the empty collection.
(`search_terminates` gives the existence of the final state `s'`.) -/
theorem search_returns_min {σ : St} {fs : List Int} (hv : ValidSt σ fs) (sel : Sel) {s' : SS}
    (h : search sel (SS.init σ defaultIb) = some s') :
    ValidSt s'.σ fs ∧ (σ = [] → bestMatch s' = none) ∧
    (σ ≠ [] → ∃ m nm, bestMatch s' = some m ∧ fs[m]? = some nm ∧ ∀ (k : Nat) (nk : Int), fs[k]? = some nk → nm ≤ nk) := by
  obtain ⟨inv, hun, hu⟩ := search_result hv sel h
  refine ⟨inv.valid, fun h0 => bestMatch_none_of_nil inv (hv.nil_iff.1 h0), fun hne => ?_⟩
  obtain ⟨m, nm, _, hb, hn, ⟨n2, hn2, hmin⟩, _, _⟩ := final_facts inv hun hu (mt hv.nil_iff.2 hne)
  rw [hn] at hn2; cases hn2
  exact ⟨m.item, nm, hb, hn, hmin⟩

example : ValidSt exσ [2, 1, 2] ∧ exσ ≠ [] := ⟨exσ_valid, by simp [exσ]⟩

-- non-vacuity of `h : search … = some s'` on `exσ`, with the constant oracle `none` (always inadmissible, so
-- every answer is replaced by the first minimal node and `bad` is set): item 1 (final cost 1) wins, `bounds() = [1,1]`.
example : (search (fun _ => none) (SS.init exσ defaultIb)).map (fun s => (bestMatch s, boundsOf s, goalTest s, s.bad)) =
    some (some 1, Range.point 1, true, true) := by decide +kernel

/-- **when `search()` ends, `bounds()` is the single value = the minimum final cost**, and `goal_test()` holds. -/
theorem search_bounds_point {σ : St} {fs : List Int} (hv : ValidSt σ fs) (sel : Sel) {s' : SS}
    (h : search sel (SS.init σ defaultIb) = some s') (hne : σ ≠ []) :
    ∃ nm, (∃ m : Nat, fs[m]? = some nm) ∧ (∀ (k : Nat) (nk : Int), fs[k]? = some nk → nm ≤ nk) ∧
      boundsOf s' = Range.point nm ∧ goalTest s' = true := by
  obtain ⟨inv, hun, hu⟩ := search_result hv sel h
  obtain ⟨m, nm, _, _, hn, ⟨n2, hn2, hmin⟩, hb, hg⟩ := final_facts inv hun hu (mt hv.nil_iff.2 hne)
  rw [hn] at hn2; cases hn2
  exact ⟨nm, ⟨m.item, hn⟩, hmin, hb, hg⟩

/-- **`bounds()` is sound at every step**: in every state `s` reached from the initial state by calls of
`tighten_bounds()` (in particular in every state `search()` passes through),
(1) `bounds()` contains the minimum final cost, and (2) the next call never widens it; hence (3) it lies inside
every earlier value.  Every collection, every schedule, every heap oracle; default `initial_bounds`. -/
theorem search_bounds_sound {σ : St} {fs : List Int} (hv : ValidSt σ fs) (sel : Sel) {s : SS}
    (hr : SReach sel (SS.init σ defaultIb) s) :
    (∀ (j : Nat) (n : Int), fs[j]? = some n → (∀ (k : Nat) (nk : Int), fs[k]? = some nk → n ≤ nk) →
        (boundsOf s).contains (Range.point n) = true) ∧
    (∀ (b : Bool) (s' : SS), tightenBounds sel s = some (b, s') → (boundsOf s).contains (boundsOf s') = true) ∧
    (boundsOf (SS.init σ defaultIb)).contains (boundsOf s) = true := by
  have inv0 : SInv fs (SS.init σ defaultIb) := SInv.init hv
  have inv := hr.inv inv0
  exact ⟨fun j n hj hmin => bounds_contains inv hj hmin, fun b s' ht => (tightenBounds_step sel inv ht).2.1, hr.mono inv0⟩

/-- the states `search()` goes through are of that kind: its final state is reached by `tighten_bounds()` calls -/
theorem search_reach (sel : Sel) (s s' : SS) (h : search sel s = some s') : SReach sel s s' :=
  searchLoop_reach sel _ s s' h

-- not visible in the statements above but proved inside `SInv` (`SCore.unsup`): on converging items with the
-- default `initial_bounds` the model never takes one of its `unsupported` shortcut branches (e.g. "an untightened item
-- refused to tighten", where Python would walk on through the heap) — in every state `tighten_bounds()` reaches.
example {σ : St} {fs : List Int} (hv : ValidSt σ fs) (sel : Sel) {s : SS}
    (hr : SReach sel (SS.init σ defaultIb) s) : s.unsupported = false :=
  (hr.inv (SInv.init hv)).unsup

/-! The restriction to the default `initial_bounds` is necessary: with an explicit `initial_bounds` that contains the
optimum the real code — and this model, see `corpus/bounded/ib_*.json` — loses optimal items and widens `bounds()`.
The three witnesses, evaluated on the model (kernel `decide`): -/

/-- item `[2,5] → [5,5]`, `initial_bounds = Range(0, 5)`: `search()` returns `None` -/
example : (search (fun _ => none)
    (SS.init [⟨⟨.fin 2, .fin 5⟩, [⟨.fin 5, .fin 5⟩], 0, 0⟩] ⟨.fin 0, .fin 5⟩)).map bestMatch = some none := by decide

/-- items `[4,5] → [5,5]` and `[6,6]`, `initial_bounds = Range(1, 5)`: the item of cost 6 wins, `bounds() = [6,6]` -/
example : (search (fun _ => none)
    (SS.init [⟨⟨.fin 4, .fin 5⟩, [⟨.fin 5, .fin 5⟩], 0, 0⟩, ⟨⟨.fin 6, .fin 6⟩, [], 0, 0⟩] ⟨.fin 1, .fin 5⟩)).map
      (fun s => (bestMatch s, boundsOf s)) = some (some 1, ⟨.fin 6, .fin 6⟩) := by decide

/-- item `[1,6] → [1,5] → [1,4] → [1,3] → [1,1]`, `initial_bounds = Range(0, 2)`: the first call moves `bounds()`
from `[0,2]` to `[1,3]` -/
example : (tightenBounds (fun _ => none)
    (SS.init [⟨⟨.fin 1, .fin 6⟩, [⟨.fin 1, .fin 5⟩, ⟨.fin 1, .fin 4⟩, ⟨.fin 1, .fin 3⟩, ⟨.fin 1, .fin 1⟩], 0, 0⟩]
      ⟨.fin 0, .fin 2⟩)).map (fun p => boundsOf p.2) = some ⟨.fin 1, .fin 3⟩ := by decide

end GtModel.C17
