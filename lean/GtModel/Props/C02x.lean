/-
  C02 for XML / HTML elements: "No edits are reported exactly when the two documents are equal.  Whenever they
  differ anywhere, at least one edit of positive cost is reported."

  Statements are about the model `GtModel.Xml.xmlEdits` (Model/XmlEdits.lean; validated against the real engine by
  stream `scriptxml`), for ALL options, oracles (assignment-solver answers), node paths and elements.

  What "equal" means for graphtage (`XMLElement.__eq__` = `XTree.eq`): same tag, equal attribute mappings, same text
  after `.strip()` with absent ≡ empty, pairwise equal children in order.  Two facts of the code are mirrored, not
  repaired:
   * D23 (genuine C02 defect, `xml_tail_ignored`): `xml.build_tree` never reads ElementTree's `.tail`, so text that
     follows a child element (`<p>one <b>two</b> three</p>`) is not part of the tree at all: two documents that differ
     only there are reported as identical (cost 0, exit status 0).  The strongest true statement is
     `xml_zero_cost_iff_dataEq`: cost 0 ⇔ equal as data IGNORING the tails.
   * text white space: `==` ignores surrounding white space of the text, but the text edit inside an XMLElementEdit
     (built only for elements that are NOT `==`) compares the texts exactly (`xml_text_whitespace_charged`).  This does
     not affect "cost 0 ⇔ equal": equal elements short-circuit to `Match(…, 0)` at every level.
-/
import GtModel.Proofs.XmlAtom
import GtModel.Proofs.XmlZero

namespace GtModel.C02
open GtModel GtModel.Xml

/-- (1) The fully refined script of `from.edits(to)` on two elements has total cost 0 exactly when they compare
    equal, for elements whose attribute mappings have distinct names (`XTree.WF`; every parsed element is such,
    see `xml_build_WF`). -/
theorem xml_zero_cost_iff_eq (o : Opts) (orc : Oracle) (fp tp : List Nat) (f t : XTree)
    (hf : f.WF = true) (ht : t.WF = true) :
    (xmlEdits o orc fp tp f t).cost = 0 ↔ XTree.eq f t = true :=
  ⟨xml_cost_zero_imp_eq o orc f fp tp t hf ht, xml_eq_imp_cost_zero o orc fp tp f t⟩

/-- the direction that needs no hypothesis: `==` elements cost 0 (the `Match(self, node, 0)` short-circuit), whatever
    white space surrounds their texts -/
theorem xml_eq_zero_cost (o : Opts) (orc : Oracle) (fp tp : List Nat) (f t : XTree) (h : XTree.eq f t = true) :
    (xmlEdits o orc fp tp f t).cost = 0 := xml_eq_imp_cost_zero o orc fp tp f t h

/-- `XMLElement.__eq__` is symmetric (its definition swaps the operands at every level) -/
theorem xml_eq_symm (f t : XTree) (hf : f.WF = true) (ht : t.WF = true) : XTree.eq f t = XTree.eq t f :=
  xtreeEq_symm f t hf ht

/-- every document whose elements have distinct attribute names builds a well-formed tree, for every option set -/
theorem xml_build_WF (o : Opts) (d : XDoc) (h : d.wf = true) : (xbuild o d).WF = true := xbuild_WF o d h

/-- (2) node equality of the built elements IS `XDoc.dataEq` (tag, attributes as a finite map, text modulo
    surrounding white space with absent ≡ empty, children in order; tails ignored), for every option set
    (`DictNode` or `FixedKeyDictNode` attributes) -/
theorem xml_eq_iff_dataEq (o : Opts) (a b : XDoc) (ha : a.wf = true) (hb : b.wf = true) :
    XTree.eq (xbuild o a) (xbuild o b) = XDoc.dataEq a b := xeq_iff_dataEq o a b ha hb

/-- (2) C02 on XML documents, the strongest true form: the whole comparison reports total cost 0 exactly when the
    two documents are equal as data ignoring tails — for all options and all assignment-solver answers -/
theorem xml_zero_cost_iff_dataEq (o : Opts) (orc : Oracle) (a b : XDoc) (ha : a.wf = true) (hb : b.wf = true) :
    (diffXml o orc a b).cost = 0 ↔ XDoc.dataEq a b = true := by
  unfold diffXml
  rw [xml_zero_cost_iff_eq o orc [] [] _ _ (xbuild_WF o a ha) (xbuild_WF o b hb), xeq_iff_dataEq o a b ha hb]

/-- every XML script of positive cost contains a non-compound edit (match / replace / remove / insert, possibly
    inside the embedded tag / attribute / text script) of positive cost — no well-formedness needed -/
theorem xml_pos_atom_of_pos_cost (o : Opts) (orc : Oracle) (fp tp : List Nat) (f t : XTree)
    (h : 0 < (xmlEdits o orc fp tp f t).cost) : XPosAtom (xmlEdits o orc fp tp f t) :=
  xposAtom_of_costOK _ (costOK_xmlEdits o orc f fp tp t) h

/-- (3) "Whenever they differ anywhere, at least one edit of positive cost is reported" (for the data graphtage
    keeps: see D23 for the tails) -/
theorem xml_positive_edit_exists (o : Opts) (orc : Oracle) (a b : XDoc)
    (ha : a.wf = true) (hb : b.wf = true) (hne : XDoc.dataEq a b = false) : XPosAtom (diffXml o orc a b) := by
  apply xml_pos_atom_of_pos_cost
  apply Nat.pos_of_ne_zero
  intro h0
  have := (xml_zero_cost_iff_dataEq o orc a b ha hb).1 h0
  rw [hne] at this; exact Bool.false_ne_true this

/-- (4) exit status (1 iff the total cost is positive, as in `C02.exitStatus`) -/
def xexitStatus (s : XScript) : Nat := if s.cost = 0 then 0 else 1

theorem xml_exit_status_iff (o : Opts) (orc : Oracle) (a b : XDoc) (ha : a.wf = true) (hb : b.wf = true) :
    (xexitStatus (diffXml o orc a b) = 0 ↔ XDoc.dataEq a b = true) ∧
    (xexitStatus (diffXml o orc a b) = 1 → XPosAtom (diffXml o orc a b)) := by
  unfold xexitStatus
  constructor
  · rw [← xml_zero_cost_iff_dataEq o orc a b ha hb]
    split <;> simp_all
  · intro h
    apply xml_pos_atom_of_pos_cost
    split at h
    · simp at h
    · unfold diffXml at *; omega

/-- all `tail` texts of a document, in document order -/
def _root_.GtModel.Xml.XDoc.tails : XDoc → List (Option Str)
  | .mk _ _ _ tl cs => tl :: tailsL cs
where
  tailsL : List XDoc → List (Option Str)
    | [] => []
    | c :: cs => GtModel.Xml.XDoc.tails c ++ tailsL cs

/-- `<p>one <b>two</b> three</p>` and `<p>one <b>two</b> FOUR</p>` -/
def d23From : XDoc := .mk [112] [] (some [111, 110, 101, 32]) none
  [.mk [98] [] (some [116, 119, 111]) (some [32, 116, 104, 114, 101, 101]) []]
def d23To : XDoc := .mk [112] [] (some [111, 110, 101, 32]) none
  [.mk [98] [] (some [116, 119, 111]) (some [32, 70, 79, 85, 82]) []]

/-- D23 witness: two well-formed documents whose text content differs (` three` vs ` FOUR` after the `<b>` element)
    are reported as identical — total cost 0, exit status 0 — for all options and oracles -/
theorem xml_tail_ignored (o : Opts) (orc : Oracle) :
    d23From.wf = true ∧ d23To.wf = true ∧ d23From.tails ≠ d23To.tails ∧
    (diffXml o orc d23From d23To).cost = 0 ∧ xexitStatus (diffXml o orc d23From d23To) = 0 := by
  have hw1 : d23From.wf = true := by decide
  have hw2 : d23To.wf = true := by decide
  have hd : XDoc.dataEq d23From d23To = true := by
    simp [d23From, d23To, XDoc.dataEq, xdataEqL, attrDoc, Doc.dataEq, keysSub, agreeKV]
  have hc := (xml_zero_cost_iff_dataEq o orc _ _ hw1 hw2).2 hd
  exact ⟨hw1, hw2, by decide, hc, by simp [xexitStatus, hc]⟩

/-- `str.strip()` on code points -/
example : strip [32, 9, 120, 32, 121, 10, 12288] = [120, 32, 121] := by decide
example : strip [32, 10] = [] ∧ eqText none = eqText (some [32, 10]) := by decide
/-- U+200B (zero width space) and U+FEFF are not white space for Python -/
example : strip [8203, 120] = [8203, 120] ∧ strip [65279, 120] = [65279, 120] := by decide

/-- the texts ` x` and `x` are equal for `==` but the text edit of an XMLElementEdit (built when the elements differ
    for another reason) charges the white space: `StringEdit(" x" → "x")` costs 1; an absent text against a
    white-space-only text costs its length + 1 -/
theorem xml_text_whitespace_charged :
    eqText (some [32, 120]) = eqText (some [120]) ∧
    (textEdit (some [32, 120]) (some [120])).map Script.cost = some 1 ∧
    eqText none = eqText (some [32, 32]) ∧ (textEdit none (some [32, 32])).map Script.cost = some 3 := by
  decide +kernel

/-- the hypotheses hold for concrete nested elements — an equal pair up to attribute order and text white space, and
    an unequal pair; by the theorem the first costs 0 and the second does not -/
example :
    let f : XDoc := .mk [97] [([107], [49]), ([108], [50])] (some [32, 120]) none [.mk [98] [] none (some [116]) []]
    let t : XDoc := .mk [97] [([108], [50]), ([107], [49])] (some [120, 10]) none [.mk [98] [] (some []) none []]
    let u : XDoc := .mk [97] [([108], [50]), ([107], [50])] (some [120, 10]) none [.mk [98] [] none none []]
    f.wf = true ∧ t.wf = true ∧ u.wf = true ∧ f.dataEq t = true ∧ f.dataEq u = false ∧
      (diffXml {} [] f t).cost = 0 ∧ (diffXml {} [] f u).cost ≠ 0 := by
  intro f t u
  have hf : f.wf = true := by decide
  have ht : t.wf = true := by decide
  have hu : u.wf = true := by decide
  have e1 : f.dataEq t = true := by
    simp [f, t, XDoc.dataEq, xdataEqL, attrDoc, Doc.dataEq, keysSub, agreeKV, agree1, Scalar.eq]; decide
  have e2 : f.dataEq u = false := by
    simp [f, u, XDoc.dataEq, xdataEqL, attrDoc, Doc.dataEq, keysSub, agreeKV, agree1, Scalar.eq]
  refine ⟨hf, ht, hu, e1, e2, (xml_zero_cost_iff_dataEq _ _ f t hf ht).2 e1, ?_⟩
  intro h
  have := (xml_zero_cost_iff_dataEq _ _ f u hf hu).1 h
  rw [e2] at this; exact Bool.false_ne_true this

end GtModel.C02
