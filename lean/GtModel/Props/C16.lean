/-
  C16 — "The priority queue always yields a minimum", on the L4 model of graphtage.fibonacci / utils.smallest|largest.

  For ALL operation sequences (induction over `Reach` / `ReachL`): the invariant `Inv` holds in every reachable state, no
  operation fails with IndexError / a corrupt structure, the reported size is the number of live items, `peek`
  shows and `pop` removes exactly one item of minimum key (maximum for the `MaxFibonacciHeap` comparator).
  `InvS`, `OpPre`, `liveAfter`, `enumFrom` and what one operation does (`step_spec`) are at the end of `Proofs/HeapOps`.
-/
import GtModel.Proofs.HeapOps

namespace GtModel.C16
open GtModel.Heap
variable {K : Type}

/-- (item, key) of every node; no node of a reachable heap carries `deleted` -/
def live (h : Heap K) : List (Nat × K) := (items h.roots).map (fun i => (i.1, i.2.1))

/-- states reachable from the empty heap by public operations that the model accepts
    (`decrease_key` / `remove` of a node that is not in the heap is outside the documented precondition and rejected) -/
inductive Reach (cmp : Cmp K) : St K → Prop
  | init : Reach cmp St.init
  | step {s s' : St K} {op : Op K} {r : Ret} : Reach cmp s → step cmp s op = (some s', r) → Reach cmp s'

/-- `s` is reached by accepted operations whose history defines the live identities `L` -/
inductive ReachL (cmp : Cmp K) : St K → Multiset Nat → Prop
  | init : ReachL cmp St.init 0
  | step {s s' : St K} {L : Multiset Nat} {op : Op K} {r : Ret} :
      ReachL cmp s L → step cmp s op = (some s', r) → ReachL cmp s' (liveAfter L op r)

theorem inv_init (cmp : Cmp K) : InvS cmp (St.init : St K) :=
  ⟨inv_empty cmp, fun _ h => nomatch h⟩

/-- every operation preserves the invariant, and the only way the model refuses an operation is a violated
    documented precondition (in particular: never `IndexError` from `_consolidate`) -/
theorem inv_step {cmp : Cmp K} (T : Total cmp) (s : St K) (hI : InvS cmp s) (op : Op K) :
    (∀ s' r, step cmp s op = (some s', r) → InvS cmp s') ∧ (OpPre s op → ∃ s' r, step cmp s op = (some s', r)) :=
  ⟨fun s' r hs => ((step_spec T s hI op).2 s' r hs).1, (step_spec T s hI op).1⟩

/-- the invariant holds after every sequence of operations -/
theorem reachable_inv {cmp : Cmp K} (T : Total cmp) {s : St K} (hr : Reach cmp s) : InvS cmp s := by
  induction hr with
  | init => exact inv_init cmp
  | step _ hs ih => exact (inv_step T _ ih _).1 _ _ hs

/-- for reachable heaps `_consolidate`'s degree array never overflows and the structure is never corrupt:
    an operation whose documented precondition holds is always executed by the model -/
theorem reachable_no_index_error {cmp : Cmp K} (T : Total cmp) {s : St K} (hr : Reach cmp s) (op : Op K) (hpre : OpPre s op) :
    ∃ s' r, step cmp s op = (some s', r) :=
  (inv_step T s (reachable_inv T hr) op).2 hpre

/-- `len(heap)` is the number of nodes of the model's forest: the field `Inv.size` re-read, since `live` is defined
    from the forest.  With "live" defined from the history of operations the statement is `size_eq_history`. -/
theorem size_eq_live {cmp : Cmp K} {h : Heap K} (hI : Inv cmp h) : h.n = (live h).length := by
  rw [live, List.length_map, items, List.length_map, hI.size]

theorem ReachL.reach {cmp : Cmp K} {s : St K} {L : Multiset Nat} (h : ReachL cmp s L) : Reach cmp s := by
  induction h with
  | init => exact .init
  | step _ hs ih => exact .step ih hs

theorem reach_has_history {cmp : Cmp K} {s : St K} (h : Reach cmp s) : ∃ L, ReachL cmp s L := by
  induction h with
  | init => exact ⟨0, .init⟩
  | step _ hs ih => obtain ⟨L, hL⟩ := ih; exact ⟨_, .step hL hs⟩

/-- the forest of a reachable heap holds exactly the identities that were pushed and not yet popped / removed /
    cleared -/
theorem forest_eq_history {cmp : Cmp K} (T : Total cmp) {s : St K} {L : Multiset Nat} (hr : ReachL cmp s L) :
    idsM s.h.roots = L := by
  induction hr with
  | init => rfl
  | step hprev hs ih => exact ih ▸ ((step_spec T _ (reachable_inv T hprev.reach) _).2 _ _ hs).2

/-- C16, "the reported size is the number of live items", live = pushed and not yet popped / removed / cleared
    according to the history: `len(heap)` (the counter `_n` the code maintains) is their number, after every sequence
    of operations -/
theorem size_eq_history {cmp : Cmp K} (T : Total cmp) {s : St K} {L : Multiset Nat} (hr : ReachL cmp s L) :
    s.h.n = Multiset.card L ∧ step cmp s .len = (some s, .size (Multiset.card L)) := by
  have hn : s.h.n = Multiset.card L := by
    rw [← forest_eq_history T hr, card_idsM, (reachable_inv T hr.reach).1.size]
  exact ⟨hn, by rw [← hn]; rfl⟩

/-- the items `live` lists are exactly those of the history -/
theorem live_eq_history {cmp : Cmp K} (T : Total cmp) {s : St K} {L : Multiset Nat} (hr : ReachL cmp s L) :
    (((live s.h).map (·.1) : List Nat) : Multiset Nat) = L := by
  rw [← forest_eq_history T hr, live, List.map_map]
  rfl

theorem live_perm_of_ms {a b : Heap K} {z : HNode K} (h : ms a.roots = {item z} + ms b.roots) :
    (live a).Perm ((z.id, z.key) :: live b) :=
  (items_perm_of_ms_cons h).map _

/-- `peek()` does not change a heap that satisfies the invariant and shows an item of minimum key -/
theorem peek_is_min {cmp : Cmp K} (T : Total cmp) {h h' : Heap K} {i : Nat} (hI : Inv cmp h) (hp : peek cmp h = .ok (h', i)) :
    h' = h ∧ ∃ k, (i, k) ∈ live h ∧ ∀ j ∈ live h, cmp.lt j.2 k = false := by
  by_cases hne : h.roots = []
  · rw [peek_empty h hI hne] at hp; cases hp
  · obtain ⟨z, hz, hp', -, hmin⟩ := peek_spec T h hI hne
    cases hp'.symm.trans hp
    exact ⟨rfl, z.key, List.mem_map.2 ⟨item z, mem_items_of_mem hz, rfl⟩,
      List.forall_mem_map.2 hmin⟩

/-- `pop()` returns an item of minimum key, removes exactly that item, and re-establishes the invariant -/
theorem pop_is_min {cmp : Cmp K} (T : Total cmp) {h h' : Heap K} {i : Nat} (hI : Inv cmp h) (hp : pop cmp h = .ok (h', i)) :
    Inv cmp h' ∧ ∃ k, (live h).Perm ((i, k) :: live h') ∧ ∀ j ∈ live h, cmp.lt j.2 k = false := by
  by_cases hne : h.roots = []
  · rw [pop_empty h hI hne] at hp; cases hp
  · obtain ⟨h'', z, hp', hI', hms, -, hmin⟩ := pop_spec T h hI hne
    cases hp'.symm.trans hp
    exact ⟨hI', z.key, live_perm_of_ms hms, List.forall_mem_map.2 hmin⟩

/-- on an empty heap `pop`/`peek` raise `AttributeError`; on a non-empty heap that satisfies the invariant they succeed -/
theorem pop_peek_defined {cmp : Cmp K} (T : Total cmp) {h : Heap K} (hI : Inv cmp h) :
    (h.n = 0 → pop cmp h = .error .attributeError ∧ peek cmp h = .error .attributeError) ∧
    (h.n ≠ 0 → (∃ h' i, pop cmp h = .ok (h', i)) ∧ ∃ i, peek cmp h = .ok (h, i)) := by
  refine ⟨fun h0 => ?_, fun h0 => ?_⟩
  · have he := hI.roots_eq_nil_iff.2 h0
    exact ⟨pop_empty h hI he, peek_empty h hI he⟩
  · have hne := mt hI.roots_eq_nil_iff.1 h0
    obtain ⟨h', z, hp, -⟩ := pop_spec T h hI hne
    obtain ⟨z', -, hp', -⟩ := peek_spec T h hI hne
    exact ⟨⟨h', z.id, hp⟩, ⟨z'.id, hp'⟩⟩

/-- `FibonacciHeap` with integer keys: the popped key is ≤ every live key -/
theorem pop_is_min_int {h h' : Heap Int} {i : Nat} (hI : Inv intMin h) (hp : pop intMin h = .ok (h', i)) :
    Inv intMin h' ∧ ∃ k, (live h).Perm ((i, k) :: live h') ∧ ∀ j ∈ live h, k ≤ j.2 := by
  simpa only [intMin_lt_false] using pop_is_min total_intMin hI hp

/-- `MaxFibonacciHeap` (keys wrapped in `ReversedComparator`): the popped key is ≥ every live key -/
theorem pop_is_max_int {h h' : Heap Int} {i : Nat} (hI : Inv intMax h) (hp : pop intMax h = .ok (h', i)) :
    Inv intMax h' ∧ ∃ k, (live h).Perm ((i, k) :: live h') ∧ ∀ j ∈ live h, j.2 ≤ k := by
  simpa only [intMax_lt_false] using pop_is_min total_intMax hI hp

theorem peek_is_min_int {h h' : Heap Int} {i : Nat} (hI : Inv intMin h) (hp : peek intMin h = .ok (h', i)) :
    h' = h ∧ ∃ k, (i, k) ∈ live h ∧ ∀ j ∈ live h, k ≤ j.2 := by
  simpa only [intMin_lt_false] using peek_is_min total_intMin hI hp

theorem peek_is_max_int {h h' : Heap Int} {i : Nat} (hI : Inv intMax h) (hp : peek intMax h = .ok (h', i)) :
    h' = h ∧ ∃ k, (i, k) ∈ live h ∧ ∀ j ∈ live h, j.2 ≤ k := by
  simpa only [intMax_lt_false] using peek_is_min total_intMax hI hp

theorem reachable_inv_min {s : St Int} (hr : Reach intMin s) : InvS intMin s := reachable_inv total_intMin hr
theorem reachable_inv_max {s : St Int} (hr : Reach intMax s) : InvS intMax s := reachable_inv total_intMax hr

/-- `while heap: yield heap.pop()` (how `bounds.sort` and `smallest` / `largest` read the heap): popping `h` until it is
    empty succeeds at every step and yields `out` (identity, key) -/
inductive DrainsTo (cmp : Cmp K) : Heap K → List (Nat × K) → Prop
  | done {h : Heap K} : h.n = 0 → DrainsTo cmp h []
  | step {h h' : Heap K} {i : Nat} {k : K} {out : List (Nat × K)} :
      h.n ≠ 0 → pop cmp h = .ok (h', i) → (i, k) ∈ live h → DrainsTo cmp h' out → DrainsTo cmp h ((i, k) :: out)

theorem size_of_pop {cmp : Cmp K} (T : Total cmp) {h h' : Heap K} {i : Nat} (hI : Inv cmp h)
    (hp : pop cmp h = .ok (h', i)) : h.n = h'.n + 1 := by
  obtain ⟨hI', k, hperm, -⟩ := pop_is_min T hI hp
  rw [size_eq_live hI, hperm.length_eq, List.length_cons, size_eq_live hI']

theorem drainsTo_length {cmp : Cmp K} {h : Heap K} {out : List (Nat × K)} (hI : Inv cmp h) (T : Total cmp)
    (d : DrainsTo cmp h out) : out.length = h.n := by
  induction d with
  | done h0 => exact h0.symm
  | step _ hp _ _ ih => rw [List.length_cons, ih (pop_is_min T hI hp).1, size_of_pop T hI hp]

/-- heap sort, the closure of `pop_is_min` over the drain loop: it ends after `len(heap)` successful pops and yields
    the live items in non-decreasing key order (no later item has a strictly smaller key than an earlier one) -/
theorem drain_sorted {cmp : Cmp K} (T : Total cmp) : ∀ (n : Nat) (h : Heap K), Inv cmp h → h.n = n →
    ∃ out : List (Nat × K), DrainsTo cmp h out ∧ out.Perm (live h) ∧
      out.Pairwise (fun a b => cmp.lt b.2 a.2 = false) ∧ out.length = n := by
  intro n
  induction n with
  | zero =>
    intro h hI h0
    have hl : live h = [] := List.eq_nil_of_length_eq_zero (by rw [← size_eq_live hI]; exact h0)
    exact ⟨[], .done h0, by rw [hl], List.Pairwise.nil, rfl⟩
  | succ n ih =>
    intro h hI hn
    have hne : h.n ≠ 0 := hn ▸ Nat.succ_ne_zero n
    obtain ⟨⟨h', i, hp⟩, -⟩ := (pop_peek_defined T hI).2 hne
    obtain ⟨hI', k, hperm, hmin⟩ := pop_is_min T hI hp
    obtain ⟨out, hd, hpo, hpw, hol⟩ := ih h' hI' (Nat.succ.inj ((size_of_pop T hI hp).symm.trans hn))
    exact ⟨(i, k) :: out, .step hne hp (hperm.symm.subset List.mem_cons_self) hd,
      (hpo.cons (i, k)).trans hperm.symm,
      List.Pairwise.cons (fun b hb => hmin b (hperm.symm.subset (List.mem_cons_of_mem _ (hpo.subset hb)))) hpw,
      congrArg (· + 1) hol⟩

example {cmp : Cmp K} (T : Total cmp) (h : Heap K) (hI : Inv cmp h) :
    ∃ out, DrainsTo cmp h out ∧ out.Perm (live h) ∧ out.Pairwise (fun a b => cmp.lt b.2 a.2 = false) := by
  obtain ⟨out, a, b, c, _⟩ := drain_sorted T h.n h hI rfl
  exact ⟨out, a, b, c⟩

theorem reachable_drain_sorted {cmp : Cmp K} (T : Total cmp) {s : St K} (hr : Reach cmp s) :
    ∃ out : List (Nat × K), DrainsTo cmp s.h out ∧ out.Perm (live s.h) ∧
      out.Pairwise (fun a b => cmp.lt b.2 a.2 = false) ∧ out.length = s.h.n :=
  drain_sorted T s.h.n s.h (reachable_inv T hr).1 rfl

theorem drain_ascending_int {h : Heap Int} (hI : Inv intMin h) :
    ∃ out : List (Nat × Int), DrainsTo intMin h out ∧ out.Perm (live h) ∧ out.Pairwise (fun a b => a.2 ≤ b.2) := by
  obtain ⟨out, a, b, c, -⟩ := drain_sorted total_intMin h.n h hI rfl
  exact ⟨out, a, b, c.imp intMin_lt_false.1⟩

theorem drain_descending_int {h : Heap Int} (hI : Inv intMax h) :
    ∃ out : List (Nat × Int), DrainsTo intMax h out ∧ out.Perm (live h) ∧ out.Pairwise (fun a b => b.2 ≤ a.2) := by
  obtain ⟨out, a, b, c, -⟩ := drain_sorted total_intMax h.n h hI rfl
  exact ⟨out, a, b, c.imp intMax_lt_false.1⟩

theorem popN_of_drainsTo {cmp : Cmp K} {h : Heap K} {out : List (Nat × K)} (d : DrainsTo cmp h out) :
    ∀ n, popN cmp n h = .ok ((out.take n).map (·.1)) := by
  induction d with
  | done h0 =>
    intro n
    cases n with
    | zero => rfl
    | succ n => simp only [popN, h0, if_true, List.take_nil, List.map_nil]
  | step hn hp _ _ ih =>
    intro n
    cases n with
    | zero => rfl
    | succ n => simp only [popN, hn, if_false, hp, ih n, List.take_succ_cons, List.map_cons]

/-- `smallest(seq, n)` / `largest(seq, n)` (`cmp` = plain / reversed comparison), on the model: the yielded positions,
    with their keys, form a sub-multiset `P` of the input of size `min n len`, and every yielded key is `≤` (w.r.t. `cmp`)
    every key that was not yielded.  (With the `len(seq) <= n` shortcut everything is yielded, in input order.) -/
theorem select_correct {cmp : Cmp K} (T : Total cmp) (keys : List K) (n : Int) (sized : Bool) :
    ∃ (l : List Nat) (P : List (Nat × K × Bool)) (rest : Multiset (Nat × K × Bool)), selectN cmp keys n sized = .ok l ∧
      l = P.map (·.1) ∧ (enumFrom 0 keys : Multiset _) = (P : Multiset _) + rest ∧ P.length = min n.toNat keys.length ∧
      (∀ p ∈ P, ∀ j ∈ rest, cmp.lt j.2.1 p.2.1 = false) := by
  by_cases hs : (sized && decide ((keys.length : Int) ≤ n)) = true
  · refine ⟨List.range keys.length, enumFrom 0 keys, 0, by simp only [selectN, hs, if_true], ?_, (add_zero _).symm, ?_,
      fun _ _ _ hj => nomatch hj⟩
    · rw [enumFrom_fst, List.range_eq_range']
    · rw [Bool.and_eq_true, decide_eq_true_eq] at hs
      rw [enumFrom_length]; omega
  · -- all keys are pushed and the heap is drained: the first `n` items of the sorted drain are yielded
    obtain ⟨h, hp, hI, hms⟩ := pushAll_spec T keys (empty : Heap K) 0 (inv_empty cmp) (fun _ hi => nomatch hi)
    obtain ⟨out, hd, hperm, hsorted, hlen⟩ := drain_sorted T h.n h hI rfl
    -- the drained items with the `deleted` flag (false) they carry in the forest
    have hitems : (live h).map (fun p => (p.1, p.2, false)) = items h.roots := by
      rw [live, List.map_map]
      exact (List.map_congr_left fun i hi => by rw [← hI.nodel i hi]; rfl).trans (List.map_id _)
    rw [← List.take_append_drop n.toNat out, List.pairwise_append] at hsorted
    refine ⟨_, (out.take n.toNat).map fun p => (p.1, p.2, false), ((out.drop n.toNat).map fun p => (p.1, p.2, false) : List _),
      by simp only [selectN, hs, hp, popN_of_drainsTo hd]; rfl, by rw [List.map_map]; rfl, ?_, ?_, ?_⟩
    · rw [Multiset.coe_add, ← List.map_append, List.take_append_drop, Multiset.coe_eq_coe.2 (hperm.map _), hitems]
      exact (zero_add _).symm.trans hms.symm
    · have : h.n = keys.length := by
        rw [hI.size, ← card_ms, hms, Multiset.card_add, Multiset.coe_card, enumFrom_length]
        exact Nat.zero_add _
      rw [List.length_map, List.length_take, hlen, this]
    · intro p hp j hj
      obtain ⟨a, ha, rfl⟩ := List.mem_map.1 hp
      obtain ⟨b, hb, rfl⟩ := List.mem_map.1 (Multiset.mem_coe.1 hj)
      exact hsorted.2.2 a ha b hb

/-- `utils.smallest` on integer keys: yielded keys ≤ all other keys -/
theorem smallest_correct (keys : List Int) (n : Int) (sized : Bool) :
    ∃ (l : List Nat) (P : List (Nat × Int × Bool)) (rest : Multiset (Nat × Int × Bool)), selectN intMin keys n sized = .ok l ∧
      l = P.map (·.1) ∧ (enumFrom 0 keys : Multiset _) = (P : Multiset _) + rest ∧ P.length = min n.toNat keys.length ∧
      (∀ p ∈ P, ∀ j ∈ rest, p.2.1 ≤ j.2.1) := by
  simpa only [intMin_lt_false] using select_correct total_intMin keys n sized

/-- `utils.largest` on integer keys: yielded keys ≥ all other keys -/
theorem largest_correct (keys : List Int) (n : Int) (sized : Bool) :
    ∃ (l : List Nat) (P : List (Nat × Int × Bool)) (rest : Multiset (Nat × Int × Bool)), selectN intMax keys n sized = .ok l ∧
      l = P.map (·.1) ∧ (enumFrom 0 keys : Multiset _) = (P : Multiset _) + rest ∧ P.length = min n.toNat keys.length ∧
      (∀ p ∈ P, ∀ j ∈ rest, j.2.1 ≤ p.2.1) := by
  simpa only [intMax_lt_false] using select_correct total_intMax keys n sized

/-! non-vacuity: a reachable state with a non-trivial tree -/
def demoOps : List (Op Int) := [.push 3, .push 1, .push 2, .push 0, .pop, .dec 0 0, .push 5, .rem 2]

def runDemo (cmp : Cmp Int) : List (Op Int) → St Int → Option (St Int)
  | [], s => some s
  | op :: ops, s => match step cmp s op with
    | (some s', _) => runDemo cmp ops s'
    | (none, _) => none

theorem runDemo_reach (cmp : Cmp Int) : ∀ (ops : List (Op Int)) (s s' : St Int), Reach cmp s → runDemo cmp ops s = some s' → Reach cmp s' := by
  intro ops
  induction ops with
  | nil => exact fun s s' hr h => Option.some.inj h ▸ hr
  | cons op ops ih =>
    intro s s' hr h
    simp only [runDemo] at h
    split at h
    · rename_i s1 r hs
      exact ih s1 s' (Reach.step hr hs) h
    · cases h

theorem exists_reach_of_runDemo {cmp : Cmp Int} (ops : List (Op Int)) {P : St Int → Prop}
    (h : ∃ s, runDemo cmp ops St.init = some s ∧ P s) : ∃ s, Reach cmp s ∧ P s :=
  let ⟨s, hs, hp⟩ := h
  ⟨s, runDemo_reach cmp ops St.init s Reach.init hs, hp⟩

/-! non-vacuity of `size_eq_history`: the live identities are computed as a LIST here so that the kernel can evaluate -/
def liveAfterL (L : List Nat) : Op Int → Ret → List Nat
  | .push _, .item i => i :: L
  | .pop, .item i => L.erase i
  | .rem i, .unit => L.erase i
  | .clear, _ => []
  | _, _ => L

theorem liveAfterL_coe (L : List Nat) (op : Op Int) (r : Ret) : ((liveAfterL L op r : List Nat) : Multiset Nat) = liveAfter (L : Multiset Nat) op r := by
  cases op with
  | push k => cases r <;> rfl
  | pop => cases r <;> rfl
  | rem i => cases r <;> rfl
  | _ => rfl

def runDemoL (cmp : Cmp Int) : List (Op Int) → St Int → List Nat → Option (St Int × List Nat)
  | [], s, L => some (s, L)
  | op :: ops, s, L => match step cmp s op with
    | (some s', r) => runDemoL cmp ops s' (liveAfterL L op r)
    | (none, _) => none

theorem runDemoL_reach (cmp : Cmp Int) : ∀ (ops : List (Op Int)) (s s' : St Int) (L L' : List Nat),
    ReachL cmp s (L : Multiset Nat) → runDemoL cmp ops s L = some (s', L') → ReachL cmp s' (L' : Multiset Nat) := by
  intro ops
  induction ops with
  | nil => intro s s' L L' hr h; cases h; exact hr
  | cons op ops ih =>
    intro s s' L L' hr h
    simp only [runDemoL] at h
    split at h
    · rename_i s1 r hs
      exact ih s1 s' _ L' (liveAfterL_coe L op r ▸ ReachL.step hr hs) h
    · cases h

example : ∃ s, ReachL intMin s (([4, 1, 0] : List Nat) : Multiset Nat) ∧ s.h.n = 3 := by
  have : (runDemoL intMin demoOps St.init []).map (·.2) = some [4, 1, 0] := by decide +kernel
  obtain ⟨⟨s, L⟩, hs, hL⟩ := Option.map_eq_some_iff.1 this
  cases hL
  have hr := runDemoL_reach intMin demoOps St.init s [] [4, 1, 0] ReachL.init hs
  exact ⟨s, hr, (size_eq_history total_intMin hr).1⟩

example : (runDemo intMin demoOps St.init).map (fun s => (s.h.n, s.h.roots.map (fun r => (r.id, r.kids.length)), (pop intMin s.h).toOption.map (·.2)))
    = some (3, [(0, 1), (1, 0)], some 0) := by decide +kernel

example : ∃ s, Reach intMin s ∧ s.h.n = 3 :=
  exists_reach_of_runDemo demoOps (by decide +kernel)

-- the hypotheses of `peek_is_min` / `pop_is_min` hold together on the demo state; the real `FibonacciHeap` gives
-- the same dump `0:0/1^-[4:5/0^0[]],1:1/0^-[]|0|3`
example : ∃ s, Reach intMin s ∧ (peek intMin s.h).toOption.map (·.2) = some 0 ∧ (pop intMin s.h).toOption.map (·.2) = some 0
    ∧ live s.h = [(0, 0), (4, 5), (1, 1)] :=
  exists_reach_of_runDemo demoOps (by decide +kernel)

-- the same for the max-heap twins, with a successful `decrease_key` (0 → 3 is a decrease for `ReversedComparator`) and
-- a rejected one (ValueError, state kept); the real `MaxFibonacciHeap` gives the same dump
-- `4:5/1^-[0:3/0^4[]],1:2/0^-[]|4|3`
example : ∃ s, Reach intMax s ∧ (peek intMax s.h).toOption.map (·.2) = some 4 ∧ (pop intMax s.h).toOption.map (·.2) = some 4
    ∧ live s.h = [(4, 5), (0, 3), (1, 2)] :=
  exists_reach_of_runDemo [.push 0, .push 2, .push 1, .push 3, .pop, .dec 0 3, .push 5, .rem 2, .dec 1 1]
    (by decide +kernel)

-- what `size_eq_live` re-expresses
example {cmp : Cmp K} {h : Heap K} (hI : Inv cmp h) : h.n = (flats h.roots).length := hI.size

end GtModel.C16
