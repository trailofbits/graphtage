/-
  C18 — Python objects are converted faithfully and cycles never hang.
  Theorems about the L6 model (`GtModel.Builder`).
-/
import GtModel.Proofs.BuilderEq
import GtModel.Proofs.BuilderJson
import GtModel.Proofs.BuilderStore

namespace GtModel.C18
open GtModel.Builder

/-- **build_terminates / sharing_not_cycle** (machine level).  For an acyclic store — a DAG with any amount of
sharing — and EVERY option combination and builder, `Builder.build_tree` (the work-stack machine) terminates:
there is a step count from which on it returns a fixed result `r`; `r` is not the cycle error, and `r` is
exactly the result obtained with cycle checking switched off (so no placeholder is inserted either). -/
theorem build_terminates {b : BKind} {s : Store} {rk : Ref → Nat} (o : Opts) (hr : Ranked b s rk) (root : Ref) :
    ∃ (fuel : Nat) (r : Except Err Tree),
      (∀ fuel' ≥ fuel, buildTree b o s fuel' root = r) ∧
      (∀ fuel' ≥ fuel, buildTree b (noCheck o) s fuel' root = r) ∧
      r ≠ .error .outOfFuel ∧ r ≠ .error .cycle := by
  have heq := sharing_not_cycle_dfs o hr (rk root + 1) root [] (by simp)
  have hf := dfs_noCheck_fuel o hr (rk root + 1) root [] (by omega)
  have hcy := dfs_noCheck_ne_cycle b o s (rk root + 1) root []
  obtain ⟨f1, h1⟩ := buildTree_of_dfs b o s (rk root + 1) root _ heq hf
  obtain ⟨f2, h2⟩ := buildTree_of_dfs b (noCheck o) s (rk root + 1) root _ rfl hf
  exact ⟨max f1 f2, _, fun f hfu => h1 f (by omega), fun f hfu => h2 f (by omega), hf, hcy⟩

/-- **sharing_not_cycle**: a DAG with shared sub-objects never yields the cycle error. -/
theorem sharing_not_cycle {b : BKind} {s : Store} {rk : Ref → Nat} (o : Opts) (hr : Ranked b s rk) (root : Ref)
    (fuel : Nat) : buildTree b o s fuel root ≠ .error .cycle := by
  intro h
  obtain ⟨f, r, h1, _, _, hc⟩ := build_terminates o hr root
  exact hc ((h1 (fuel + f) (by omega)).symm.trans (buildTree_mono h nofun (fuel + f) (by omega)))

/-- **cycle_detected, traversal level.**  With `ignore_cycles` off, a structure from which a cycle is reachable
is never converted successfully, whatever the depth budget. -/
theorem cycle_never_ok (b : BKind) (o : Opts) (s : Store) (hign : o.ign = false) (root : Ref)
    (hc : HasCycle b s root) (d : Nat) (path : List Ref) (t : Tree) : dfs b o s d path root ≠ .ok t :=
  fun h => not_acc_of_hasCycle hc (dfs_ok_acc b o s hign d root path t h)

/-- **cycles never hang.**  With cycle checking on, `Builder.build_tree` terminates on EVERY store (cyclic or
not, any builder, any other option): from some step count on it returns a fixed result. -/
theorem build_terminates_checked (b : BKind) (o : Opts) (s : Store) (hchk : o.chk = true) (root : Ref) :
    ∃ (fuel : Nat) (r : Except Err Tree),
      (∀ fuel' ≥ fuel, buildTree b o s fuel' root = r) ∧ r = dfs b o s (s.length + 2) [] root ∧
      r ≠ .error .outOfFuel := by
  have hf := dfs_chk_fuel b o s hchk (s.length + 2) root [] (by simp) (by simp) (by simp) (by simp)
  obtain ⟨f, h⟩ := buildTree_of_dfs b o s (s.length + 2) root _ rfl hf
  exact ⟨f, _, h, rfl, hf⟩

/-- **cycle_detected.**  Cycle checking on, `ignore_cycles` off, a cycle reachable from the root: the machine
terminates with an exception — the cycle error, unless a per-type builder raised first (e.g. `BasicBuilder` on an
object of an unsupported class, met before the cycle is closed). -/
theorem cycle_detected (b : BKind) (o : Opts) (s : Store) (hchk : o.chk = true) (hign : o.ign = false)
    (root : Ref) (hc : HasCycle b s root) :
    ∃ (fuel : Nat) (e : Err), (∀ fuel' ≥ fuel, buildTree b o s fuel' root = .error e) ∧
      (e = .cycle ∨ ∃ be, e = .build be) := by
  obtain ⟨f, r, h1, h2, h3⟩ := build_terminates_checked b o s hchk root
  cases r with
  | ok t => exact absurd h2.symm (cycle_never_ok b o s hign root hc _ _ t)
  | error e =>
    refine ⟨f, e, h1, ?_⟩
    cases e with
    | cycle => exact .inl rfl
    | outOfFuel => exact absurd rfl h3
    | build be => exact .inr ⟨be, rfl⟩

/-- **cycle_placeholder (partial).**  Cycle checking on, `ignore_cycles` on: the machine terminates on every
store and never with the cycle error.
MISSING for the full statement (`… and, if a cycle is reachable, the returned tree contains a CyclicReference`):
that the placeholder created by the traversal survives the per-type builders (it can only vanish when two
dictionary keys compare equal and one entry is dropped); the stream monitor checks it on every cyclic case. -/
theorem cycle_placeholder_partial (b : BKind) (o : Opts) (s : Store) (hchk : o.chk = true) (hign : o.ign = true)
    (root : Ref) :
    ∃ (fuel : Nat) (r : Except Err Tree), (∀ fuel' ≥ fuel, buildTree b o s fuel' root = r) ∧
      r ≠ .error .outOfFuel ∧ r ≠ .error .cycle := by
  obtain ⟨f, r, h1, h2, h3⟩ := build_terminates_checked b o s hchk root
  exact ⟨f, r, h1, h3, by rw [h2]; exact dfs_ign_ne_cycle b o s hign _ _ _⟩

/-- **to_obj_build (json.build_tree).**  For every value of `json.build_tree`'s domain and every option
combination the build succeeds and the plain value of the tree equals the original (tuples as lists), up to the
order of dictionary entries. -/
theorem to_obj_build_json (o : Opts) (v : PyVal) (h : JsonLike v) :
    ∃ t x, jsonBuild o v = .ok t ∧ toObj t = .ok x ∧ ObjEquiv x (normalise v) := by
  induction v using PyVal.induct with
  | scalar mro s =>
    obtain ⟨c, hc⟩ := jsonBuild_scalar o h
    exact ⟨_, _, hc, rfl, .scalar s⟩
  | list m xs ih =>
    obtain ⟨ts, ys, h1, h2, h3⟩ := mapM_reads fun x hx => ih x hx (jsonLikeList_iff.1 h x hx)
    exact ⟨.node (.list o.ale o.alesl) ts, .list ys, by rw [jsonBuild, jsonBuildList_eq_mapM, h1]; rfl,
      toObj_list_node _ _ h2, .list h3⟩
  | tuple m xs hl => exact hl h
  | dict m kvs ih =>
    obtain ⟨hpp, hd⟩ := h
    have hp := jsonLikePairs_iff.1 hpp
    obtain ⟨items, hitems, hq⟩ := jsonItems_read o (fun p hp' => (hp p hp').1) fun p hp' => (ih p hp').2 (hp p hp').2
    obtain ⟨hg, t, x, ht, hx, he⟩ := mappingFrom_items false o hq (keyEqc_eq ▸ hd)
    refine ⟨t, x, ?_, hx, he⟩
    rw [jsonBuild, jsonBuildPairs_eq_mapM, hitems]
    show mappingFrom false o (dictOf Tree.pyEq items) = _
    rw [dictOf_good hg, ht]
  | set m xs _ => exact h.elim
  | custom m cls attrs _ => exact h.elim

theorem json_build_ok (o : Opts) (v : PyVal) (h : JsonLike v) : ∃ t, jsonBuild o v = .ok t :=
  let ⟨t, _, ht, _⟩ := to_obj_build_json o v h
  ⟨t, ht⟩

theorem json_build_ok_list (o : Opts) : ∀ (xs : List PyVal), JsonLikeList xs → ∃ ts, jsonBuildList o xs = .ok ts := by
  intro xs h
  rw [jsonBuildList_eq_mapM]
  obtain ⟨ts, hts, _⟩ := mapM_ok_of_forall_exists (Q := fun _ _ => True) fun x hx =>
    let ⟨t, ht⟩ := json_build_ok o x (jsonLikeList_iff.1 h x hx)
    ⟨t, ht, trivial⟩
  exact ⟨ts, hts⟩

theorem json_toObj_list (o : Opts) : ∀ (xs : List PyVal), JsonLikeList xs → ∀ ts, jsonBuildList o xs = .ok ts →
    ∃ rs, Forall2 (fun t x => toObj t = .ok x) ts rs ∧ ObjEquivList rs (normaliseList xs) := by
  intro xs h ts hb
  obtain ⟨ts', ys, h1, h2⟩ := mapM_reads fun x hx => to_obj_build_json o x (jsonLikeList_iff.1 h x hx)
  cases ((jsonBuildList_eq_mapM o xs).symm.trans hb).symm.trans h1
  exact ⟨ys, h2⟩

theorem json_build_ok_pairs (o : Opts) : ∀ (kvs : List (PyVal × PyVal)), JsonLikePairs kvs →
    ∃ items, jsonBuildPairs o kvs = .ok items := by
  intro kvs h
  rw [jsonBuildPairs_eq_mapM]
  have hp := jsonLikePairs_iff.1 h
  obtain ⟨items, hitems, _⟩ := jsonItems_read o (fun p hp' => (hp p hp').1) fun p hp' =>
    to_obj_build_json o p.2 (hp p hp').2
  exact ⟨items, hitems⟩

/-- **to_obj_build (BasicBuilder, pydiff.build_tree).**  Acyclic store (any sharing), standard classes, plain value
below the root: under EVERY option combination the work-stack machine terminates with a tree whose `to_obj()` is the
original value (tuples as lists, sets as multisets), up to the order of dict entries / multiset elements. -/
theorem to_obj_build {b : BKind} {s : Store} {rk : Ref → Nat} (o : Opts) (hr : Ranked b s rk) (hstd : StdStore b s)
    (i d : Nat) (v : PyVal) (hu : unfold s d (.obj i) = some v) (hp : Plain v) :
    ∃ (fuel : Nat) (t : Tree) (y : Obj), (∀ fuel' ≥ fuel, buildTree b o s fuel' (.obj i) = .ok t) ∧
      buildVal o v = .ok t ∧ toObj t = .ok y ∧ ObjEquiv y (normalise v) := by
  obtain ⟨t, y, h1, h2, h3⟩ := buildVal_toObj o v hp
  have hd : dfs b o s d [] (.obj i) = .ok t := by
    rw [sharing_not_cycle_dfs o hr d (.obj i) [] (by simp), dfs_eq_buildVal b o s hstd d i v [] hu hp, h1]
    rfl
  obtain ⟨f, hf⟩ := buildTree_of_dfs b o s d (.obj i) _ hd (by simp)
  exact ⟨f, t, y, hf, h1, h2, h3⟩

theorem json_eq_buildVal_list (o : Opts) : ∀ (xs : List PyVal), JsonLikeList xs → JsonStdList xs →
    ∀ ts, jsonBuildList o xs = .ok ts → buildValList o xs = .ok ts := by
  intro xs hj hs ts hb
  rw [jsonBuildList_eq_mapM] at hb
  rw [buildValList_eq_mapM]
  exact mapM_ok_iff.2 ((mapM_ok_iff.1 hb).imp fun x hx t _ h =>
    json_eq_buildVal o x (jsonLikeList_iff.1 hj x hx) (jsonStdList_iff.1 hs x hx) t h)

theorem json_eq_buildVal_pairs (o : Opts) : ∀ (kvs : List (PyVal × PyVal)), JsonLikePairs kvs → JsonStdPairs kvs →
    ∀ items, jsonBuildPairs o kvs = .ok items →
      buildValKeys o kvs = .ok (items.map Prod.fst) ∧ buildValVals o kvs = .ok (items.map Prod.snd) := by
  intro kvs hj hs items hb
  rw [jsonBuildPairs_eq_mapM] at hb
  have hjp := jsonLikePairs_iff.1 hj
  have hsp := jsonStdPairs_iff.1 hs
  exact jsonItems_eq_buildVal hb (fun p hp => ⟨(hjp p hp).1, (hsp p hp).1⟩)
    fun p hp => json_eq_buildVal o p.2 (hjp p hp).2 (hsp p hp).2

/-- **entry_points_agree.**  On an acyclic store of standard classes holding a plain value, `BasicBuilder().build_tree`
and `pydiff.build_tree` return the same tree for every option combination, and so does `json.build_tree` whenever the
value is in its domain. -/
theorem entry_points_agree {s : Store} {rk1 rk2 : Ref → Nat} (o : Opts)
    (hr1 : Ranked .basic s rk1) (hr2 : Ranked .pyobj s rk2) (hs1 : StdStore .basic s) (hs2 : StdStore .pyobj s)
    (i d : Nat) (v : PyVal) (hu : unfold s d (.obj i) = some v) (hp : Plain v) :
    ∃ (fuel : Nat) (t : Tree),
      (∀ fuel' ≥ fuel, buildTree .basic o s fuel' (.obj i) = .ok t ∧ buildTree .pyobj o s fuel' (.obj i) = .ok t) ∧
      (JsonLike v → JsonStd v → jsonBuild o v = .ok t) := by
  obtain ⟨f1, t1, _, h1, b1, _, _⟩ := to_obj_build o hr1 hs1 i d v hu hp
  obtain ⟨f2, t2, _, h2, b2, _, _⟩ := to_obj_build o hr2 hs2 i d v hu hp
  cases b1.symm.trans b2
  refine ⟨max f1 f2, t1, fun f hf => ⟨h1 f (by omega), h2 f (by omega)⟩, fun hj hstd => ?_⟩
  obtain ⟨t', ht'⟩ := json_build_ok o v hj
  cases b1.symm.trans (json_eq_buildVal o v hj hstd t' ht')
  exact ht'

/-- **cycle_placeholder (lists and tuples).**  Cycle checking on, `ignore_cycles` on, a store of lists / tuples /
scalars with a cycle reachable from the root: the machine terminates with a TREE (no exception) that contains a
`CyclicReference` placeholder.  (For dict-valued cycles see `cycle_placeholder_partial`.) -/
theorem cycle_placeholder_lists (b : BKind) (o : Opts) (s : Store) (hchk : o.chk = true) (hign : o.ign = true)
    (hls : ListStore b s) (i : Nat) (hi : i < s.length) (hc : HasCycle b s (.obj i)) :
    ∃ (fuel : Nat) (t : Tree), (∀ fuel' ≥ fuel, buildTree b o s fuel' (.obj i) = .ok t) ∧ hasCyc t = true := by
  obtain ⟨f, r, h1, h2, h3⟩ := build_terminates_checked b o s hchk (.obj i)
  cases r with
  | error e =>
    exfalso
    cases dfs_liststore_error b o s hls _ i [] e hi h2.symm with
    | inl h => exact h3 (by rw [h])
    | inr h => exact dfs_ign_ne_cycle b o s hign _ _ _ (by rw [← h2, h])
  | ok t =>
    refine ⟨f, t, h1, ?_⟩
    cases hcy : hasCyc t with
    | true => rfl
    | false => exact absurd (dfs_ok_nocyc_acc b o s hls _ _ _ t h2.symm hcy) (not_acc_of_hasCycle hc)


/-- **cycle_detected (lists and tuples).**  On such a store with `ignore_cycles` off the outcome is exactly the
cycle error. -/
theorem cycle_detected_lists (b : BKind) (o : Opts) (s : Store) (hchk : o.chk = true) (hign : o.ign = false)
    (hls : ListStore b s) (i : Nat) (hi : i < s.length) (hc : HasCycle b s (.obj i)) :
    ∃ fuel, ∀ fuel' ≥ fuel, buildTree b o s fuel' (.obj i) = .error .cycle := by
  obtain ⟨f, r, h1, h2, h3⟩ := build_terminates_checked b o s hchk (.obj i)
  cases r with
  | ok t => exact absurd h2.symm (cycle_never_ok b o s hign (.obj i) hc _ _ t)
  | error e =>
    cases dfs_liststore_error b o s hls _ i [] e hi h2.symm with
    | inl h => exact absurd (by rw [h]) h3
    | inr h => exact ⟨f, by rw [← h]; exact h1⟩

/-- **copy_eq.**  For every tree the builders make of a plain value (any options), `TreeNode.copy()` — the work-stack
machine of tree.py — terminates and returns `reset t`: the same tree except that `copy_from` drops
`allow_list_edits`, `allow_list_edits_when_same_length` (both back to True) and `StringNode.quoted` (back to True);
the copy is `==` to the original (`__eq__` ignores exactly those flags) and has the same plain value. -/
theorem copy_eq (o : Opts) (v : PyVal) (hp : Plain v) (t : Tree) (hb : buildVal o v = .ok t) :
    ∃ fuel, ∀ fuel' ≥ fuel, copyTree fuel' t = .ok (reset t) ∧ Tree.pyEq (reset t) t = true ∧
      toObj (reset t) = toObj t := by
  have hbt := buildVal_built o v hp t hb
  obtain ⟨f, hf⟩ := copyTree_of_copyRec t
  refine ⟨f, fun f' hf' => ⟨?_, pyEq_reset_self t hbt, toObj_reset t hbt⟩⟩
  rw [hf f' hf', copyRec_built t hbt]
  rfl

/-- the same for trees with placeholders (any built shape): the copy re-wraps every `CyclicReference`, which is
why `copy() == tree` is False for them (known finding `copy-neq/cyclicref`) -/
theorem copy_built {ac ap : Bool} (t : Tree) (h : Built ac ap t) : ∃ fuel, ∀ fuel' ≥ fuel, copyTree fuel' t = .ok (reset t) := by
  obtain ⟨f, hf⟩ := copyTree_of_copyRec t
  refine ⟨f, fun f' hf' => ?_⟩
  rw [hf f' hf', copyRec_built t h]
  rfl

example : Tree.pyEq (reset (.cyc (.obj 0) 1)) (.cyc (.obj 0) 1) = false := by simp [Tree.pyEq]

def intCell : Cell := ⟨["int", "object"], .scalar ⟨.int, "1", "n:1/1", "1", some (1, 1), none⟩⟩
def listCell (items : List Nat) : Cell := ⟨["list", "object"], .list items⟩
/-- `s = [1]; root = [s, s]` — the same list object referenced twice -/
def dagStore : Store := [listCell [1, 1], listCell [2], intCell]
def rkDag : Ref → Nat
  | .obj 0 => 2
  | .obj 1 => 1
  | _ => 0

theorem ex1 : expand .basic dagStore (.obj 0) = [.obj 1, .obj 1] := by decide +kernel
theorem ex2 : expand .basic dagStore (.obj 1) = [.obj 2] := by decide +kernel
theorem ex3 : expand .basic dagStore (.obj 2) = [] := by decide +kernel

example : Ranked .basic dagStore rkDag := ranked_of_forall (by decide +kernel)

def selfCycle : Store := [listCell [0]]
-- `BuildOptions()` defaults, in the order of `Opts`: ake amk ale alesl chk = True, ign (`ignore_cycles`) = False
def dflt : Opts := ⟨true, true, true, true, true, false⟩
example : HasCycle .basic selfCycle (.obj 0) := ⟨.obj 0, .refl _, .obj 0, by decide +kernel, .refl _⟩
example : buildTree .basic dflt selfCycle 5 (.obj 0) = .error .cycle := by rfl
example : buildTree .basic { dflt with ign := true } selfCycle 5 (.obj 0)
    = .ok (.node (.list true true) [.cyc (.obj 0) 1]) := by rfl
example : buildTree .basic dflt dagStore 20 (.obj 0) = .ok (.node (.list true true)
    [.node (.list true true) [.leaf .integer ⟨.int, "1", "n:1/1", "1", some (1, 1), none⟩ true],
     .node (.list true true) [.leaf .integer ⟨.int, "1", "n:1/1", "1", some (1, 1), none⟩ true]]) := by rfl

example : StdStore .basic dagStore ∧ StdStore .pyobj dagStore :=
  have h := stdStore_of_basic (s := dagStore) (by decide +kernel)
  ⟨h _, h _⟩
example : ∃ v, unfold dagStore 3 (.obj 0) = some v ∧ Plain v :=
  ⟨_, rfl, by simp [Plain, PlainList]⟩

example : ListStore .basic selfCycle := listStore_of_forall (by decide +kernel) _

def strV (x : String) : PyVal := .scalar ["str", "object"] (Scalar.ofStr x)
def intV (n : Nat) : PyVal := .scalar ["int", "object"] ⟨.int, toString n, "n:" ++ toString n ++ "/1", toString n, some (n, 1), none⟩
def noneV : PyVal := .scalar ["NoneType", "object"] Scalar.none
/-- `{"a": [1, (2,)], "b": None}` -/
def jsonExample : PyVal :=
  .dict ["dict", "object"] [(strV "a", .list ["list", "object"] [intV 1, .tuple ["tuple", "object"] [intV 2]]), (strV "b", noneV)]
example : JsonLike jsonExample := by
  simp [jsonExample, JsonLike, JsonLikePairs, JsonLikeList, JsonKey, JsonScalar, DistinctKeys, keyEqc, strV, intV, noneV,
    numOrStr, Scalar.ofStr]
example : JsonStd jsonExample ∧ Plain jsonExample := by
  constructor
  · simp [jsonExample, JsonStd, JsonStdPairs, JsonStdList, StdScalarMro, strV, intV, noneV, Scalar.ofStr, Scalar.none]
  · simp [jsonExample, Plain, PlainPairs, PlainList, IsScalarVal, valEqc, strV, intV, noneV, Scalar.ofStr, Scalar.none]

-- a store with a dict, a tuple, a bool, None, a twice-referenced list and nesting depth 3 satisfies ALL hypotheses of
-- `to_obj_build`, `entry_points_agree` (incl. the json part) and `copy_eq`
def aStr (x : String) : Cell := ⟨["str", "object"], .scalar (Scalar.ofStr x)⟩
def aNone : Cell := ⟨["NoneType", "object"], .scalar Scalar.none⟩
def aTrue : Cell := ⟨["bool", "int", "object"], .scalar ⟨.bool, "True", "n:1/1", "True", some (1, 1), none⟩⟩
def aDict (items : List (Nat × Nat)) : Cell := ⟨["dict", "object"], .dict items⟩
def aTuple (items : List Nat) : Cell := ⟨["tuple", "object"], .tuple items⟩
def aSet (items : List Nat) : Cell := ⟨["set", "object"], .set items⟩

/-- `L = [(1, True), 1]; root = {"a": L, "b": L, "c": None}` -/
def jsonStore : Store :=
  [aDict [(4, 1), (5, 1), (6, 7)], listCell [2, 3], aTuple [3, 8], intCell, aStr "a", aStr "b", aStr "c", aNone, aTrue]

def rkJ : Ref → Nat
  | .obj 0 => 3
  | .obj 1 => 2
  | .obj 2 => 1
  | _ => 0

theorem ranked_jsonStore (b : BKind) : Ranked b jsonStore rkJ :=
  ranked_of_forall (by cases b <;> decide +kernel)

theorem std_jsonStore (b : BKind) : StdStore b jsonStore :=
  stdStore_of_basic (by decide +kernel) b

def jsonStoreVal : PyVal :=
  let one : PyVal := .scalar ["int", "object"] ⟨.int, "1", "n:1/1", "1", some (1, 1), none⟩
  let tru : PyVal := .scalar ["bool", "int", "object"] ⟨.bool, "True", "n:1/1", "True", some (1, 1), none⟩
  let l : PyVal := .list ["list", "object"] [.tuple ["tuple", "object"] [one, tru], one]
  .dict ["dict", "object"] [(strV "a", l), (strV "b", l), (strV "c", noneV)]

theorem unfold_jsonStore : unfold jsonStore 4 (.obj 0) = some jsonStoreVal := by rfl

theorem plain_jsonStoreVal : Plain jsonStoreVal ∧ JsonLike jsonStoreVal ∧ JsonStd jsonStoreVal := by
  refine ⟨?_, ?_, ?_⟩
  · simp [jsonStoreVal, Plain, PlainPairs, PlainList, IsScalarVal, valEqc, strV, noneV, Scalar.ofStr, Scalar.none]
  · simp [jsonStoreVal, JsonLike, JsonLikePairs, JsonLikeList, JsonKey, JsonScalar, DistinctKeys, keyEqc, strV, noneV,
      numOrStr, Scalar.ofStr]
  · simp [jsonStoreVal, JsonStd, JsonStdPairs, JsonStdList, StdScalarMro, strV, noneV, Scalar.ofStr, Scalar.none]

example (o : Opts) := to_obj_build (b := .pyobj) o (ranked_jsonStore _) (std_jsonStore _) 0 4 _ unfold_jsonStore plain_jsonStoreVal.1
example (o : Opts) : ∃ fuel t, (∀ fuel' ≥ fuel, buildTree .basic o jsonStore fuel' (.obj 0) = .ok t ∧
    buildTree .pyobj o jsonStore fuel' (.obj 0) = .ok t) ∧ jsonBuild o jsonStoreVal = .ok t := by
  obtain ⟨f, t, h1, h2⟩ := entry_points_agree o (ranked_jsonStore _) (ranked_jsonStore _) (std_jsonStore _) (std_jsonStore _)
    0 4 _ unfold_jsonStore plain_jsonStoreVal.1
  exact ⟨f, t, h1, h2 plain_jsonStoreVal.2.1 plain_jsonStoreVal.2.2⟩
example (o : Opts) : ∃ t fuel, ∀ fuel' ≥ fuel, copyTree fuel' t = .ok (reset t) ∧ Tree.pyEq (reset t) t = true ∧
    toObj (reset t) = toObj t := by
  obtain ⟨t, _, hb, _⟩ := buildVal_toObj o jsonStoreVal plain_jsonStoreVal.1
  exact ⟨t, copy_eq o jsonStoreVal plain_jsonStoreVal.1 t hb⟩

-- non-finite floats are INSIDE the domain of `copy_eq`: `[nan, inf, -0.0]` (the cells exactly as the stream
-- encodes them: `eqc` = the class of `LeafNode.__eq__`, which puts every NaN into one class;
-- `num` with denominator 0 = non-finite).  The same inputs run on the real code in every check (`_edge_cases` of the stream),
-- where `copy() == tree` is monitored directly.
def nanS : Scalar := ⟨.float, "nan", "nan", "nan", some (0, 0), none⟩
def infS : Scalar := ⟨.float, "inf", "n:inf", "inf", some (1, 0), none⟩
def negZeroS : Scalar := ⟨.float, "-0x0.0p+0", "n:0/1", "-0.0", some (0, 1), none⟩
def nanListV : PyVal :=
  .list ["list", "object"] [.scalar ["float", "object"] nanS, .scalar ["float", "object"] infS, .scalar ["float", "object"] negZeroS]
theorem plain_nanListV : Plain nanListV := by
  simp [nanListV, Plain, PlainList, nanS, infS, negZeroS]
example (o : Opts) : ∃ t fuel, buildVal o nanListV = .ok t ∧ ∀ fuel' ≥ fuel, copyTree fuel' t = .ok (reset t) ∧
    Tree.pyEq (reset t) t = true ∧ toObj (reset t) = toObj t := by
  obtain ⟨t, _, hb, _⟩ := buildVal_toObj o nanListV plain_nanListV
  obtain ⟨f, hf⟩ := copy_eq o nanListV plain_nanListV t hb
  exact ⟨t, f, hb, hf⟩
-- `<` on the non-finite floats as Python computes it (used by the key sort of `DictNode.from_dict`)
example : scalarLt nanS infS = false ∧ scalarLt infS nanS = false ∧ scalarLt negZeroS infS = true ∧ scalarLt infS negZeroS = false ∧
    scalarLt ⟨.float, "-inf", "n:-inf", "-inf", some (-1, 0), none⟩ infS = true ∧ scalarLt infS infS = false := by decide


example (b : BKind) : StdCell b ⟨["bool", "int", "object"], .scalar ⟨.bool, "True", "n:1/1", "True", some (1, 1), none⟩⟩ :=
  stdCell_basic (by decide +kernel) b
example (b : BKind) : StdCell b ⟨["float", "object"], .scalar ⟨.float, "0x1.8p+0", "n:3/2", "1.5", some (3, 2), none⟩⟩ :=
  stdCell_basic (by decide +kernel) b
example (b : BKind) : StdCell b ⟨["bytes", "object"], .scalar ⟨.bytes, "61", "b:61", "b'a'", none, some "a"⟩⟩ :=
  stdCell_basic (by decide +kernel) b
example (b : BKind) : StdCell b ⟨["frozenset", "object"], .set [1]⟩ :=
  stdCell_basic (by decide +kernel) b
example (b : BKind) : StdCell b ⟨["set", "object"], .set [1]⟩ :=
  stdCell_basic (by decide +kernel) b

/-- `D = {1: {1, "a"}}; root = [D, D]` -/
def setStore : Store := [listCell [1, 1], aDict [(3, 2)], aSet [3, 4], intCell, aStr "a"]
def rkS : Ref → Nat
  | .obj 0 => 3
  | .obj 1 => 2
  | .obj 2 => 1
  | _ => 0
theorem ranked_setStore (b : BKind) : Ranked b setStore rkS :=
  ranked_of_forall (by cases b <;> decide +kernel)
theorem std_setStore (b : BKind) : StdStore b setStore :=
  stdStore_of_basic (by decide +kernel) b
theorem plain_setStore : ∃ v, unfold setStore 4 (.obj 0) = some v ∧ Plain v :=
  ⟨_, rfl, by simp [Plain, PlainList, PlainPairs, IsScalarVal, valEqc, Scalar.ofStr]⟩
example (o : Opts) : ∃ fuel t y v, (∀ fuel' ≥ fuel, buildTree .basic o setStore fuel' (.obj 0) = .ok t) ∧
    toObj t = .ok y ∧ unfold setStore 4 (.obj 0) = some v ∧ ObjEquiv y (normalise v) := by
  obtain ⟨v, hu, hp⟩ := plain_setStore
  obtain ⟨f, t, y, h1, _, h3, h4⟩ := to_obj_build (b := .basic) o (ranked_setStore _) (std_setStore _) 0 4 v hu hp
  exact ⟨f, t, y, v, h1, h3, hu, h4⟩

/-- mutual cycle at depth 2 through a tuple: `a = [t, 1]; t = (a,)` -/
def mutCycle : Store := [listCell [1, 2], aTuple [0], intCell]
theorem listStore_mutCycle (b : BKind) : ListStore b mutCycle := listStore_of_forall (by decide +kernel) b
theorem hasCycle_mutCycle : HasCycle .basic mutCycle (.obj 0) :=
  ⟨.obj 0, .refl _, .obj 1, by decide +kernel, .step (c := .obj 0) (by decide +kernel) (.refl _)⟩
example := cycle_detected_lists .basic dflt mutCycle rfl rfl (listStore_mutCycle _) 0 (by decide) hasCycle_mutCycle
example := cycle_placeholder_lists .basic { dflt with ign := true } mutCycle rfl rfl (listStore_mutCycle _) 0 (by decide) hasCycle_mutCycle
example : buildTree .basic dflt mutCycle 20 (.obj 0) = .error .cycle := by rfl

/-- cycle through a dict VALUE and a tuple, two levels below the root: `d = {"k": (root, d)}; root = [d]` -/
def dictCycle : Store := [listCell [1], aDict [(3, 2)], aTuple [0, 1], aStr "k"]
theorem hasCycle_dictCycle : HasCycle .basic dictCycle (.obj 0) :=
  ⟨.obj 1, .step (c := .obj 1) (by decide +kernel) (.refl _), .obj 2, by decide +kernel,
    .step (c := .obj 1) (by decide +kernel) (.refl _)⟩
example : buildTree .basic dflt dictCycle 30 (.obj 0) = .error .cycle := by rfl
example := cycle_detected .basic dflt dictCycle rfl rfl (.obj 0) hasCycle_dictCycle

/-- the `∃ be, e = .build be` disjunct of `cycle_detected` is really needed: `root = [A(), root]` under BasicBuilder
raises NotImplementedError for `A()` before the cycle is closed -/
def errFirst : Store := [listCell [1, 0], ⟨["A", "object"], .custom "A" []⟩]
example : HasCycle .basic errFirst (.obj 0) := ⟨.obj 0, .refl _, .obj 0, by decide +kernel, .refl _⟩
example : buildTree .basic dflt errFirst 30 (.obj 0) = .error (.build .notImplemented) := by rfl

-- the function the stream runs for the json entry (`jsonBuildStore`) vs the function of the theorems (`jsonBuild`)
example : jsonBuildStore dflt dagStore (.obj 0) = (unfold dagStore 5 (.obj 0)).elim (.error .recursion) (jsonBuild dflt) := by rfl

end GtModel.C18
