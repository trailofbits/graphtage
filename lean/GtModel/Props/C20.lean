/-
  C20 — malformed input is reported, not crashed on  (PARTIAL; mostly decided on the real code).

  What carries content here is ONE theorem, `handlers_cover`: over tables regenerated on every run —
    * `Gen.caught`  : the except clauses of every loader's `build_tree_handling_errors` (ast walk of /repo),
    * `Gen.mro`     : the method resolution order of every class below,
    * `Gen.raisable`: the hand list of harness/gentables.py UNITED with every exception class that a seeded fuzz of
                      the parser entry points (json.load, json5.load, yaml.load_all with the C loader,
                      ElementTree.parse, plistlib.load on a real file) raised IN THIS RUN on corrupted files that an
                      independent parse rejects (a few thousand per type; `harness.streams.faults.record_raised`) —
  every raisable class of a text format is caught by that format's loader.  A class the parsers really raise lands in
  the table whether or not anybody thought of it, and the `decide` below fails until the loader catches it.

  The other three registered theorems (`invalid_yields_message`, `error_path_first`, `error_path_second`) RESTATE A
  LITERAL TABLE: `loadOfInvalid ty` is defined as `.message` iff `handlersCover ty`, and `outcome .message _ _` is the
  literal ⟨1, true, true, false⟩ in Model/Cli.lean (a transcription of main()'s three-line error branch).  They are
  `simp` over those two definitions, add nothing to `handlers_cover`, and are kept only so that the `errorpath`
  correspondence has a named statement to point at; that correspondence compares a per-type constant with the
  monitor's own verdict.

  NOT proved, decided by the `faults` stream on the real command line: that the loaders' parsers raise only the listed
  classes on the files nobody generated; that the exceptions are raised INSIDE the try (the ast walk does check try
  scope and re-raising handlers, not data flow); the f-string that formats the message; exit status, empty stdout,
  file named on stderr for either file position under several option sets.  "Invalid" means: rejected by the
  reference parser, which for plist and JSON5 is the same library the loader uses.  CSV and pickle are excluded by
  the property.
-/
import GtModel.Model.Cli

namespace GtModel.C20
open GtModel.Cli

def textFormats : List String := ["json", "json5", "yaml", "xml", "html", "plist"]

/-- `raisable T ⊆ caught T` (by MRO) for every text format — a finite check over the generated tables; `raisable`
    includes what this run's fuzz of the parsers recorded -/
theorem handlers_cover : ∀ ty ∈ textFormats, handlersCover ty = true := by decide +kernel

/-- restates the definition of `loadOfInvalid` (see the header) -/
theorem invalid_yields_message (ty : String) (h : ty ∈ textFormats) : loadOfInvalid ty = .message := by
  simp [loadOfInvalid, handlers_cover ty h]

/-- an invalid FIRST file: whatever the second file is (restates the literal `outcome .message _ _`) -/
theorem error_path_first (ty : String) (h : ty ∈ textFormats) (lt : Load) (differ : Bool) :
    let o := outcome (loadOfInvalid ty) lt differ
    o.exit ≠ 0 ∧ o.stdoutEmpty = true ∧ o.stderrNamesFile = true ∧ o.uncaught = false := by
  simp [invalid_yields_message ty h, outcome]

/-- an invalid SECOND file after a first file that loaded (restates the literal `outcome .tree .message _`) -/
theorem error_path_second (ty : String) (h : ty ∈ textFormats) (differ : Bool) :
    let o := outcome .tree (loadOfInvalid ty) differ
    o.exit ≠ 0 ∧ o.stdoutEmpty = true ∧ o.stderrNamesFile = true ∧ o.uncaught = false := by
  simp [invalid_yields_message ty h, outcome]

-- the membership hypothesis is satisfiable; and the conclusion is what `outcome` hard-codes
-- for a `.message` load, independently of the type, the other file and the options
example := error_path_first "json5" (by decide) .tree true
example := error_path_second "plist" (by decide) false
example (lt : Load) (d : Bool) : outcome .message lt d = ⟨1, true, true, false⟩ := by cases lt <;> rfl
-- `json.load` / `json5.load` raise RecursionError on thousands of unbalanced `[` (an invalid document); both loaders
-- catch it; YAML and XML parsers report such input themselves
example : catches "json" "builtins.RecursionError" = true := by decide +kernel
example : catches "yaml" "builtins.RecursionError" = false := by decide +kernel

-- classes raised on value-level corruptions (the faults stream generates each)
example : catches "plist" "builtins.AttributeError" = true := by decide +kernel     -- <date>notadate</date>
example : catches "plist" "builtins.MemoryError" = true := by decide +kernel        -- binary plist, absurd object count
example : catches "xml" "builtins.LookupError" = true := by decide +kernel          -- encoding="uf-8"
example : catches "html" "builtins.UnicodeError" = true := by decide +kernel        -- encoding="undefined" (a ValueError)
example : catches "json" "builtins.ValueError" = true := by decide +kernel          -- 5000-digit integer literal
example : catches "yaml" "builtins.ValueError" = true := by decide +kernel          -- !!int xyz, 2001-13-45
-- a class nobody listed is caught by nothing: an unresolvable or new class in `raisable` breaks `handlers_cover`
example : catches "json" "some.module.NewError" = false := by decide +kernel

/-- the negative direction that makes the table check meaningful: a handler that caught nothing would let the
    exception escape (so deleting an `except` clause in /repo flips `handlers_cover`) -/
example : catches "csv" "builtins.ValueError" = false := by decide +kernel
example : catches "json" "json.decoder.JSONDecodeError" = true := by decide +kernel

end GtModel.C20
