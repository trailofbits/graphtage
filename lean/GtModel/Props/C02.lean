/-
  C02  "No edits are reported exactly when the two documents are equal (same structure, keys and scalar values;
        mapping order ignored, list order respected).  Whenever they differ anywhere, at least one edit of
        positive cost is reported."

  Statements are about the L2 model `edits` (Model/Edits.lean), for ALL options, oracles (assignment-solver
  answers), node paths and trees.
-/
import GtModel.Proofs.EditsCost
import GtModel.Proofs.ZeroBuild

namespace GtModel.C02
open GtModel

/-- (1) The fully refined script of `from.edits(to)` has total cost 0 exactly when the nodes compare equal
    (`Tree.eq` = graphtage's `__eq__`: lists element-wise in order, mappings as sets of pairs), for trees whose
    mappings have distinct keys (`Tree.WF`; every tree built from a parsed document is such, see `build_WF`). -/
theorem zero_cost_iff_eq (o : Opts) (orc : Oracle) (fp tp : List Nat) (f t : Tree)
    (hf : f.WF = true) (ht : t.WF = true) :
    (edits o orc fp tp f t).cost = 0 ↔ Tree.eq f t = true :=
  ⟨cost_zero_imp_eq o orc f fp tp t hf ht, eq_imp_cost_zero o orc fp tp f t⟩

/-- non-vacuity: the hypotheses hold for concrete nested trees — an equal pair up to key order and an unequal pair
    (`1` vs `"1"`); by the theorem the first costs 0 and the second does not -/
example :
    let f : Tree := .dict [([97], .leaf (.int 1)), ([98], .list [.leaf (.str [120])])]
    let t : Tree := .dict [([98], .list [.leaf (.str [120])]), ([97], .leaf (.int 1))]
    let u : Tree := .dict [([97], .leaf (.str [49])), ([98], .list [.leaf (.str [120])])]
    f.WF = true ∧ t.WF = true ∧ u.WF = true ∧ f.eq t = true ∧ f.eq u = false ∧
      (edits {} [] [] [] f t).cost = 0 ∧ (edits {} [] [] [] f u).cost ≠ 0 := by
  intro f t u
  have hf : f.WF = true := by decide
  have ht : t.WF = true := by decide
  have hu : u.WF = true := by decide
  have e1 : f.eq t = true := by rw [Tree.eq_eqS]; decide
  have e2 : f.eq u = false := by rw [Tree.eq_eqS]; decide
  refine ⟨hf, ht, hu, e1, e2, (zero_cost_iff_eq _ _ _ _ f t hf ht).2 e1, ?_⟩
  intro h
  have := (zero_cost_iff_eq _ _ _ _ f u hf hu).1 h
  rw [e2] at this; exact Bool.false_ne_true this

/-- the direction that needs no hypothesis -/
theorem eq_zero_cost (o : Opts) (orc : Oracle) (fp tp : List Nat) (f t : Tree) (h : Tree.eq f t = true) :
    (edits o orc fp tp f t).cost = 0 := eq_imp_cost_zero o orc fp tp f t h

/-- every document whose objects have distinct keys (what a JSON/YAML parser produces) builds a well-formed
    tree, for every option set -/
theorem build_WF (o : Opts) (d : Doc) (h : d.distinctKeys = true) : (build o d).WF = true :=
  GtModel.build_WF o d h

example : (Doc.obj [([98], .list [.scalar (.int 1), .obj [([97], .scalar .null)]]), ([97], .scalar (.bool true))]).distinctKeys
    = true := by decide

/-- (2) node equality of the built trees IS equality of the documents as data (`Doc.dataEq`: scalars by value and
    type, lists in order, objects as finite maps), for every option set (`DictNode` or `FixedKeyDictNode`) -/
theorem eq_iff_dataEq (o : Opts) (a b : Doc) (ha : a.distinctKeys = true) (hb : b.distinctKeys = true) :
    Tree.eq (build o a) (build o b) = Doc.dataEq a b :=
  GtModel.eq_iff_dataEq o a b ha hb

/-- (2) C02 on documents: the whole comparison reports total cost 0 exactly when the two documents are equal as
    data — for all options and all assignment-solver answers -/
theorem zero_cost_iff_dataEq (o : Opts) (orc : Oracle) (a b : Doc)
    (ha : a.distinctKeys = true) (hb : b.distinctKeys = true) :
    (diffDocs o orc a b).cost = 0 ↔ Doc.dataEq a b = true := by
  unfold diffDocs
  rw [zero_cost_iff_eq o orc [] [] _ _ (build_WF o a ha) (build_WF o b hb), eq_iff_dataEq o a b ha hb]

/-- non-vacuity: two documents with distinct keys, equal as data but with different key order, and a third one
    differing in a nested scalar's type -/
example :
    let a : Doc := .obj [([97], .scalar (.int 1)), ([98], .list [.scalar (.str [120])])]
    let b : Doc := .obj [([98], .list [.scalar (.str [120])]), ([97], .scalar (.int 1))]
    let c : Doc := .obj [([98], .list [.scalar (.str [120])]), ([97], .scalar (.str [49]))]
    a.distinctKeys = true ∧ b.distinctKeys = true ∧ c.distinctKeys = true ∧
      a.dataEq b = true ∧ a.dataEq c = false := by
  refine ⟨by decide, by decide, by decide, ?_, ?_⟩ <;>
    simp [Doc.dataEq, keysSub, agreeKV, agree1, dataEqL, Scalar.eq]

/-- every script of positive cost contains a non-compound edit (match / replace / remove / insert) of positive
    cost — for all options, oracles and trees (no well-formedness needed) -/
theorem pos_atom_of_pos_cost (o : Opts) (orc : Oracle) (fp tp : List Nat) (f t : Tree)
    (h : 0 < (edits o orc fp tp f t).cost) : PosAtom (edits o orc fp tp f t) :=
  posAtom_of_costOK _ (costOK_edits o orc f fp tp t) h

/-- (3) "Whenever they differ anywhere, at least one edit of positive cost is reported": if the documents are not
    equal as data, the script contains a non-compound edit of positive cost -/
theorem positive_edit_exists (o : Opts) (orc : Oracle) (a b : Doc)
    (ha : a.distinctKeys = true) (hb : b.distinctKeys = true) (hne : Doc.dataEq a b = false) :
    PosAtom (diffDocs o orc a b) := by
  apply pos_atom_of_pos_cost
  apply Nat.pos_of_ne_zero
  intro h0
  have := (zero_cost_iff_dataEq o orc a b ha hb).1 h0
  rw [hne] at this; exact Bool.false_ne_true this

/-- non-vacuity of (3): `{"a": [1, 2]}` vs `{"a": [1, "2"]}` -/
example :
    let a : Doc := .obj [([97], .list [.scalar (.int 1), .scalar (.int 2)])]
    let b : Doc := .obj [([97], .list [.scalar (.int 1), .scalar (.str [50])])]
    a.distinctKeys = true ∧ b.distinctKeys = true ∧ a.dataEq b = false := by
  refine ⟨by decide, by decide, ?_⟩
  simp [Doc.dataEq, keysSub, agreeKV, agree1, dataEqL, Scalar.eq]

/-- (4) the command's exit status as a function of the final script: `had_edits` is set when an edit with
    non-zero cost is seen (definition-level model of `__main__`: 1 iff the total cost is positive) -/
def exitStatus (s : Script) : Nat := if s.cost = 0 then 0 else 1

/-- (4) exit status 0 exactly for documents that are equal as data; and status 1 comes with a concrete
    non-compound edit of positive cost in the script (the edit `has_non_zero_cost()` fires on) -/
theorem exit_status_iff (o : Opts) (orc : Oracle) (a b : Doc)
    (ha : a.distinctKeys = true) (hb : b.distinctKeys = true) :
    (exitStatus (diffDocs o orc a b) = 0 ↔ Doc.dataEq a b = true) ∧
    (exitStatus (diffDocs o orc a b) = 1 → PosAtom (diffDocs o orc a b)) := by
  unfold exitStatus
  constructor
  · rw [← zero_cost_iff_dataEq o orc a b ha hb]
    split <;> simp_all
  · intro h
    apply pos_atom_of_pos_cost
    split at h
    · simp at h
    · unfold diffDocs at *; omega

end GtModel.C02
