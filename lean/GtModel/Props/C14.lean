/-
  C14 — the command line honours its option spellings and an explicitly given type is the one used.
  Theorems over the L9 model `GtModel.Cli` and the file-type tables regenerated from /repo.

  Proved here, the decision logic of main(): an explicit MIME type, or else an explicit type name, decides the parser of
  its file whatever the file name suggests and whatever is given for the other file; `-k` is `--dict-strategy none`,
  `-j` is `-jl -jd` and the two join flags are independent; `--dict-strategy auto` is the default.  These are facts
  about a small faithful model; their value is the correspondence that ties the model to main().
  NOT proved (covered only by the `cli` correspondence/monitor stream): argparse's own parsing of argv into the
  namespace, "text and exit status equal what the library produces" (the library call sequence is replayed in
  Python and compared byte for byte in full-diff, -e and -d mode, with and without -f, and for a few documents as a
  real process writing to a pipe with status output on; see harness/streams/cli.py).  -e / -d / --html / --color /
  --format are not in the model.
-/
import GtModel.Model.Cli

namespace GtModel.C14
open GtModel.Cli

/-- every registered type name selects its own default MIME type (type names are distinct in the table) -/
theorem alias_from_type_table :
    ∀ e ∈ Gen.fileTypes, selectMime none (some e.1) = some e.2.1 := by decide +kernel

/-- `--from-T` ≡ `--from-mime <default MIME of T>` : the same parser is chosen for every guess -/
theorem alias_from_type (e : String × String × List String) (he : e ∈ Gen.fileTypes) (guess : Option String) :
    getFiletype guess (selectMime none (some e.1)) = getFiletype guess (selectMime (some e.2.1) none) := by
  rw [alias_from_type_table e he]; rfl

/-- an explicit MIME type decides the parser, whatever the file name suggests -/
theorem explicit_mime_wins (m : String) (ty : Option String) (g g' : Option String) :
    getFiletype g (selectMime (some m) ty) = getFiletype g' (some m) := rfl

/-- every registered MIME type maps to the type that registered it -/
theorem by_mime_of_default : ∀ e ∈ Gen.fileTypes, ∀ m ∈ e.2.2, getFiletype none (some m) = .ok e.1 := by decide +kernel

/-- the default MIME type of a type is one of its MIME types -/
theorem default_mem : ∀ e ∈ Gen.fileTypes, e.2.1 ∈ e.2.2 := by decide +kernel

/-- an explicit `--X-T` flag makes T's parser read the file, regardless of its name (both file positions use
    the same functions, see `parserFor`) -/
theorem explicit_type_wins (e : String × String × List String) (he : e ∈ Gen.fileTypes) (guess : Option String) :
    getFiletype guess (selectMime none (some e.1)) = .ok e.1 := by
  rw [alias_from_type_table e he]
  have h := by_mime_of_default e he e.2.1
  have := h (default_mem e he)
  simpa [getFiletype] using this

theorem parserFor_ok {a : Args} {gf gt : Option String} {f t : String} :
    parserFor a gf gt = .ok (f, t) ↔
      getFiletype gf (selectMime a.fromMime a.fromType) = .ok f ∧
      getFiletype gt (selectMime a.toMime a.toType) = .ok t := by
  unfold parserFor
  cases getFiletype gf (selectMime a.fromMime a.fromType) <;>
    cases getFiletype gt (selectMime a.toMime a.toType) <;>
    simp [bind, Except.bind, pure, Except.pure]

/-- the parser of the SECOND file is a function of the to-options and the second file's name only -/
theorem second_file_ignores_first_file_options (a a' : Args) (gf gf' gt : Option String)
    (h1 : a.toMime = a'.toMime) (h2 : a.toType = a'.toType) (f f' t t' : String)
    (hp : parserFor a gf gt = .ok (f, t)) (hp' : parserFor a' gf' gt = .ok (f', t')) : t = t' := by
  have h := (parserFor_ok.1 hp).2
  rw [h1, h2, (parserFor_ok.1 hp').2] at h
  exact (Except.ok.inj h).symm

-- all four hypotheses at once, with first-file options and guesses that differ
example := second_file_ignores_first_file_options
  { fromType := some "yaml", toMime := some "text/x-json5" }
  { fromMime := some "text/csv", toMime := some "text/x-json5", noKeyEdits := true }
  (some "text/plain") none (some "application/xml") rfl rfl "yaml" "csv" "json5" "json5" (by decide +kernel) (by decide +kernel)

/-- `-k` ≡ `--dict-strategy none` -/
theorem alias_k (a : Args) :
    buildOpts { a with noKeyEdits := true, dictStrategy := none }
      = buildOpts { a with noKeyEdits := false, dictStrategy := some "none" } := rfl

/-- `-j` ≡ `-jl -jd` -/
theorem alias_j (a : Args) :
    printerOpts { a with condensed := true } = printerOpts { a with condensed := false, joinLists := true, joinDictItems := true } := rfl

/-- the two join flags are independent: without `-j`, `-jd` does not touch join_lists and `-jl` does not touch
    join_dict_items -/
theorem join_flags_independent (a : Args) (b : Bool) :
    (printerOpts { a with joinDictItems := b }).1 = (printerOpts a).1 ∧
    (printerOpts { a with joinLists := b }).2 = (printerOpts a).2 := by
  simp [printerOpts]

example : printerOpts { joinDictItems := true } = (false, true) := rfl
example : printerOpts { joinLists := true } = (true, false) := rfl

/-- the FIRST file's parser is a function of the from-options and the first file's name only (counterpart of
    `second_file_ignores_first_file_options`) -/
theorem first_file_ignores_second_file_options (a a' : Args) (gf gt gt' : Option String)
    (h1 : a.fromMime = a'.fromMime) (h2 : a.fromType = a'.fromType) (f f' t t' : String)
    (hp : parserFor a gf gt = .ok (f, t)) (hp' : parserFor a' gf gt' = .ok (f', t')) : f = f' := by
  have h := (parserFor_ok.1 hp).1
  rw [h1, h2, (parserFor_ok.1 hp').1] at h
  exact (Except.ok.inj h).symm

example := first_file_ignores_second_file_options
  { fromType := some "json", toType := some "pickle" } { fromType := some "json", toMime := some "text/csv" }
  none none (some "text/plain") rfl rfl "json" "json" "pickle" "csv" (by decide +kernel) (by decide +kernel)

/-- `--dict-strategy auto` is the default -/
theorem default_is_auto (a : Args) (h : a.noKeyEdits = false) :
    buildOpts { a with dictStrategy := none } = buildOpts { a with dictStrategy := some "auto" } := by
  simp [buildOpts, h]

example (m : String) (ty g g' : Option String) : getFiletype g (selectMime (some m) ty) = getFiletype g' (some m) :=
  explicit_mime_wins m ty g g'
example (a : Args) : buildOpts { a with noKeyEdits := true, dictStrategy := none }
      = buildOpts { a with noKeyEdits := false, dictStrategy := some "none" } := alias_k a
example (a : Args) : printerOpts { a with condensed := true }
      = printerOpts { a with condensed := false, joinLists := true, joinDictItems := true } := alias_j a
example := default_is_auto { fromType := some "json", noListEdits := true } rfl

-- non-vacuity: the table is not empty and contains the types the property names
example : ("yaml", "application/x-yaml", ["application/x-yaml", "application/yaml", "text/yaml", "text/x-yaml", "text/vnd.yaml"]) ∈ Gen.fileTypes := by decide +kernel
example : parserFor { fromType := some "yaml", toMime := some "text/x-json5" } (some "text/plain") none = .ok ("yaml", "json5") := by decide +kernel

end GtModel.C14
