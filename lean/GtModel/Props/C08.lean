/-
  C08  "Mappings are unordered, lists are ordered."

  Statements about the L1/L2 models (`build`, `edits`, `diffDocs`), for ALL options, oracles and documents.
  `Doc.PermEq a b` (Proofs/ZeroPerm.lean): `b` is `a` with the key order of any objects, at any depth,
  permuted arbitrarily.
-/
import GtModel.Proofs.EditsOptions
import GtModel.Proofs.PermCost
import GtModel.Props.C02

namespace GtModel.C08
open GtModel

/-- (1) with key edits allowed (`DictNode`, the default) the built tree does not depend on the key order at all:
    `DictNode.from_dict` sorts the pairs, and sorting distinct keys has exactly one result -/
theorem build_perm_dict (o : Opts) (hake : o.ake = true) (a b : Doc) (h : Doc.PermEq a b)
    (hd : a.distinctKeys = true) : build o a = build o b :=
  GtModel.build_perm_dict o hake a b h hd

/-- (1) hence the whole script (every edit, every cost, the oracle queries) of any comparison is IDENTICAL when
    the key order of either document is permuted -/
theorem dict_perm_script (o : Opts) (hake : o.ake = true) (orc : Oracle) (a a' b b' : Doc)
    (ha : Doc.PermEq a a') (hb : Doc.PermEq b b') (hda : a.distinctKeys = true) (hdb : b.distinctKeys = true) :
    diffDocs o orc a b = diffDocs o orc a' b' := by
  unfold diffDocs
  rw [build_perm_dict o hake a a' ha hda, build_perm_dict o hake b b' hb hdb]

/-- non-vacuity: a nested document, its key-permuted copy (inner and outer object re-ordered), distinct keys -/
example :
    let a : Doc := .obj [([97], .scalar (.int 1)), ([98], .list [.obj [([120], .scalar .null), ([121], .scalar (.bool true))]])]
    let b : Doc := .obj [([98], .list [.obj [([121], .scalar (.bool true)), ([120], .scalar .null)]]), ([97], .scalar (.int 1))]
    Doc.PermEq a b ∧ a.distinctKeys = true := by
  refine ⟨?_, by decide⟩
  refine .obj (cs := [([97], .scalar (.int 1)), ([98], .list [.obj [([121], .scalar (.bool true)), ([120], .scalar .null)]])])
    (.cons (.scalar _) (.cons (.list (.cons ?_ .nil)) .nil)) (List.Perm.swap _ _ _)
  exact .obj (cs := [([120], .scalar .null), ([121], .scalar (.bool true))])
    (.cons (.scalar _) (.cons (.scalar _) .nil)) (List.Perm.swap _ _ _)

/-- (2) for EVERY option set (also `allow_key_edits = False`, where `FixedKeyDictNode` keeps insertion order) a
    document and its key-permuted copy build trees that compare equal -/
theorem perm_equal (o : Opts) (a b : Doc) (h : Doc.PermEq a b) : Tree.eq (build o a) (build o b) = true :=
  GtModel.perm_equal o a b h

/-- (2) hence diffing a document against its key-permuted copy reports cost 0 -/
theorem perm_cost_zero (o : Opts) (orc : Oracle) (a b : Doc) (h : Doc.PermEq a b) :
    (diffDocs o orc a b).cost = 0 :=
  eq_imp_cost_zero o orc [] [] _ _ (perm_equal o a b h)

/-- (3) with `allow_key_edits = False` (`FixedKeyDictNode`, insertion order kept, pairs matched BY KEY) the total
    cost of a comparison does not change when the keys of any objects, at any depth, of either document are
    re-ordered; it does not depend on the assignment-solver answers either -/
theorem fdict_perm_cost (o : Opts) (hake : o.ake = false) (orc orc' : Oracle) (a a' b b' : Doc)
    (ha : Doc.PermEq a a') (hb : Doc.PermEq b b') (hda : a.distinctKeys = true) (hdb : b.distinctKeys = true) :
    (diffDocs o orc a b).cost = (diffDocs o orc' a' b').cost := by
  unfold diffDocs
  exact cost_perm o orc orc' [] [] [] [] (build_TPerm o hake ha) (build_TPerm o hake hb)
    (build_WF o a hda) (build_WF o b hdb)

/-- non-vacuity: `{"a": 1, "b": [{"x": null, "y": true}]}` and a copy with both objects re-ordered -/
example :
    let a : Doc := .obj [([97], .scalar (.int 1)), ([98], .list [.obj [([120], .scalar .null), ([121], .scalar (.bool true))]])]
    let b : Doc := .obj [([98], .list [.obj [([121], .scalar (.bool true)), ([120], .scalar .null)]]), ([97], .scalar (.int 1))]
    ({ ake := false } : Opts).ake = false ∧ Doc.PermEq a b ∧ a.distinctKeys = true := by
  refine ⟨rfl, ?_, by decide⟩
  refine .obj (cs := [([97], .scalar (.int 1)), ([98], .list [.obj [([121], .scalar (.bool true)), ([120], .scalar .null)]])])
    (.cons (.scalar _) (.cons (.list (.cons ?_ .nil)) .nil)) (List.Perm.swap _ _ _)
  exact .obj (cs := [([120], .scalar .null), ([121], .scalar (.bool true))])
    (.cons (.scalar _) (.cons (.scalar _) .nil)) (List.Perm.swap _ _ _)

/-- (3) pairing: the `FixedKeyDictNodeEdit` of two objects pairs BY KEY.  Reading every sub-edit of the root script
    as (from-key, to-key, kind, cost) — `subTuple`, through the child indices the edit carries — the multiset of
    these tuples is the same for the original and for the key-permuted documents (objects re-ordered at any depth,
    in either document) -/
theorem fdict_perm_pairing (o : Opts) (hake : o.ake = false) (orc orc' : Oracle)
    (as as' bs bs' : List (Str × Doc))
    (ha : Doc.PermEq (.obj as) (.obj as')) (hb : Doc.PermEq (.obj bs) (.obj bs'))
    (hda : (Doc.obj as).distinctKeys = true) (hdb : (Doc.obj bs).distinctKeys = true) :
    ((diffDocs o orc (.obj as) (.obj bs)).subs.map
        (subTuple (build.buildKV o as) (build.buildKV o bs))).Perm
      ((diffDocs o orc' (.obj as') (.obj bs')).subs.map
        (subTuple (build.buildKV o as') (build.buildKV o bs'))) := by
  have ta := build_TPerm o hake ha
  have tb := build_TPerm o hake hb
  have wa := build_WF o _ hda
  have wb := build_WF o _ hdb
  unfold diffDocs
  simp only [build, hake, Bool.false_eq_true, if_false] at ta tb wa wb ⊢
  exact fdict_subs_perm o orc orc' [] [] [] [] ta tb wa wb

/-- what the tuples look like: `{"a": 1, "b": 2}` against `{"b": 3, "c": 4}` with `allow_key_edits = False` —
    `b` is paired with `b`, `a` is removed, `c` is inserted -/
example :
    let o : Opts := { ake := false }
    let as : List (Str × Doc) := [([97], .scalar (.int 1)), ([98], .scalar (.int 2))]
    let bs : List (Str × Doc) := [([98], .scalar (.int 3)), ([99], .scalar (.int 4))]
    (diffDocs o [] (.obj as) (.obj bs)).subs.map (subTuple (build.buildKV o as) (build.buildKV o bs))
      = [(some [98], some [98], .kvp, 1), (some [97], none, .remove, 5), (none, some [99], .insert, 5)] := by
  intro o as bs
  simp only [diffDocs, build, build.buildKV, o, as, bs, Bool.false_eq_true, if_false]
  simp only [edits_fdict_fdict, kvTbl, List.zipIdx_cons, List.zipIdx_nil, List.map_cons, List.map_nil, edits_leaf,
    fkScript, kvEq, Tree.eq_eqS, subKV_subKVS]
  decide +kernel

/-- non-vacuity of the pairing statement: the same two objects, the second one re-ordered -/
example :
    let as : List (Str × Doc) := [([97], .scalar (.int 1)), ([98], .scalar (.int 2))]
    let as' : List (Str × Doc) := [([98], .scalar (.int 2)), ([97], .scalar (.int 1))]
    Doc.PermEq (.obj as) (.obj as') ∧ (Doc.obj as).distinctKeys = true :=
  ⟨.obj (cs := [([97], .scalar (.int 1)), ([98], .scalar (.int 2))])
    (.cons (.scalar _) (.cons (.scalar _) .nil)) (List.Perm.swap _ _ _), by decide⟩

/-- the same for ANY two FixedKeyDictNodes, wherever they sit (any index paths, any oracles) -/
theorem fdict_perm_pairing_any_node (o : Opts) (orc orc' : Oracle) (fp tp fp' tp' : List Nat)
    {fkv fkv' tkv tkv' : List (Str × Tree)}
    (hf : TPerm (.fdict fkv) (.fdict fkv')) (ht : TPerm (.fdict tkv) (.fdict tkv'))
    (wf : (Tree.fdict fkv).WF = true) (wf' : (Tree.fdict fkv').WF = true)
    (wt : (Tree.fdict tkv).WF = true) (wt' : (Tree.fdict tkv').WF = true) :
    ((edits o orc fp tp (.fdict fkv) (.fdict tkv)).subs.map (subTuple fkv tkv)).Perm
      ((edits o orc' fp' tp' (.fdict fkv') (.fdict tkv')).subs.map (subTuple fkv' tkv')) :=
  fdict_subs_perm o orc orc' fp tp fp' tp' hf ht wf wt

/-- what a FixedKeyDictNodeEdit must look like: its sub-edits are the key-determined pairing -/
def LocalFKPairing (o : Opts) (a b : Nd) (k : Kind) (subs : List Script) : Prop :=
  ∀ fkv tkv, a = .tree (.fdict fkv) → b = .tree (.fdict tkv) → k = .fk →
    (subs.map (subTuple fkv tkv)).Perm (fkv.map (fromTuple (cost0 o) tkv) ++ tkv.filterMap (toTuple fkv))

/-- distinct keys, and no DictNode below (what `build` makes with `allow_key_edits = False`).  `TPerm` has no constructor
    for `dict`, so `TPerm t t` says exactly that `t` holds none (`tperm_refl_of_noDict`, `TPerm.refl_left`). -/
def FkDomain (t : Tree) : Prop := t.WF = true ∧ TPerm t t

theorem treeInv_fkDomain : TreeInv FkDomain := by
  refine ⟨fun s => ⟨rfl, .leaf s⟩, ?_, ?_, ?_⟩
  · intro cs h c hc
    obtain ⟨i, hi, rfl⟩ := List.getElem_of_mem hc
    cases h.2 with
    | list hL => exact ⟨(Tree.wf_list cs).1 h.1 _ hc, (TPermL_iff_forall₂.1 hL).get i hi hi⟩
  · intro kvs h; cases h.2
  · intro kvs h kv hkv
    obtain ⟨q, _, hq⟩ := ((TPerm_fdict_iff _ _).1 h.2).left kv hkv
    exact ⟨((Tree.wf_fdict kvs).1 h.1).2 _ hkv, hq.2.refl_left⟩

theorem localFKPairing_edits (o : Opts) (orc : Oracle) (fp tp : List Nat) (f t : Tree) (hf : FkDomain f) (ht : FkDomain t) :
    LocalFKPairing o (.tree f) (.tree t) (edits o orc fp tp f t).kind (edits o orc fp tp f t).subs := by
  intro fkv tkv ha hb hk
  simp only [Nd.tree.injEq] at ha hb
  subst ha hb
  rw [edits_fdict_fdict] at hk ⊢
  split at hk
  · simp at hk
  · rename_i h
    simp only [h, Bool.false_eq_true, if_false]
    apply fkScript_subs_perm (cost0 o) fkv tkv
    intro i j hi hj
    rw [kvTbl_getD _ _ _ _ _ _ _ _ _ hi hj, getD_eq_getElem _ _ hi, getD_eq_getElem _ _ hj]
    have h1 := treeInv_fkDomain.fdict _ hf _ (List.getElem_mem hi)
    have h2 := treeInv_fkDomain.fdict _ ht _ (List.getElem_mem hj)
    exact cost_perm o _ _ _ _ _ _ h1.2 h2.2 h1.1 h2.1

/-- (3) at EVERY nesting level: every FixedKeyDictNodeEdit of the script pairs by key — for all options, every
    oracle, all trees with distinct keys and no DictNode (every tree `build` makes without key edits) -/
theorem fdict_pairing_every_level (o : Opts) (orc : Oracle) (fp tp : List Nat) (f t : Tree)
    (hf : FkDomain f) (ht : FkDomain t) :
    Walk (LocalFKPairing o) (.tree f) (.tree t) (edits o orc fp tp f t) :=
  walk_edits o orc treeInv_fkDomain (localFKPairing_edits o orc)
    (fun _ _ _ _ _ _ _ _ => by intro fkv tkv ha; cases ha) f fp tp t hf ht

mutual
theorem tperm_refl_of_noDict : ∀ t : Tree, t.noDict = true → TPerm t t
  | .leaf s, _ => .leaf s
  | .list cs, h => .list (tpermL_refl_of_noDict cs (by simpa [Tree.noDict] using h))
  | .dict _, h => by simp [Tree.noDict] at h
  | .fdict kvs, h => .fdict (tpermKV_refl_of_noDict kvs (by simpa [Tree.noDict] using h)) (List.Perm.refl _)
theorem tpermL_refl_of_noDict : ∀ cs : List Tree, noDictL cs = true → TPermL cs cs
  | [], _ => .nil
  | c :: cs, h => by
    simp only [noDictL, Bool.and_eq_true] at h
    exact .cons (tperm_refl_of_noDict c h.1) (tpermL_refl_of_noDict cs h.2)
theorem tpermKV_refl_of_noDict : ∀ kvs : List (Str × Tree), noDictKV kvs = true → TPermKV kvs kvs
  | [], _ => .nil
  | (k, v) :: kvs, h => by
    simp only [noDictKV, Bool.and_eq_true] at h
    exact .cons (tperm_refl_of_noDict v h.1) (tpermKV_refl_of_noDict kvs h.2)
end

/-- (3) at every nesting level, for whole DOCUMENTS compared with `allow_key_edits = False` -/
theorem fdict_pairing_every_level_docs (o : Opts) (hake : o.ake = false) (orc : Oracle) (a b : Doc)
    (hda : a.distinctKeys = true) (hdb : b.distinctKeys = true) :
    Walk (LocalFKPairing o) (.tree (build o a)) (.tree (build o b)) (diffDocs o orc a b) :=
  fdict_pairing_every_level o orc [] [] _ _
    ⟨build_WF o a hda, tperm_refl_of_noDict _ (build_noDict o hake a)⟩
    ⟨build_WF o b hdb, tperm_refl_of_noDict _ (build_noDict o hake b)⟩

/-- the key-determined pairing does not depend on the ORDER of the pairs of either mapping (nor on the order of any
    mapping below): re-ordered mappings have the same multiset of (from-key, to-key, kind, cost) tuples -/
theorem pairing_spec_order_independent (o : Opts) {fkv fkv' tkv tkv' : List (Str × Tree)}
    (hf : TPerm (.fdict fkv) (.fdict fkv')) (ht : TPerm (.fdict tkv) (.fdict tkv'))
    (wf : (Tree.fdict fkv).WF = true) (wf' : (Tree.fdict fkv').WF = true)
    (wt : (Tree.fdict tkv).WF = true) (wt' : (Tree.fdict tkv').WF = true) :
    (fkv.map (fromTuple (cost0 o) tkv) ++ tkv.filterMap (toTuple fkv)).Perm
      (fkv'.map (fromTuple (cost0 o) tkv') ++ tkv'.filterMap (toTuple fkv')) := by
  rw [Tree.wf_fdict] at wf wt
  apply fk_tuples_congr (cost0 o) ((TPerm_fdict_iff _ _).1 hf) ((TPerm_fdict_iff _ _).1 ht) wf.1 wt.1
  intro p hp q hq p' hp' q' hq' hpp hqq
  exact cost_perm o _ _ _ _ _ _ hpp.2 hqq.2 (wf.2 _ hp) (wt.2 _ hq)

/-- non-vacuity: a nested document pair (object in list in object) in the domain, without key edits -/
example :
    let a : Doc := .obj [([97], .scalar (.int 1)), ([98], .list [.obj [([120], .scalar .null), ([121], .scalar (.bool true))]])]
    ({ ake := false } : Opts).ake = false ∧ a.distinctKeys = true ∧ FkDomain (build { ake := false } a) := by
  refine ⟨rfl, by decide, build_WF _ _ (by decide), tperm_refl_of_noDict _ (build_noDict _ rfl _)⟩

/-- (4) swapping two unequal elements of a list is never free: the script of the list against its swapped copy has
    positive cost, for all options (edit distance or fixed-length pairing), oracles and well-formed elements -/
theorem list_swap_positive (o : Opts) (orc : Oracle) (fp tp : List Nat) (pre mid post : List Tree) (x y : Tree)
    (hwf : (Tree.list (pre ++ [x] ++ mid ++ [y] ++ post)).WF = true) (hne : x.eq y = false) :
    0 < (edits o orc fp tp (.list (pre ++ [x] ++ mid ++ [y] ++ post)) (.list (pre ++ [y] ++ mid ++ [x] ++ post))).cost := by
  have hwf' : (Tree.list (pre ++ [y] ++ mid ++ [x] ++ post)).WF = true := by
    simp only [Tree.WF, wfL_iff, List.mem_append, List.mem_singleton] at hwf ⊢
    intro c hc; apply hwf c
    rcases hc with (((h | h) | h) | h) | h <;> simp [h]
  apply Nat.pos_of_ne_zero
  intro h0
  have := (C02.zero_cost_iff_eq o orc fp tp _ _ hwf hwf').1 h0
  simp only [Tree.eq, List.append_assoc, List.singleton_append] at this
  have := eqL_append_cons pre x y _ _ this
  rw [hne] at this; exact Bool.false_ne_true this

/-- non-vacuity: `[1, {"a": 2}, 3]` against `[3, {"a": 2}, 1]` -/
example :
    let x : Tree := .leaf (.int 1)
    let y : Tree := .leaf (.int 3)
    (Tree.list ([] ++ [x] ++ [.dict [([97], .leaf (.int 2))]] ++ [y] ++ [])).WF = true ∧ x.eq y = false := by
  refine ⟨by decide, ?_⟩
  simp [Tree.eq, Scalar.eq]

end GtModel.C08
