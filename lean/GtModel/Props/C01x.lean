/-
  C01 for XML / HTML elements: "the sub-edits of every compound edit account for every element of the first
  container exactly once and every element of the second exactly once, at every nesting level, and keep the
  relative order of list elements."

  Model: `GtModel.Xml.xmlEdits` (Model/XmlEdits.lean), validated against the real engine by stream `scriptxml`.
  The nodes an XML edit relates (`XNd`): elements, child tuples (`XMLElementChildren`), L2 nodes (tag and text
  strings, the attribute mapping and everything below).  Children: of an element = `XMLElement.children()` =
  (tag, attrib, [text], children); of a child tuple = its elements.  Index bookkeeping as in C01:
    `xfromIdx subs`  from-index of every sub-edit that is not an Insert, in script order;
    `xtoIdx subs`    to-index of every sub-edit that is not a Remove (for an Insert its `fi`: the inserted node).
  Per node (`XLocalAcc`): both index lists EQUAL `ixRange` of the number of children: each child exactly once, in
  order.  For an XMLElementEdit this says: its parts are the tag edit, the attribute edit, a text edit exactly when
  either side has text (edit of both texts, or Remove of the from-text, or Insert of the to-text) and the edit of
  the child tuples — in that order, nothing else.
  All levels (`xml_script_accounts`): `XAccounts` holds at the root, every sub-edit that itself has sub-edits names
  existing children (i, j) of the two nodes and `XAccounts` holds for it on those children; the embedded L2 scripts
  satisfy C01's `Accounts` (`C01.script_accounts`: permutations for the attribute MultiSetEdit /
  FixedKeyDictNodeEdit, for EVERY oracle answer).

  Hypothesis `XTree.KeysDistinct`: no attribute mapping holds a name twice (true of every parsed element; needed
  only for the to-side of the attribute edits, exactly as in C01).
-/
import GtModel.Proofs.EditsProject
import GtModel.Proofs.XmlAccounts

namespace GtModel.C01
open GtModel GtModel.Xml

/-- XMLElementEdit: tag, attributes, text (when either side has one), children — each exactly once, in order -/
theorem xml_elem_accounts (o : Opts) (orc : Oracle) (fp tp : List Nat) (ftag ttag : Str) (fattr tattr : Tree)
    (ftext ttext : Option Str) (fcs tcs : List XTree) (tbl : List (List XScript)) :
    let s := elemScript (strEdits ftag ttag) (edits o orc fp tp fattr tattr) (textEdit ftext ttext)
      (kidsIx ftext) (kidsIx ttext) (kidsScript o fcs tcs tbl)
    xfromIdx s.subs = ixRange (XNd.elem (.mk ftag fattr ftext fcs)).children.length ∧
    xtoIdx s.subs = ixRange (XNd.elem (.mk ttag tattr ttext tcs)).children.length :=
  elemScript_idx ftag ttag fattr tattr ftext ttext fcs tcs _ _ (edits_kind_top ..) (kidsScript_top ..)

/-- the number of parts: 3 without text on a side, 4 with -/
theorem xml_elem_children_length (tag : Str) (a : Tree) (x : Option Str) (cs : List XTree) :
    (XNd.elem (.mk tag a x cs)).children.length = if x.isSome then 4 else 3 := by
  cases x <;> rfl

/-- EditDistance over the child elements: each element of both tuples exactly once, in order -/
theorem xml_ed_accounts (o : Opts) (orc : Oracle) (fp tp : List Nat) (kf kt : Nat) (fcs tcs : List XTree) (pen : Nat) :
    xfromIdx (kidsEd fcs tcs pen (kidsTbl o orc fp tp kf kt fcs tcs)).subs = ixRange fcs.length ∧
    xtoIdx (kidsEd fcs tcs pen (kidsTbl o orc fp tp kf kt fcs tcs)).subs = ixRange tcs.length :=
  kidsEd_idx fcs tcs pen _ (kidsTbl_top o orc fp tp kf kt fcs tcs)

/-- FixedLengthSequenceEdit over the child elements: each element of both tuples exactly once, in order -/
theorem xml_fixed_accounts (o : Opts) (orc : Oracle) (fp tp : List Nat) (kf kt : Nat) (fcs tcs : List XTree) :
    xfromIdx (kidsFixed fcs tcs (kidsTbl o orc fp tp kf kt fcs tcs)).subs = ixRange fcs.length ∧
    xtoIdx (kidsFixed fcs tcs (kidsTbl o orc fp tp kf kt fcs tcs)).subs = ixRange tcs.length :=
  kidsFixed_idx fcs tcs _ (kidsTbl_top o orc fp tp kf kt fcs tcs)

/-- C01 for XML: the script accounts for both elements at every nesting level -/
theorem xml_script_accounts (o : Opts) (orc : Oracle) (fp tp : List Nat) (f t : XTree)
    (hf : f.KeysDistinct) (ht : t.KeysDistinct) :
    XAccounts (.elem f) (.elem t) (xmlEdits o orc fp tp f t) :=
  xaccounts_xmlEdits o orc f fp tp t hf ht

/-- C01 for whole XML documents -/
theorem xml_script_accounts_docs (o : Opts) (orc : Oracle) (f t : XDoc)
    (hf : XDoc.keysDistinct f = true) (ht : XDoc.keysDistinct t = true) :
    XAccounts (.elem (xbuild o f)) (.elem (xbuild o t)) (diffXml o orc f t) :=
  xml_script_accounts o orc [] [] _ _ (xbuild_keysDistinct o f hf) (xbuild_keysDistinct o t ht)

/-- the from-children a compound XML edit keeps when everything inserted is discarded -/
def xkeepFrom (a : XNd) (subs : List XScript) : List XNd := pick a.children (xfromIdx subs)
/-- the to-children a compound XML edit keeps when everything removed is discarded -/
def xkeepTo (b : XNd) (subs : List XScript) : List XNd := pick b.children (xtoIdx subs)

/-- every compound XML edit keeps exactly the children of the first node when the insertions are discarded and
    exactly the children of the second when the removals are discarded, in order -/
theorem xml_keep_reproduces {a b : XNd} {k : XKind} {subs : List XScript} (h : XLocalAcc a b k subs)
    (hk : k.hasSubs = true) : xkeepFrom a subs = a.children ∧ xkeepTo b subs = b.children := by
  have h := (h hk).2
  simp only [xkeepFrom, xkeepTo, h.1, h.2, pick_ixRange, and_self]

-- non-vacuity of `xml_keep_reproduces`: `<a>x</a>` → `<a/>` (text removed): a concrete `XLocalAcc` instance
def auditXa : XTree := .mk [97] (.dict []) (some [120]) []
def auditXb : XTree := .mk [97] (.dict []) none []
def auditXsubs : List XScript :=
  (elemScript (mkMatch 0) (mkMatch 0) (textEdit (some [120]) none) 3 2 (xMatch 0)).subs
theorem audit_xLocalAcc : XLocalAcc (.elem auditXa) (.elem auditXb) .elem auditXsubs := by
  intro _; exact ⟨trivial, by decide +kernel⟩
example : xkeepFrom (.elem auditXa) auditXsubs = (XNd.elem auditXa).children ∧
    xkeepTo (.elem auditXb) auditXsubs = (XNd.elem auditXb).children :=
  xml_keep_reproduces audit_xLocalAcc rfl

/-- the hypothesis is satisfiable by a non-trivial document … -/
example : XDoc.keysDistinct (.mk [97] [([107], [49]), ([108], [50])] (some [120]) none
    [.mk [98] [([107], [49])] none (some [116]) [], .mk [99] [] none none []]) = true := by decide
/-- … and can fail (a duplicated attribute, which no parser delivers) -/
example : XDoc.keysDistinct (.mk [97] [([107], [49]), ([107], [50])] none none []) = false := by decide

/-- `<a> x</a>` → `<a>x<b/></a>`-shaped element edit: tag (0,0), attrib (1,1), text (2,2), children (3,3) -/
example :
    let s := elemScript (mkMatch 0) (mkMatch 0) (textEdit (some [32, 120]) (some [120])) 3 3 (xMatch 0)
    xfromIdx s.subs = [.at 0, .at 1, .at 2, .at 3] ∧ xtoIdx s.subs = [.at 0, .at 1, .at 2, .at 3] := by
  decide +kernel

/-- text only on the first element: the text is removed (from-index 2), the children sit at 3 on the from side and
    at 2 on the to side -/
example :
    let s := elemScript (mkMatch 0) (mkMatch 0) (textEdit (some [120]) none) 3 2 (xMatch 0)
    xfromIdx s.subs = [.at 0, .at 1, .at 2, .at 3] ∧ xtoIdx s.subs = [.at 0, .at 1, .at 2] := by
  decide +kernel

/-- the bookkeeping notices a part that is accounted twice or not at all -/
example : xfromIdx [XScript.emb (mkMatch 0 |>.relabel (.at 0) (.at 0)), xMatch 0 |>.relabel (.at 2) (.at 2)] ≠ ixRange 3 := by
  decide

end GtModel.C01
