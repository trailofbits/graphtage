/-
  C13 — any input type can be rendered in any output format and mode  (PARTIAL).
  What is modelled and proved: the DISPATCH of `GraphtageFormatter.print` — `formatter.get_formatter`, a stateful
  search through the formatter tree driven by class MRO names — over tables regenerated from /repo on every run
  (every registered formatter with its `print_*` methods and sub-formatters; every TreeNode and edit class with its
  MRO).  `dispatch_total`: for every registered root formatter (and every sub-formatter instance, and the Edited
  variants) and every concrete node class, the search RETURNS A HANDLER (no fallback needed), so rendering can never
  fail for want of a handler — by an argument, `Dispatch.getFormatter_isSome`: a registered root formatter with a method
  of its own for a class of the MRO is never skipped (on the tables of the present /repo `JSONFormatter`, with
  `print_ContainerNode` and `print_LeafNode`); edits: `GraphtageFormatter.print` tries a formatter method for the edit
  class, then `edit.print`, then (NotImplementedError) the handler of the edit's from-node, which `dispatch_total`
  provides;
  `string_edit_dispatch_total` / `edit_dispatch_exact` say which edit classes are resolved at the first step
  (`edit_dispatch_total` is true by an always-true disjunct and is not registered for the property).
  The model of the search is validated EXHAUSTIVELY on every run (stream `dispatch`: every (formatter instance,
  class) pair, plain and Edited variants, against the real `get_formatter`).
  NOT modelled: the ~1 500 lines of handler bodies.  That part of C13 is decided on the real code only, by the
  exhaustive enumeration of the configuration space in stream `matrix` (input type x output format x mode x colour
  x condensed x with/without differences); the recorded findings D11 / D18 live in handler bodies.
-/
import GtModel.Gen.FormatterTables
import GtModel.Proofs.Dispatch
import GtModel.Proofs.ListBasic

namespace GtModel.C13
open GtModel.Dispatch

/-- the class is not abstract (fourth component of a row of `Gen.nodeClasses` / `Gen.editClasses`) -/
def concrete (c : String × List String × Bool × Bool) : Bool := !c.2.2.2

/-- the MRO of the dynamically created `Edited<cls>` class of a node class -/
def editedMro (c : String × List String × Bool × Bool) : List String := ("Edited" ++ c.1) :: "EditedTreeNode" :: c.2.1

/-- What is evaluated on the generated tables.  Every concrete node class and `StringEdit` are `caught` by a registered
    root, which gives a handler from every starting instance by an argument (`caught_isSome`); should a regenerated
    table lose that for a class, the searches for it are run from every instance instead.  One declaration, so that
    the string literals of the tables are expanded once. -/
theorem evaluated :
    (∀ c ∈ Gen.nodeClasses, concrete c = true → caught Gen.formatters c.2.1 = true ∨
      ∀ ri ∈ List.range Gen.formatters.length, ∀ p ∈ allPaths (Gen.formatters.getD ri (.mk "" [] [])),
        (getFormatter Gen.formatters (some (ri, p)) c.2.1).isSome = true ∧
        (getFormatter Gen.formatters (some (ri, p)) (editedMro c)).isSome = true) ∧
    (∀ c ∈ Gen.editClasses, c.1 = "StringEdit" → caught Gen.formatters c.2.1 = true ∨
      ∀ ri ∈ List.range Gen.formatters.length, ∀ p ∈ allPaths (Gen.formatters.getD ri (.mk "" [] [])),
        (getFormatter Gen.formatters (some (ri, p)) c.2.1).isSome = true) ∧
    (∀ c ∈ Gen.editClasses, c.1 ≠ "StringEdit" → ∀ f ∈ Gen.formatters, offers c.2.1 f = false) ∧
    (∀ ri ∈ List.range Gen.formatters.length, ∀ c ∈ Gen.nodeClasses ++ Gen.editClasses.filter (·.1 == "StringEdit"),
      (scan (Gen.formatters.getD ri (.mk "" [] [])) c.2.1).isSome = true ∨
      offers c.2.1 (Gen.formatters.getD ri (.mk "" [] [])) = false ∨
      (getF (Gen.formatters.getD ri (.mk "" [] [])) c.2.1 FUEL [] []).1
        = (getF (Gen.formatters.getD ri (.mk "" [] [])) c.2.1 (2 * FUEL) [] []).1) := by
  decide +kernel

/-- every concrete node class is handled by a `print_*` METHOD OF SOME FORMATTER, starting from every registered
    root formatter and from every sub-formatter instance (sub-formatters call `self.get_formatter`), and so are the
    `Edited<cls>` variants that an annotated diff tree consists of — the fallback to the node's own `print` is never
    needed (no disjunct: a handler is found) -/
theorem dispatch_total_from_subformatters :
    ∀ ri ∈ List.range Gen.formatters.length, ∀ p ∈ allPaths (Gen.formatters.getD ri (.mk "" [] [])),
      ∀ c ∈ Gen.nodeClasses, concrete c = true →
      (getFormatter Gen.formatters (some (ri, p)) c.2.1).isSome = true ∧
      (getFormatter Gen.formatters (some (ri, p)) (editedMro c)).isSome = true :=
  fun ri hri p hp c hc hcc => (evaluated.1 c hc hcc).elim
    (fun h => ⟨caught_isSome h [] _, caught_isSome h [_, _] _⟩) fun h => h ri hri p hp

theorem dispatch_total :
    ∀ ri ∈ List.range Gen.formatters.length, ∀ c ∈ Gen.nodeClasses, concrete c = true →
      (getFormatter Gen.formatters (some (ri, [])) c.2.1).isSome = true :=
  fun ri hri c hc hcc => (dispatch_total_from_subformatters ri hri [] (nil_mem_allPaths _) c hc hcc).1

theorem edit_has_print : ∀ c ∈ Gen.editClasses, c.2.2.1 = true := by decide +kernel

/-- Not registered for the property: every concrete edit class has a formatter method OR an own `print` attribute.
    The right disjunct is true of EVERY row of the table (`AbstractEdit` / `AbstractCompoundEdit` define `print`), so
    this statement holds whatever the dispatch does — it says nothing about the search.  What the code really relies
    on for edits is the three-step protocol of `GraphtageFormatter.print` (tree.py): (1) a formatter method for the
    edit class, else (2) `edit.print`, and when that raises NotImplementedError (KeyValuePairEdit, StringEdit)
    (3) the handler of the edit's from-NODE — which exists for every concrete node class under every formatter
    instance by `dispatch_total` / `dispatch_total_from_subformatters`.  So rendering an edit can never fail for want
    of a handler because of step (3); the statements about step (1) that do have content are the two below. -/
theorem edit_dispatch_total :
    ∀ ri ∈ List.range Gen.formatters.length, ∀ c ∈ Gen.editClasses, concrete c = true →
      (getFormatter Gen.formatters (some (ri, [])) c.2.1).isSome = true ∨ c.2.2.1 = true :=
  fun _ _ c hc _ => .inr (edit_has_print c hc)

/-- step (1), no disjunct: `StringEdit` — the edit whose own `print` refuses (raises NotImplementedError) and whose
    rendering is formatter specific — is resolved to a `print_StringEdit` METHOD OF SOME FORMATTER under every
    registered root formatter and from every sub-formatter instance -/
theorem string_edit_dispatch_total :
    ∀ ri ∈ List.range Gen.formatters.length, ∀ p ∈ allPaths (Gen.formatters.getD ri (.mk "" [] [])),
      ∀ c ∈ Gen.editClasses, c.1 = "StringEdit" →
      (getFormatter Gen.formatters (some (ri, p)) c.2.1).isSome = true :=
  fun ri hri p hp c hc hcc => (evaluated.2.1 c hc hcc).elim (fun h => caught_isSome h [] _) fun h => h ri hri p hp

/-- an edit class other than `StringEdit` resolves to no formatter method, whatever the starting formatter: no
    formatter instance has a `print_` method for a class of its MRO -/
theorem other_edits_unresolved (c : String × List String × Bool × Bool) (hc : c ∈ Gen.editClasses)
    (h : c.1 ≠ "StringEdit") (base : Option (Nat × List Nat)) : getFormatter Gen.formatters base c.2.1 = none :=
  getFormatter_none (evaluated.2.2.1 c hc h) base

/-- step (1), exactly: under every root formatter the edit classes that resolve to a formatter method are
    `StringEdit` and nothing else — every other edit class is printed by its own `print` (step 2) or, for
    `KeyValuePairEdit`, by its node's handler (step 3, `dispatch_total`).  A tripwire for the regenerated tables: a new
    `print_<Edit>` method or a renamed one changes this list. -/
theorem edit_dispatch_exact :
    ∀ ri ∈ List.range Gen.formatters.length,
      (Gen.editClasses.filter fun c => (getFormatter Gen.formatters (some (ri, [])) c.2.1).isSome).map (·.1)
        = ["StringEdit"] := by
  intro ri hri
  have resolved : ∀ c ∈ Gen.editClasses,
      (getFormatter Gen.formatters (some (ri, [])) c.2.1).isSome = (c.1 == "StringEdit") := by
    intro c hc
    by_cases h : c.1 = "StringEdit"
    · simp [h, string_edit_dispatch_total ri hri [] (nil_mem_allPaths _) c hc h]
    · simp [h, other_edits_unresolved c hc h]
  rw [List.filter_congr resolved]
  decide +kernel

/-- the search is not trivially successful on edit classes: `Match` resolves to NO formatter method -/
example : ∀ ri ∈ List.range Gen.formatters.length, ∀ c ∈ Gen.editClasses, c.1 = "Match" →
    (getFormatter Gen.formatters (some (ri, [])) c.2.1).isSome = false := by
  intro ri _ c hc hm
  simp [other_edits_unresolved c hc (by simp [hm])]

/-- at a root, with nothing tested yet, doubling the fuel changes no answer on the generated tables -/
theorem fuel_sufficient :
    ∀ ri ∈ List.range Gen.formatters.length, ∀ c ∈ Gen.nodeClasses ++ Gen.editClasses,
      (getF (Gen.formatters.getD ri (.mk "" [] [])) c.2.1 FUEL [] []).1
        = (getF (Gen.formatters.getD ri (.mk "" [] [])) c.2.1 (2 * FUEL) [] []).1 := by
  intro ri hri c hc
  by_cases hs : c ∈ Gen.editClasses ∧ c.1 ≠ "StringEdit"
  · exact fuel_irrelevant (.inr (evaluated.2.2.1 c hs.1 hs.2 _ (getD_mem _ _ _ (List.mem_range.1 hri))))
      (by decide) (by decide)
  · have hc' : c ∈ Gen.nodeClasses ++ Gen.editClasses.filter (·.1 == "StringEdit") := by
      simp only [List.mem_append, List.mem_filter, beq_iff_eq] at hc ⊢
      exact hc.imp_right fun h => ⟨h, Classical.not_not.1 fun h' => hs ⟨h, h'⟩⟩
    rcases evaluated.2.2.2 ri hri c hc' with h | h | h
    · exact fuel_irrelevant (.inl h) (by decide) (by decide)
    · exact fuel_irrelevant (.inr h) (by decide) (by decide)
    · exact h

/-- the statements are not true of whatever tables: with a single root that has no `print_*` method `IntegerNode` finds
    no handler -/
example : (getFormatter [Fmt.mk "GraphtageFormatter" [] []] (some (0, [])) ["IntegerNode", "LeafNode", "TreeNode", "object"]).isSome = false := by
  decide +kernel

example : Gen.formatters.length ≥ 8 ∧ Gen.nodeClasses.length ≥ 30 := by decide
example : getFormatter Gen.formatters (some (2, [])) ["DictNode", "MappingNode", "MultiSetNode", "SequenceNode", "ContainerNode", "TreeNode", "Sized", "Generic", "ABC", "object"]
    = some ("JSONDictFormatter", "print_MappingNode") := by decide +kernel

end GtModel.C13
