/-
  C10 "Matching options restrict the script as documented."

  All statements are `Walk P a b s` (Proofs/EditsWalk.lean): `P` holds for the root edit and the node pair it
  relates, and for every sub-edit with sub-edits on the children its indices name, at every nesting level.

  (1) `none_no_cross_key`      FixedKeyDictNodeEdit (the only mapping edit when `allow_key_edits = False`,
                               `none_no_multiset`) pairs two items only if their keys are EQUAL.
  (2) `auto_same_key_paired`   with `auto_match_keys` every key present in both DictNodes is paired with itself
                               (there is a KeyValuePairEdit sub-edit (i, j) with key i = key j = that key).
                               No distinct-keys hypothesis is needed for this direction.
  (3) `no_list_edits_positional`               with `allow_list_edits = False` every list-vs-list edit that is not a
                               plain Match is a FixedLengthSequenceEdit whose sub-edits are (0,0)…(k-1,k-1), k = min n m,
                               followed by the removals of from-indices k..n-1 or the insertions of to-indices k..m-1.
  (4) `no_list_edits_same_length_positional`   with `allow_list_edits_when_same_length = False` the same for lists of
                               EQUAL length (then there is no surplus tail at all).

  Reach of the options (graphtage.py, json.py, builder.py, csv.py, xml.py): `allow_list_edits*` are fields of
  `ListNode` read by `ListNode.edits`; `json.build_tree` / `BasicBuilder` (JSON, JSON5, YAML, PLIST, pydiff lists) set
  them from the options, and so do `csv.build_tree` for `CSVNode(...)` (the rows) and every `CSVRow(...)` (its cells)
  and `XMLElement.__init__` for `XMLElementChildren(...)` (the child elements).
  A CSV table is, for `edits`, the tree `build o` makes of a list (rows) of lists (cells) of strings — (3), (4) apply to
  it as they stand (stream `script`, cases `via: csv`, runs the real CSV loader against `edits o` on that tree under
  every option set).  XML / HTML elements: Props/C10x.lean (`xml_no_list_edits_positional`, …; model `Xml.kidsScript o`).
  `allow_key_edits` selects DictNode vs FixedKeyDictNode in `build_tree` (model: `build`); `auto_match_keys` is copied
  to `DictNode.auto_match_keys` and read by `DictNode.edits` → `MultiSetEdit(auto_match_keys=…)`.
-/
import GtModel.Proofs.EditsOptions

namespace GtModel.C10
open GtModel

/-- (1) a FixedKeyDictNodeEdit never pairs items with different keys — at every level, for all options -/
theorem none_no_cross_key (o : Opts) (orc : Oracle) (fp tp : List Nat) (f t : Tree) :
    Walk LocalFK (.tree f) (.tree t) (edits o orc fp tp f t) :=
  walk_edits o orc treeInv_true (fun fp tp f t _ _ => localFK_edits o orc fp tp f t)
    (fun _ _ _ _ _ _ _ _ _ _ => nofun) f fp tp t trivial trivial

/-- (1') with `allow_key_edits = False` no MultiSetEdit occurs anywhere in the script: every mapping edit is a
    FixedKeyDictNodeEdit, to which (1) applies -/
theorem none_no_multiset (o : Opts) (h : o.ake = false) (orc : Oracle) (f t : Doc) :
    Walk LocalNoMs (.tree (build o f)) (.tree (build o t)) (diffDocs o orc f t) :=
  walk_edits o orc treeInv_noDict (fun fp tp f t hf _ => localNoMs_edits o orc fp tp f t hf)
    (fun _ _ _ _ _ _ _ _ => by simp [LocalNoMs]) _ [] [] _ (build_noDict o h f) (build_noDict o h t)

/-- (2) auto key matching pairs every shared key with itself, in every MultiSetEdit of the script -/
theorem auto_same_key_paired (o : Opts) (hamk : o.amk = true) (orc : Oracle) (fp tp : List Nat) (f t : Tree) :
    Walk LocalAuto (.tree f) (.tree t) (edits o orc fp tp f t) :=
  walk_edits o orc treeInv_true (fun fp tp f t _ _ => localAuto_edits o hamk orc fp tp f t)
    (fun _ _ _ _ _ _ _ _ _ _ => nofun) f fp tp t trivial trivial

/-- (3) list edits off: only positional pairs plus a surplus tail -/
theorem no_list_edits_positional (o : Opts) (h : o.ale = false) (orc : Oracle) (fp tp : List Nat) (f t : Tree) :
    Walk (LocalPos fun _ _ => True) (.tree f) (.tree t) (edits o orc fp tp f t) :=
  walk_edits o orc treeInv_true
    (fun fp tp f t _ _ => localPos_edits o _ (fun _ _ _ => by simp [h]) orc fp tp f t)
    (fun _ _ _ _ _ _ _ _ _ _ => nofun) f fp tp t trivial trivial

/-- (4) list edits off for equal lengths: equal-length lists are edited positionally -/
theorem no_list_edits_same_length_positional (o : Opts) (h : o.alesl = false) (orc : Oracle) (fp tp : List Nat)
    (f t : Tree) :
    Walk (LocalPos fun n m => n = m) (.tree f) (.tree t) (edits o orc fp tp f t) :=
  walk_edits o orc treeInv_true
    (fun fp tp f t _ _ => localPos_edits o _ (fun n m e => by simp [h, e]) orc fp tp f t)
    (fun _ _ _ _ _ _ _ _ _ _ => nofun) f fp tp t trivial trivial

/-- (3) read off at the root: two different lists under `allow_list_edits = False` -/
theorem no_list_edits_root (o : Opts) (h : o.ale = false) (orc : Oracle) (fp tp : List Nat) (fcs tcs : List Tree)
    (hne : (edits o orc fp tp (.list fcs) (.list tcs)).kind ≠ .match_) :
    (edits o orc fp tp (.list fcs) (.list tcs)).kind = .fixed ∧
    (edits o orc fp tp (.list fcs) (.list tcs)).subs.map Script.shape = positionalShape fcs.length tcs.length :=
  ((walk_iff _ _ _).1 (no_list_edits_positional o h orc fp tp (.list fcs) (.list tcs))).1 fcs tcs rfl rfl hne trivial

/-- the option hypotheses are satisfiable -/
example : ({ ake := false } : Opts).ake = false ∧ ({ ale := false } : Opts).ale = false ∧
    ({ alesl := false } : Opts).alesl = false ∧ ({} : Opts).amk = true := by decide

/-- `no_list_edits_root`'s hypothesis holds for two different lists -/
example : (edits { ale := false } [] [] [] (.list [.leaf .null, .leaf (.float [49])]) (.list [.leaf (.float [50])])).kind
    ≠ .match_ := by
  rw [edits_list_list, eqL_eqLS, if_neg (by decide), if_pos (by decide)]
  decide

/-- 3 elements against 1 with list edits off: pair (0,0), then the surplus tail 1, 2 removed -/
example : (fixedScript [.leaf .null, .leaf (.float [49]), .leaf .null] [.leaf (.float [50])] [[mkMatch 1]]).subs.map Script.shape
    = [(.pair, .at 0, .at 0), (.rem, .at 1, .none), (.rem, .at 2, .none)] := by decide +kernel
example : positionalShape 1 3 = [(.pair, .at 0, .at 0), (.ins, .at 1, .none), (.ins, .at 2, .none)] := by decide
/-- the shape predicate rejects a script that re-orders elements -/
example : [Script.mk .match_ (.at 1) (.at 0) 0 [], Script.mk .match_ (.at 0) (.at 1) 0 []].map Script.shape
    ≠ positionalShape 2 2 := by decide

def fkvE : List (Str × Tree) := [([97], .leaf (.float [49])), ([98], .leaf .null), ([99], .leaf (.str [120]))]
def tkvE : List (Str × Tree) := [([98], .leaf (.float [50])), ([100], .leaf (.float [49])), ([97], .leaf (.float [49]))]

/-- FixedKeyDictNodeEdit on {a, b, c} → {b, d, a}: a↦2 and b↦0 (equal keys), c removed, d inserted -/
example : (fkScript fkvE tkvE []).subs.map Script.shape =
    [(.pair, .at 0, .at 2), (.pair, .at 1, .at 0), (.rem, .at 2, .none), (.ins, .at 1, .none)] := by
  simp only [fkScript, kvEq, Tree.eq_eqS]
  decide +kernel

/-- MultiSetEdit with auto key matching on the same pairs: the shared keys a and b are paired with themselves
    (a↦2, b↦0); c and d are left to the matcher -/
example : ((msScript true [] [] [] fkvE tkvE []).subs.map Script.shape).take 2 =
    [(.pair, .at 0, .at 2), (.pair, .at 1, .at 0)] := by
  simp only [msScript, kvEq, Tree.eq_eqS]
  decide +kernel

end GtModel.C10
