/-
  C15 — "Minimum-weight assignment is valid and optimal".

  All theorems are about `GtModel.Assign.minWeightBipartiteMatching solve inp`, the exact model of
  `graphtage.matching.min_weight_bipartite_matching` with the external solver (`scipy.optimize.linear_sum_assignment`)
  as the parameter `solve`.  They hold for EVERY solver whose answer on the matrix it is shown satisfies the
  contract (`SolverValidOn` = structural part, `SolverMeetsContractOn` = structural part + minimality), for tables of
  any size.  Weights are `Int`s: `int` weights as they are, `bool` as 0/1, `float` weights (dyadic rationals) scaled by
  the common power-of-two denominator `inp.unit` — comparisons and sums are invariant under that scaling and the only
  constant in the code, the `+ 1` of the sentinel, is scaled along (`+ inp.unit`).

  The validity / optimality theorems are stated for the value the function RETURNS (`… = .ok res`); that it returns is
  `minWeight_ok_on_domain`: weights ≥ 0 of one Python type, `int` weights and sentinel < 2^63.
  Outside that domain: `error_domain` lists the raising branches; float tables reaching 2^53 (model ≠ code: the
  sentinel's `+ 1` is absorbed in float64) and int tables reaching 2^63 are not claimed.
  The hypotheses `BoolOK`, `SingleType` and the inversion lemmas the proofs start from (`result_cases`, `prepare_error`)
  are at the end of `Proofs/Assign`.
-/
import GtModel.Proofs.Assign

namespace GtModel.C15
open GtModel.Assign GtModel.Gen

/-- `get_dtype` only returns a dtype of the table whose TRUE numpy range contains `[lo, hi]`, so
    `np.array(weights, dtype=get_dtype(min_edge, max_edge))` neither wraps nor raises. -/
theorem get_dtype_sound {lo hi : Int} {d : DtypeRow} (h : getDtype lo hi = some d) :
    d.trueLo ≤ lo ∧ hi ≤ d.trueHi := getDtype_sound h

/-- The fallback `np.dtype(int)` is int64 with the usual range. -/
theorem fallback_is_int64 :
    fallbackDtype.name = "int64" ∧ fallbackDtype.trueLo = -(2 ^ 63) ∧ fallbackDtype.trueHi = 2 ^ 63 - 1 := by decide

/-- The fallback is reached only for ranges that do NOT fit int64: whenever `get_dtype` falls through the table,
    the numpy conversion raises `OverflowError` (the model's `fitsDtype` check fails). -/
theorem get_dtype_fallback {lo hi : Int} (h : getDtype lo hi = none) :
    getDtypeRow lo hi = fallbackDtype ∧ fitsDtype fallbackDtype lo hi = false := by
  refine ⟨by simp [getDtypeRow, h], ?_⟩
  have : ¬ (-(2 ^ 63) ≤ lo ∧ hi < 2 ^ 63) := fun ⟨h1, h2⟩ => by
    obtain ⟨d, hd⟩ := getDtype_some_of_int64 h1 h2
    simp [h] at hd
  unfold fitsDtype fallbackDtype
  simp only [Bool.and_eq_false_iff, decide_eq_false_iff_not]
  omega

/-- A dtype chosen from the table always fits (no `OverflowError` from a table row). -/
theorem no_overflow_from_table {lo hi : Int} {d : DtypeRow} (h : getDtype lo hi = some d) :
    fitsDtype d lo hi = true := getDtype_fits h

example : getDtype 0 255 = some ⟨0, 256, "uint8", 0, 255⟩ := by decide
example : getDtype 0 256 = some ⟨0, 65536, "uint16", 0, 65535⟩ := by decide
example : getDtype (-1) 9223372036854775808 = none := by decide

/-- Structural part: distinct in-range rows, distinct in-range columns, exactly `min n m` pairs. -/
def SolverValidOn (solve : Dense → Ans) (inp : Input) : Prop :=
  ∀ p, prepare inp = .ok (some p) → (solve (p.dense inp)).Valid inp.n inp.m

/-- Full contract: additionally of minimum total on the matrix shown. -/
def SolverMeetsContractOn (solve : Dense → Ans) (inp : Input) : Prop :=
  ∀ p, prepare inp = .ok (some p) → Contract (p.dense inp) (solve (p.dense inp))

theorem SolverMeetsContractOn.valid {solve : Dense → Ans} {inp : Input} (h : SolverMeetsContractOn solve inp) :
    SolverValidOn solve inp := fun p hp => (h p hp).1

/-- The executable check `validateB` implies the contract (the brute force enumerates every candidate assignment).
    The driver applies its two conjuncts to every recorded scipy answer: `Ans.Valid` always, `isOptimalB` when the
    table is at most 6 × 6 and the float64 sums are exact. -/
theorem validate_sound {d : Dense} {a : Ans} (h : validateB d a = true) : Contract d a := by
  unfold validateB at h
  rw [Bool.and_eq_true, decide_eq_true_eq] at h
  exact ⟨h.1, isOptimalB_sound h.2⟩

/-- What the driver does with a recorded scipy answer `a`: if the executable check passes on the matrix the model
    shows, the constant solver `fun _ => a` meets the contract on this input, so every theorem below applies to
    the result the driver computes from it. -/
theorem recorded_answer_meets_contract {inp : Input} {p : Prep} {a : Ans}
    (hp : prepare inp = .ok (some p)) (h : validateB (p.dense inp) a = true) :
    SolverMeetsContractOn (fun _ => a) inp := by
  intro p' hp'
  rw [hp] at hp'
  simp only [Except.ok.injEq, Option.some.injEq] at hp'
  subst hp'
  exact validate_sound h

/-- The returned pairing is one-to-one: distinct from-indices and distinct to-indices. -/
theorem result_is_injection {solve : Dense → Ans} {inp : Input} {res : List Pair}
    (hs : SolverValidOn solve inp) (h : minWeightBipartiteMatching solve inp = .ok res) :
    (res.map (·.f)).Nodup ∧ (res.map (·.t)).Nodup := by
  rcases result_cases h with ⟨_, rfl⟩ | ⟨p, hp, rfl⟩
  · simp
  · obtain ⟨_, _, hrn, hcn, _, _⟩ := hs p hp
    exact ⟨(finish_f_sublist inp p _).nodup hrn, (finish_t_sublist inp p _).nodup hcn⟩

/-- Every reported pair lies inside the table and had a non-`None` weight. -/
theorem only_existing_pairs {solve : Dense → Ans} {inp : Input} {res : List Pair}
    (hs : SolverValidOn solve inp) (h : minWeightBipartiteMatching solve inp = .ok res) :
    ∀ q ∈ res, q.f < inp.n ∧ q.t < inp.m ∧ (inp.cell q.f q.t).isSome = true := by
  intro q hq
  rcases result_cases h with ⟨_, rfl⟩ | ⟨p, hp, rfl⟩
  · cases hq
  · obtain ⟨hz, hc, _⟩ := mem_finish hq
    exact ⟨((hs p hp).zip_lt hz).1, ((hs p hp).zip_lt hz).2, by simp [hc]⟩

/-- The reported weight (and its Python type) is the table's weight for that pair — for ANY solver answer. -/
theorem reports_true_weights {solve : Dense → Ans} {inp : Input} {res : List Pair}
    (h : minWeightBipartiteMatching solve inp = .ok res) :
    ∀ q ∈ res, inp.cell q.f q.t = some ⟨q.ty, q.w⟩ := by
  intro q hq
  rcases result_cases h with ⟨_, rfl⟩ | ⟨p, hp, rfl⟩
  · cases hq
  · exact (mem_finish hq).2.1

/-- With no missing pair the function pairs as many items as possible: exactly `min n m`. -/
theorem pairs_min_n_m {solve : Dense → Ans} {inp : Input} {res : List Pair}
    (hs : SolverValidOn solve inp) (hcomplete : hasNull inp = false)
    (h : minWeightBipartiteMatching solve inp = .ok res) :
    res.length = min inp.n inp.m := by
  rcases result_cases h with ⟨hp, rfl⟩ | ⟨p, hp, rfl⟩
  · rw [complete_none_empty hcomplete hp]; rfl
  · rw [finish_eq, (hs p hp).length_zip.symm]
    exact (keep_all_sum (filledW inp 0) _
      (complete_kept hcomplete hp (hs p hp) _ fun i j c _ _ hc => by simp [filledW, hc])).1

/-- With no missing pair the total reported weight is the smallest achievable: it does not exceed the total of
    ANY one-to-one assignment `b` of `min n m` pairs, measured with the table's own weights `w`.
    (`w` is any function that agrees with the table on existing pairs — no default value is invented.) -/
theorem total_is_minimum {solve : Dense → Ans} {inp : Input} {res : List Pair}
    (hs : SolverMeetsContractOn solve inp) (hb : BoolOK inp) (hcomplete : hasNull inp = false)
    (h : minWeightBipartiteMatching solve inp = .ok res)
    (w : Nat → Nat → Int) (hw : ∀ i j c, inp.cell i j = some c → w i j = c.w)
    (b : Ans) (hbv : b.Valid inp.n inp.m) :
    (res.map (·.w)).sum ≤ total w b := by
  rcases result_cases h with ⟨hp, rfl⟩ | ⟨p, hp, rfl⟩
  · have : b.rows = [] := List.eq_nil_of_length_eq_zero (hbv.1.trans (complete_none_empty hcomplete hp))
    simp [total, this]
  · obtain ⟨hv, hmin⟩ := hs p hp
    rw [finish_eq, (keep_all_sum p.shown _
      (complete_kept hcomplete hp hv _ fun _ _ _ hi hj hc => shown_eq_table hb hp hi hj hc)).2]
    refine Int.le_trans (hmin b hbv) (Int.le_of_eq (total_congr fun ft hft => ?_))
    obtain ⟨hi, hj⟩ := hbv.zip_lt hft
    obtain ⟨c, hc⟩ := cell_some_of_complete hcomplete hi hj
    show p.shown ft.1 ft.2 = w ft.1 ft.2
    rw [shown_eq_table hb hp hi hj hc, hw _ _ c hc]

/-- For non-negative weights the sentinel `max column sum + 1` exceeds every real weight, every column sum, and the
    running `max_edge` — the condition of `assert null_edge_value > max_edge`. -/
theorem null_value_dominates {inp : Input} (hn : NonNeg inp) (hu : 1 ≤ inp.unit) {nv : Int}
    (h : nullValue inp = some nv) :
    (∀ i j c, i < inp.n → j < inp.m → inp.cell i j = some c → c.w < nv) ∧
    (∀ j, j < inp.m → colSum inp j < nv) ∧
    (∀ c rest, present inp = c :: rest → maxEdge c rest < nv) := by
  refine ⟨fun i j c hi hj hc => weight_lt_null hn hu h hi hj hc, fun j hj => colSum_lt_null hu h hj, ?_⟩
  intro c rest hpres
  have hmem : ∀ e ∈ present inp, e.w < nv := by
    intro e he
    obtain ⟨i, j, hi, hj, hc⟩ := mem_present.1 he
    exact weight_lt_null hn hu h hi hj hc
  rw [hpres] at hmem
  exact maxEdge_lt (hmem c List.mem_cons_self) (fun e he => hmem e (List.mem_cons_of_mem _ he))

/-- ... and the final filter `weights[f][t] < null_edge_value` removes exactly the non-existing pairs of the solver's
    answer: the result is the answer restricted to existing pairs, each with its true weight. -/
theorem filter_removes_exactly_missing {solve : Dense → Ans} {inp : Input} {p : Prep} {res : List Pair}
    (hn : NonNeg inp) (hu : 1 ≤ inp.unit) (hs : SolverValidOn solve inp)
    (hp : prepare inp = .ok (some p)) (h : minWeightBipartiteMatching solve inp = .ok res) :
    res = ((solve (p.dense inp)).rows.zip (solve (p.dense inp)).cols).filterMap fun ft =>
      (inp.cell ft.1 ft.2).map fun c => (⟨ft.1, ft.2, c.ty, c.w⟩ : Pair) := by
  rcases result_cases h with ⟨hp', _⟩ | ⟨p', hp', rfl⟩
  · rw [hp] at hp'; cases hp'
  · rw [hp] at hp'
    simp only [Except.ok.injEq, Option.some.injEq] at hp'
    subst hp'
    obtain ⟨_, hnull, _⟩ := prepare_some hp
    rw [finish_eq]
    apply Assign.filterMap_congr'
    intro ft hft
    obtain ⟨hi, hj⟩ := (hs p hp).zip_lt hft
    unfold keep
    cases hc : inp.cell ft.1 ft.2 with
    | none => rfl
    | some c =>
      simp only [Option.map_some]
      by_cases hh : p.hasNull = true
      · have := weight_lt_null hn hu (hnull hh) hi hj hc
        simp [this]
      · simp [hh]

/-
  `minWeightBipartiteMatching` has exactly three raising branches before the solver call (`prepare`) and none after
  it; the solver is a total function here (that scipy itself returns on the matrix shown is part of the contract).
  * `minWeight_ok_on_domain` : on the ADMITTED DOMAIN — weights ≥ 0, one Python type, `unit ≥ 1`, and for `int`
    tables every weight (and, when a pair is missing, the sentinel `max column sum + 1`) below 2^63 — it returns.
  * `error_domain` : the three raising branches, each with the condition on the table under which it is taken;
    the examples below show each is taken (the boundary tables `[[-1, 2^63]]`, `[[2^64-1, None]]`).
  OUTSIDE the domain, and outside what the model is claimed for:
    - `int` tables with a weight or sentinel ≥ 2^63 (numpy `OverflowError` unless everything is ≥ 0 and < 2^64) or a
      negative weight next to a missing pair (`AssertionError` possible);
    - `float` tables whose weights or column sums reach 2^53 (scaled: `2^53 * unit`): the model's arithmetic is exact,
      Python's is not — `[[2.0**53, None]]` raises `AssertionError` in the real code because the sentinel's `+ 1` is
      absorbed, while the model returns.  The correspondence (and every theorem read as a statement about the code)
      is claimed for float tables only below that bound. -/

/-- every weight is below `B`, and so is the sentinel `column sum + 1` of every column when a pair is missing -/
def Below (inp : Input) (B : Int) : Prop :=
  (∀ i j c, i < inp.n → j < inp.m → inp.cell i j = some c → c.w < B) ∧
  (hasNull inp = true → ∀ j, j < inp.m → colSum inp j + (inp.unit : Int) < B)

/-- the domain on which it RAISES: the three error branches of the model, each with its cause
    (`ValueError`: two existing pairs of different Python types; `AssertionError`: a missing pair and the sentinel
    `max column sum + 1` not above the largest weight — needs a negative weight; `OverflowError`: an `int` table whose
    range [least weight, largest weight or sentinel] does not fit int64) -/
theorem error_domain {solve : Dense → Ans} {inp : Input} {e : Err} (h : minWeightBipartiteMatching solve inp = .error e) :
    (e = .valueError ∧ ¬ SingleType inp) ∨
    (e = .assertionError ∧ hasNull inp = true ∧
      ∃ c rest nv, present inp = c :: rest ∧ nullValue inp = some nv ∧ nv ≤ maxEdge c rest) ∨
    (e = .overflowError ∧ ∃ c rest mx, present inp = c :: rest ∧ c.ty = .int ∧
      (hasNull inp = true → nullValue inp = some mx) ∧ (hasNull inp = false → mx = maxEdge c rest) ∧
      ¬ (-(2 ^ 63) ≤ minEdge c rest ∧ mx < 2 ^ 63)) := by
  apply prepare_error
  unfold minWeightBipartiteMatching at h
  split at h
  · next he => exact Except.error.inj h ▸ he
  · cases h
  · cases h

/-- by `null_value_dominates`, on the domain graphtage uses (costs ≥ 0) the `assert null_edge_value > max_edge` never
    fires. -/
theorem assert_never_fires {inp : Input} (hn : NonNeg inp) (hu : 1 ≤ inp.unit) :
    prepare inp ≠ .error .assertionError := by
  intro hp
  rcases prepare_error hp with ⟨h, _⟩ | ⟨_, _, c, rest, nv, hpres, hnv, hle⟩ | ⟨h, _⟩
  · cases h
  · have := (null_value_dominates hn hu hnv).2.2 c rest hpres
    omega
  · cases h

/-- the part before the solver call does not raise on the admitted domain: each raising branch contradicts one
    hypothesis -/
theorem prepare_ok_on_domain {inp : Input} (hn : NonNeg inp) (hu : 1 ≤ inp.unit) (ht : SingleType inp)
    (hb : ∀ c ∈ present inp, c.ty = .int → Below inp (2 ^ 63)) : ∃ p, prepare inp = .ok p := by
  cases h : prepare inp with
  | ok p => exact ⟨p, rfl⟩
  | error e =>
    rcases prepare_error h with ⟨_, hne⟩ | ⟨rfl, _⟩ | ⟨_, c, rest, mx, hpres, hty, hmx1, hmx2, hfit⟩
    · exact absurd ht hne
    · exact absurd h (assert_never_fires hn hu)
    · have hmem : ∀ e ∈ c :: rest, 0 ≤ e.w ∧ e.w < 2 ^ 63 := by
        intro e he
        obtain ⟨i, j, hi, hj, hc⟩ := mem_present.1 (hpres ▸ he)
        exact ⟨hn i j e hc, (hb c (hpres ▸ List.mem_cons_self) hty).1 i j e hi hj hc⟩
      have hmn := minEdge_ge (hmem c List.mem_cons_self).1 fun e he => (hmem e (List.mem_cons_of_mem _ he)).1
      refine absurd ⟨by omega, ?_⟩ hfit
      by_cases hh : hasNull inp = true
      · exact nullValue_lt (hmx1 hh) ((hb c (hpres ▸ List.mem_cons_self) hty).2 hh)
      · rw [hmx2 (by simpa using hh)]
        exact maxEdge_lt (hmem c List.mem_cons_self).2 fun e he => (hmem e (List.mem_cons_of_mem _ he)).2

/-- C15 totality: on the admitted domain — non-negative weights of ONE Python type, `unit ≥ 1`, and for `int` tables
    every weight and (with a missing pair) every `column sum + 1` below 2^63 — `min_weight_bipartite_matching` RETURNS,
    whatever the solver answers; with `result_is_injection`, `only_existing_pairs`, `reports_true_weights`,
    `pairs_min_n_m`, `total_is_minimum` (whose hypothesis `… = .ok res` is thereby discharged) the returned pairing is
    valid and optimal. -/
theorem minWeight_ok_on_domain (solve : Dense → Ans) {inp : Input} (hn : NonNeg inp) (hu : 1 ≤ inp.unit)
    (ht : SingleType inp) (hb : ∀ c ∈ present inp, c.ty = .int → Below inp (2 ^ 63)) :
    ∃ res, minWeightBipartiteMatching solve inp = .ok res := by
  obtain ⟨p, hp⟩ := prepare_ok_on_domain hn hu ht hb
  unfold minWeightBipartiteMatching
  rw [hp]
  cases p with
  | none => exact ⟨[], rfl⟩
  | some p => exact ⟨_, rfl⟩

/-- … and the conclusions of the validity theorems hold for what it returns (one statement, no `= .ok` hypothesis) -/
theorem minWeight_valid_on_domain (solve : Dense → Ans) {inp : Input} (hn : NonNeg inp) (hu : 1 ≤ inp.unit)
    (ht : SingleType inp) (hb : ∀ c ∈ present inp, c.ty = .int → Below inp (2 ^ 63))
    (hs : SolverValidOn solve inp) :
    ∃ res, minWeightBipartiteMatching solve inp = .ok res ∧
      (res.map (·.f)).Nodup ∧ (res.map (·.t)).Nodup ∧
      (∀ q ∈ res, q.f < inp.n ∧ q.t < inp.m ∧ inp.cell q.f q.t = some ⟨q.ty, q.w⟩) ∧
      (hasNull inp = false → res.length = min inp.n inp.m) := by
  obtain ⟨res, h⟩ := minWeight_ok_on_domain solve hn hu ht hb
  refine ⟨res, h, (result_is_injection hs h).1, (result_is_injection hs h).2, ?_, fun hc => pairs_min_n_m hs hc h⟩
  intro q hq
  exact ⟨(only_existing_pairs hs h q hq).1, (only_existing_pairs hs h q hq).2.1, reports_true_weights h q hq⟩

section Examples

private def I (w : Int) : Option Cell := some ⟨.int, w⟩
private def B (w : Int) : Option Cell := some ⟨.bool, w⟩
private def F (w : Int) : Option Cell := some ⟨.float, w⟩

/-- complete 2×3 `int` table; optimum 1 + 2 = 3 at rows [0,1] ↦ cols [1,0] -/
def exComplete : Input := ⟨2, 3, 1, cellOfRows [[I 3, I 1, I 2], [I 2, I 4, I 6]]⟩
def exCompleteSolve : Dense → Ans := fun _ => ⟨[0, 1], [1, 0]⟩

theorem exComplete_prepare :
    prepare exComplete = .ok (some ⟨false, 0, .int, "uint8", filledW exComplete 0⟩) := by rfl

/-- the hypothesis of `total_is_minimum` (hence of all `SolverValidOn` theorems) is satisfiable -/
theorem exComplete_contract : SolverMeetsContractOn exCompleteSolve exComplete :=
  recorded_answer_meets_contract exComplete_prepare (by decide)

example : SolverValidOn exCompleteSolve exComplete := exComplete_contract.valid
example : hasNull exComplete = false := by decide
example : BoolOK exComplete := fun _ _ _ h =>
  cellOfRows_all (P := fun c => c.ty = .bool → c.w = 0 ∨ c.w = exComplete.unit) (by decide) h
example : minWeightBipartiteMatching exCompleteSolve exComplete = .ok [⟨0, 1, .int, 1⟩, ⟨1, 0, .int, 2⟩] := by rfl

/-- sparse 2×2 `int` table [[5, None], [1, 2]]: sentinel = max(6, 2) + 1 = 7, shown [[5,7],[1,2]] -/
def exSparse : Input := ⟨2, 2, 1, cellOfRows [[I 5, none], [I 1, I 2]]⟩
def exSparseSolve : Dense → Ans := fun _ => ⟨[0, 1], [0, 1]⟩

theorem exSparse_prepare :
    prepare exSparse = .ok (some ⟨true, 7, .int, "uint8", filledW exSparse 7⟩) := by rfl

theorem exSparse_contract : SolverMeetsContractOn exSparseSolve exSparse :=
  recorded_answer_meets_contract exSparse_prepare (by decide)

/-- all hypotheses of `minWeight_ok_on_domain` on the sparse `int` table [[5, None], [1, 2]] -/
theorem exSparse_domain : NonNeg exSparse ∧ 1 ≤ exSparse.unit ∧ SingleType exSparse ∧
    (∀ c ∈ present exSparse, c.ty = .int → Below exSparse (2 ^ 63)) := by
  have hw : ∀ i j c, exSparse.cell i j = some c → 0 ≤ c.w ∧ c.w < 2 ^ 63 := fun _ _ _ h =>
    cellOfRows_all (P := fun c => 0 ≤ c.w ∧ c.w < 2 ^ 63) (by decide) h
  refine ⟨fun i j c h => (hw i j c h).1, by decide, by unfold SingleType; decide, fun _ _ _ => ⟨?_, ?_⟩⟩
  · intro i j c _ _ h; exact (hw i j c h).2
  · intro _ j hj
    have : j = 0 ∨ j = 1 := by have : j < 2 := hj; omega
    rcases this with rfl | rfl <;> decide

/-- hypotheses of `null_value_dominates` / `assert_never_fires` / `filter_removes_exactly_missing` -/
example : NonNeg exSparse := exSparse_domain.1
example : 1 ≤ exSparse.unit := exSparse_domain.2.1
example : nullValue exSparse = some 7 := by decide
example : hasNull exSparse = true := by decide
example : minWeightBipartiteMatching exSparseSolve exSparse = .ok [⟨0, 0, .int, 5⟩, ⟨1, 1, .int, 2⟩] := by rfl

/-- a solver answer that uses the missing pair (0,1) is filtered: only the existing pair remains -/
example : minWeightBipartiteMatching (fun _ => ⟨[0, 1], [1, 0]⟩) exSparse = .ok [⟨1, 0, .int, 1⟩] := by rfl

/-- complete `bool` table [[T, F], [F, T]] (hypothesis `BoolOK` with bool cells present) -/
def exBool : Input := ⟨2, 2, 1, cellOfRows [[B 1, B 0], [B 0, B 1]]⟩

-- all hypotheses of `total_is_minimum` / `pairs_min_n_m` at once, on a complete `bool` table (the only type for which
-- the matrix shown differs syntactically from the table)
def exBoolSolve : Dense → Ans := fun _ => ⟨[0, 1], [1, 0]⟩

theorem exBool_contract : SolverMeetsContractOn exBoolSolve exBool :=
  recorded_answer_meets_contract (p := ⟨false, 0, .bool, "bool",
    fun i j => if filledW exBool 0 i j ≠ 0 then (exBool.unit : Int) else 0⟩) rfl (by decide)

theorem exBool_boolOK : BoolOK exBool := fun _ _ _ h =>
  cellOfRows_all (P := fun c => c.ty = .bool → c.w = 0 ∨ c.w = exBool.unit) (by decide) h

example : BoolOK exBool := exBool_boolOK
example : minWeightBipartiteMatching (fun _ => ⟨[0, 1], [1, 0]⟩) exBool = .ok [⟨0, 1, .bool, 0⟩, ⟨1, 0, .bool, 0⟩] := by rfl

/-- `float` table [[0.5, None], [0.25, 0.75]] with unit 4 (weights 2/4, 1/4, 3/4): sentinel = 3 + 4 -/
def exFloat : Input := ⟨2, 2, 4, cellOfRows [[F 2, none], [F 1, F 3]]⟩
example : nullValue exFloat = some 7 := by decide
example : minWeightBipartiteMatching (fun _ => ⟨[0, 1], [0, 1]⟩) exFloat = .ok [⟨0, 0, .float, 2⟩, ⟨1, 1, .float, 3⟩] := by rfl

/-- error branches of the model are reachable -/
example : prepare ⟨1, 2, 1, cellOfRows [[I 1, B 1]]⟩ = .error .valueError := by rfl
example : prepare ⟨2, 2, 1, cellOfRows [[I (-1), none], [I 3, I 0]]⟩ = .error .assertionError := by rfl
example : prepare ⟨1, 1, 1, cellOfRows [[I 18446744073709551616]]⟩ = .error .overflowError := by rfl
example : (prepare ⟨1, 1, 1, cellOfRows [[none]]⟩).toOption = some none := by rfl

/-- documented-but-dead check: a sparse `bool` table is NOT rejected; the sentinel (2) is shown as `True` (1) -/
example : ∃ p, prepare ⟨1, 2, 1, cellOfRows [[none, B 1]]⟩ = .ok (some p) ∧ p.null = 2 ∧ p.shown 0 0 = 1 ∧ p.shown 0 1 = 1 :=
  ⟨_, rfl, rfl, rfl, rfl⟩

/-- `minWeight_ok_on_domain` applied: it returns for EVERY solver answer, adversarial ones included -/
example (solve : Dense → Ans) : ∃ res, minWeightBipartiteMatching solve exSparse = .ok res :=
  minWeight_ok_on_domain solve exSparse_domain.1 exSparse_domain.2.1 exSparse_domain.2.2.1 exSparse_domain.2.2.2

/-- the largest admitted `int` weights: `[[2^63 - 2, None]]` (sentinel 2^63 - 1) still returns … -/
example : (prepare ⟨1, 2, 1, cellOfRows [[I 9223372036854775806, none]]⟩).toOption.isSome = true := by rfl
/-- … the boundary tables do not: `[[-1, 2^63]]` and `[[2^64 - 1, None]]` (sentinel 2^64) raise OverflowError,
    as the real code does (`error_domain`, third branch) -/
example : prepare ⟨1, 2, 1, cellOfRows [[I (-1), I 9223372036854775808]]⟩ = .error .overflowError := by rfl
example : prepare ⟨1, 2, 1, cellOfRows [[I 18446744073709551615, none]]⟩ = .error .overflowError := by rfl
/-- between 2^63 and 2^64 non-negative tables are served by the uint64 row (returns; outside the ADMITTED domain only
    because the bound is stated as 2^63) -/
example : (prepare ⟨1, 2, 1, cellOfRows [[I 9223372036854775808, I 3]]⟩).toOption.isSome = true := by rfl
/-- MODEL ≠ CODE outside the domain: the float table `[[2.0**53, None]]` (unit 1) returns in the model (exact
    arithmetic: sentinel 2^53 + 1) while the real code raises AssertionError (2^53 + 1 == 2^53 in float64).  Float
    tables are claimed only while weights and column sums stay below 2^53. -/
example : (prepare ⟨1, 2, 1, cellOfRows [[F 9007199254740992, none]]⟩).toOption.isSome = true := by rfl
/-- `error_domain` is not vacuous: each of its three branches is taken (ValueError / AssertionError / OverflowError) -/
example : minWeightBipartiteMatching exSparseSolve ⟨1, 2, 1, cellOfRows [[I 1, B 1]]⟩ = .error .valueError := by rfl
example : minWeightBipartiteMatching exSparseSolve ⟨2, 2, 1, cellOfRows [[I (-1), none], [I 3, I 0]]⟩
    = .error .assertionError := by rfl
example : minWeightBipartiteMatching exSparseSolve ⟨1, 1, 1, cellOfRows [[I 18446744073709551616]]⟩
    = .error .overflowError := by rfl

-- the STRUCTURAL half of the solver contract (`Ans.Valid`) is satisfiable for every shape
-- (identity assignment on the first `min n m` indices).  That a MINIMISER exists for every matrix (i.e. that
-- `Contract d a` is satisfiable for every `d`) is not proved anywhere; it is only exhibited on the concrete inputs
-- `exComplete`, `exSparse` and `exBool`.
example (n m : Nat) : (⟨List.range (min n m), List.range (min n m)⟩ : Ans).Valid n m := by
  refine ⟨by simp, by simp, List.nodup_range, List.nodup_range, ?_, ?_⟩ <;> intro x hx <;> simp at hx <;> omega

-- reported total (0) ≤ total of the competing diagonal assignment (2)
example :
    (([⟨0, 1, .bool, 0⟩, ⟨1, 0, .bool, 0⟩] : List Pair).map (·.w)).sum
      ≤ total (fun i j => ((exBool.cell i j).map (·.w)).getD 0) ⟨[0, 1], [0, 1]⟩ :=
  total_is_minimum exBool_contract exBool_boolOK (by decide) (res := [⟨0, 1, .bool, 0⟩, ⟨1, 0, .bool, 0⟩]) rfl
    (fun i j => ((exBool.cell i j).map (·.w)).getD 0) (fun i j c h => by simp [h]) ⟨[0, 1], [0, 1]⟩ (by decide)
example : total (fun i j => ((exBool.cell i j).map (·.w)).getD 0) ⟨[0, 1], [0, 1]⟩ = 2 := by decide

example : ([⟨0, 1, .bool, 0⟩, ⟨1, 0, .bool, 0⟩] : List Pair).length = min exBool.n exBool.m :=
  pairs_min_n_m exBool_contract.valid (by decide) (solve := exBoolSolve) rfl

end Examples

end GtModel.C15
