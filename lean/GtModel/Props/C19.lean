/-
  C19 — "Match expressions cannot reach private attributes".

  Statement (properties.jsonl): evaluating any user-supplied match expression never reads an attribute whose
  name begins with an underscore from any object it can reach, and the only names it can resolve are the
  variables it was given and the documented whitelist of built-ins.

  What is proved here, for the model `GtModel.Expr.eval` of `Expression.eval` (tied to the code by stream `expr`), for
  EVERY token list (a superset of what the parser can emit), every environment, every host and every initial host
  state: the evaluator's own log (`no_underscore_getattr`, `reads_classified`, `names_resolved`,
  `names_resolved_default`, `whitelist_eq_documented`); the same about the HOST CALLS, on the recording wrapper `spy h`
  (`host_never_asked_underscore`, `ghost_log_faithful`, `spy_erasure`, `host_calls_are_the_logged_reads`: the log the
  other theorems speak about is not a fiction, and the wrapper is invisible); `get_member`'s two refusals
  (`reflective_member_refused`, `safe_method_intercepted`); the obligations on the generated operator table (operators
  only ever see evaluated operands, except `get_member`'s right one, so the model's `rawOperand` answer is dead); on
  the concrete host of the correspondence stream, which contains the model of `_SafeFormatter`,
  `concrete_host_no_underscore`; and witnesses: `prefix_format_bypass_witness` (a formatter without the refusal of
  `_SafeFormatter.get_field`, the behaviour before fix e68be99, leaks `_priv`) and the `…_refused_witness` family for
  format fields on generator / frame objects.

  WHAT THE THEOREMS DO NOT SAY.  They hold at the evaluator's call sites (`get_member`, `get_value`) for every host.
  Whether private state crosses the boundary INSIDE a host operation (`call`, `getitem`, …) is a property of the host;
  it is proved only for the concrete host of the stream (`concrete_host_no_underscore`) and otherwise observed by the
  stream's monitors on the real code.  (`spy_erasure`: `eval (spy h)` and `eval h` return the same result, host state
  and log, so the statements on the recording wrapper are statements about the run on `h` itself.)

  HOST CONTRACT (assumption, validated by the tripwire monitor of stream `expr`, not provable inside the model):
  the whole-system reading of C19 — "never reads an underscore attribute from any object it can reach" —
  follows from `no_underscore_getattr` provided that no whitelisted builtin and no public attribute/method of
  a reachable object performs name-driven attribute traversal or hands out reflective objects, WHERE
    (a) `str.format` / `str.format_map` (the one builtin API that traverses attributes named in its argument)
        are not reachable: `get_member` replaces them by `_safe_format` / `_safe_format_map`, whose
        `get_field` refuses every ATTRIBUTE step whose name starts with an underscore (modelled in the concrete host,
        `concrete_host_no_underscore`) and every attribute step on an object of `_REFLECTIVE_TYPES` — and nothing
        else: index steps (`[__builtins__]`, `[_name]`) are followed on any object;
    (b) objects of `_REFLECTIVE_TYPES` (frame, code, traceback, generator, coroutine, async generator, module —
        the Gen table `reflectiveTypes`) may be values of an expression; `get_member` reads none of their members
        (`reflective_member_refused`), so no frame, code object, namespace dict or builtin is ever obtained AS A
        VALUE and `(g.gi_frame.f_builtins)['getattr'](x, '_priv')` is out of reach.
  CLAUSE (b) EXTENDS TO FORMAT FIELDS (since /repo dfac3bc): `_SafeFormatter.get_field` refuses an ATTRIBUTE step on an
  object of `_REFLECTIVE_TYPES`, as `get_member` does (`walkPath` with `safe`), so
  `'{0.gi_frame.f_globals[__builtins__][getattr]}'.format(g)` is a ParseError with nothing read
  (`format_traverses_reflective_witness`, `format_reads_private_global_witness`).  Index steps are still not vetted.
  The monitor key `format-traverses-reflective:<first attribute>` stays active; the walk generator → frame →
  namespaces / code is reachable in the model only with `concreteHostWith false`, the formatter without the refusals.
  THE HOST CONTRACT IS FALSE ON REAL TREE NODES (finding D26, monitor key
  `public-method-exposes-private:editable_dict`): with `--match-if` the names `from` / `to` are bound to
  `TreeNode`s, and the PUBLIC method `TreeNode.editable_dict()` returns `dict(self.__dict__)`, so
  `(from.editable_dict('')[0])['_children']` hands a node's private attributes (`_children`, `_parent`, …) to the
  expression.  The evaluator issues no underscore read (every theorem below still holds, and
  `no_underscore_getattr` is exactly what the run shows: reads `editable_dict`, then a `call` and a `getitem`);
  the private state crosses the boundary inside the host operation `call`.  Hence the END-TO-END claim of C19
  holds only MODULO D26: for hosts whose reachable public API does not hand out an object's private state.  The
  stream binds real nodes (case kind `node`), calls every public member of every node class with every underscore
  attribute name, and reports any OTHER exposure — a node's `__dict__`, a private mutable container by identity, or
  private attribute names as mapping keys / first elements of pairs — under the exposing method's own key, which
  fails the check.
  Before fixes e68be99 / 091716e both (a) and (b) failed outright (objects were obtained); the monitor keys
  `format-field-attribute` and `reflective-builtin` stay active and the two shrunk reproducers are replayed from
  corpus/expr on every run.
-/
import GtModel.Proofs.ExprHost

namespace GtModel.C19
open GtModel.Expr

variable {σ Obj : Type}

theorem hostOK_true (h : Host σ Obj) : HostOK h (fun _ => True) :=
  ⟨fun _ _ _ _ _ => trivial, fun _ _ _ _ => trivial, fun _ _ _ _ => trivial, fun _ _ _ => trivial,
   fun _ _ _ => trivial, fun _ _ _ _ _ => trivial, fun _ _ _ => trivial, fun _ _ _ => trivial⟩

/-- Every attribute read of the evaluator is `getattr(obj, name)` with a non-underscore `name` (the
    `get_member` success path) or the `member.offset` probe (the `get_member` error path). -/
theorem reads_classified (h : Host σ Obj) (locals globals : Env Obj) (tokens : List Tok) (s0 : σ) :
    ∀ r ∈ (eval h locals globals tokens s0).2.reads,
      (r.viaGetattr = true ∧ ¬ (r.name.startsWith "_" = true)) ∨ (r.viaGetattr = false ∧ r.name = "offset") :=
  (inv_eval (N := fun _ => True) (hostOK_true h)
    ⟨fun _ _ hn => .inl ⟨rfl, hn⟩, fun _ => .inr ⟨rfl, rfl⟩, fun _ _ _ => trivial⟩ tokens s0 trivial).reads

/-- The evaluator never issues an attribute read whose name starts with an underscore. -/
theorem no_underscore_getattr (h : Host σ Obj) (locals globals : Env Obj) (tokens : List Tok) (s0 : σ) :
    ∀ p ∈ attrReads (eval h locals globals tokens s0), ¬ (p.2.startsWith "_" = true) := by
  intro p hp
  obtain ⟨r, hr, rfl⟩ := List.mem_map.1 hp
  rcases reads_classified h locals globals tokens s0 r hr with ⟨_, hn⟩ | ⟨_, hn⟩
  · exact hn
  · exact hn ▸ offset_public

/-- Every identifier the evaluator resolves is a key of `locals` or a key of `globals`. -/
theorem names_resolved (h : Host σ Obj) (locals globals : Env Obj) (tokens : List Tok) (s0 : σ) :
    ∀ n ∈ namesResolved (eval h locals globals tokens s0),
      n ∈ locals.map Prod.fst ∨ n ∈ globals.map Prod.fst :=
  (inv_eval (R := fun _ => True) (hostOK_true h)
    ⟨fun _ _ _ => trivial, fun _ => trivial, fun n o hf =>
      hf.imp (Env.find_some_mem_keys _ n o) (Env.find_some_mem_keys _ n o)⟩ tokens s0 trivial).names

/-- The generated `DEFAULT_GLOBALS` key list and the whitelist documented in the module docstring contain
    the same names. -/
theorem whitelist_eq_documented : ∀ n : String, n ∈ defaultGlobals ↔ n ∈ documentedGlobals := by
  have key : (defaultGlobals.all (documentedGlobals.contains ·) &&
      documentedGlobals.all (defaultGlobals.contains ·)) = true := by decide +kernel
  intro n
  simp only [Bool.and_eq_true, List.all_eq_true, List.contains_iff_mem] at key
  exact ⟨fun hn => key.1 n hn, fun hn => key.2 n hn⟩

/-- No duplicates hide in either list (so "same names" is "same set, same size"). -/
theorem whitelist_nodup : defaultGlobals.Nodup ∧ documentedGlobals.Nodup ∧
    defaultGlobals.length = documentedGlobals.length := by decide +kernel

/-- With the default globals (keys = the generated table), every resolved identifier is a given variable
    or a documented whitelisted builtin. -/
theorem names_resolved_default (h : Host σ Obj) (locals globals : Env Obj)
    (hg : globals.map Prod.fst = defaultGlobals) (tokens : List Tok) (s0 : σ) :
    ∀ n ∈ namesResolved (eval h locals globals tokens s0),
      n ∈ locals.map Prod.fst ∨ n ∈ documentedGlobals := by
  intro n hn
  rcases names_resolved h locals globals tokens s0 n hn with hl | hgl
  · exact Or.inl hl
  · rw [hg] at hgl
    exact Or.inr ((whitelist_eq_documented n).1 hgl)

/-- non-vacuity of `hg`: the globals environment the stream handler uses -/
example : (defaultGlobals.map fun n => (n, CV.builtin n)).map Prod.fst = defaultGlobals := by decide +kernel

/-- THE HOST IS NEVER ASKED FOR AN UNDERSCORE ATTRIBUTE.  `spy h` records every name its `getattr` receives, whoever
    calls it; for every host `h`, token list, environment and initial state, no recorded name starts with "_".
    Unlike `no_underscore_getattr` this is not a statement about a log the evaluator writes itself: an evaluator
    whose `get_member` passed an underscore name to the host (and returned the private value) without logging it
    would still satisfy `no_underscore_getattr`, but its run on `spy h` would record the name and falsify this
    theorem.  (`HostOK.getattr` is assumed for public names only, so the invariant proof must show publicity of the
    name at each of the two call sites.) -/
theorem host_never_asked_underscore (h : Host σ Obj) (locals globals : Env Obj) (tokens : List Tok) (s0 : σ) :
    ∀ n ∈ (eval (spy h) locals globals tokens (s0, [])).2.hs.2, ¬ (n.startsWith "_" = true) :=
  (inv_eval (R := fun _ => True) (N := fun _ => True) (spy_hostOK h)
    ⟨fun _ _ _ => trivial, fun _ => trivial, fun _ _ _ => trivial⟩ tokens (s0, []) (fun _ hm => nomatch hm)).host

/-- The evaluator's own `reads` log is faithful: on `spy h` it lists exactly the names the host's `getattr` was
    asked for, in the same order. -/
theorem ghost_log_faithful (h : Host σ Obj) (locals globals : Env Obj) (tokens : List Tok) (s0 : σ) :
    (attrReads (eval (spy h) locals globals tokens (s0, []))).map Prod.snd =
      (eval (spy h) locals globals tokens (s0, [])).2.hs.2 := by
  simp only [attrReads, List.map_map]
  exact faithful_eval (h := h) (locals := locals) (globals := globals) tokens s0

/-- ERASURE: the recording wrapper is invisible — `eval` over `spy h` returns the same result, leaves the same host
    state and writes the same evaluator log as `eval` over `h`. -/
theorem spy_erasure (h : Host σ Obj) (locals globals : Env Obj) (tokens : List Tok) (s0 : σ) :
    (eval (spy h) locals globals tokens (s0, [])).1 = (eval h locals globals tokens s0).1 ∧
    (eval (spy h) locals globals tokens (s0, [])).2.hs.1 = (eval h locals globals tokens s0).2.hs ∧
    attrReads (eval (spy h) locals globals tokens (s0, [])) = attrReads (eval h locals globals tokens s0) := by
  obtain ⟨h1, h2, h3, _⟩ := sim_eval (h := h) (locals := locals) (globals := globals) tokens s0 []
  exact ⟨h1.symm, h2, by simp only [attrReads, h3]⟩

/-- Hence, for EVERY host and every run of the evaluator itself (not of a wrapper): the names of the evaluator's
    attribute reads are exactly the names that the host's `getattr` is asked for when the same run is observed
    through the recording wrapper, and none of them starts with an underscore. -/
theorem host_calls_are_the_logged_reads (h : Host σ Obj) (locals globals : Env Obj) (tokens : List Tok) (s0 : σ) :
    (attrReads (eval h locals globals tokens s0)).map Prod.snd =
      (eval (spy h) locals globals tokens (s0, [])).2.hs.2 ∧
    ∀ n ∈ (eval (spy h) locals globals tokens (s0, [])).2.hs.2, ¬ (n.startsWith "_" = true) := by
  refine ⟨?_, host_never_asked_underscore h locals globals tokens s0⟩
  rw [← (spy_erasure h locals globals tokens s0).2.2]
  exact ghost_log_faithful h locals globals tokens s0

/-- Only `get_member` receives an un-evaluated operand. -/
theorem only_member_keeps_raw_operand :
    ∀ s ∈ opTable, s.exec ≠ Exec.member → s.expand.all id = true := by decide +kernel

/-- The MEMBER_ACCESS row: evaluated left operand, raw right operand, and it is the only `get_member` row. -/
theorem member_access_row :
    (opTable.filter fun s => s.exec == Exec.member) =
      [{ name := "MEMBER_ACCESS", token := ".", priority := 1, leftAssoc := true, arity := 2,
         expand := [true, false], nparams := 2, exec := .member, byName := true }] := by decide +kernel

/-- Number of lambda parameters a shape needs. -/
def shapeParams : Exec → Nat
  | .pos | .neg | .lnot | .inv => 1
  | _ => 2

/-- In every row the lambda has the number of parameters its shape needs, `expand` covers the arity, and
    operator names are unique. -/
theorem table_shapes :
    (∀ s ∈ opTable, s.nparams = shapeParams s.exec ∧ s.expand.length = s.arity) ∧
    (opTable.map (·.name)).Nodup := by decide +kernel

/-- A spec behaves like a row of the real table: only `member` keeps a raw (second) operand. -/
def WellFormed (s : OpSpec) : Prop :=
  s.nparams = shapeParams s.exec ∧
  (s.exec ≠ Exec.member → s.expand.all id = true) ∧
  (s.exec = Exec.member → s.expand.head? = some true)

theorem table_wellFormed : ∀ s ∈ opTable, WellFormed s := by
  unfold WellFormed
  decide +kernel

def AllObj (l : List (SVal Obj)) : Prop := ∀ v ∈ l, ∃ o, v = SVal.obj o

theorem expandArgs_allObj (h : Host σ Obj) (locals globals : Env Obj) (es : List Bool) (hes : es.all id = true)
    (vs : List (SVal Obj)) (s : ES σ Obj) (r : List (SVal Obj)) (s' : ES σ Obj)
    (hr : expandArgs h locals globals es vs s = (.ok r, s')) : AllObj r := by
  induction es generalizing vs s r s' with
  | nil =>
    obtain ⟨rfl, _⟩ : [] = r ∧ s = s' := by simpa [expandArgs, M.pure] using hr
    exact fun _ hv => nomatch hv
  | cons e es ih =>
    cases vs with
    | nil =>
      obtain ⟨rfl, _⟩ : [] = r ∧ s = s' := by simpa [expandArgs, M.pure] using hr
      exact fun _ hv => nomatch hv
    | cons v vs =>
      simp only [List.all_cons, id_eq, Bool.and_eq_true] at hes
      rw [expandArgs, if_pos hes.1] at hr
      obtain ⟨o, s1, _, hr⟩ := M.bind_ok hr
      obtain ⟨r', s2, hr', hr⟩ := M.bind_ok hr
      obtain ⟨rfl, _⟩ : SVal.obj o :: r' = r ∧ s2 = s' := by simpa [M.pure] using hr
      exact List.forall_mem_cons.2 ⟨⟨o, rfl⟩, ih hes.2 vs s1 r' s2 hr'⟩

theorem expandArgs_headObj (h : Host σ Obj) (locals globals : Env Obj) (es : List Bool)
    (hes : es.head? = some true)
    (vs : List (SVal Obj)) (s : ES σ Obj) (r : List (SVal Obj)) (s' : ES σ Obj)
    (hr : expandArgs h locals globals es vs s = (.ok r, s')) : ∀ v, r.head? = some v → ∃ o, v = SVal.obj o := by
  cases es with
  | nil => simp at hes
  | cons e es =>
    obtain rfl : e = true := by simpa using hes
    cases vs with
    | nil =>
      obtain ⟨rfl, _⟩ : [] = r ∧ s = s' := by simpa [expandArgs, M.pure] using hr
      simp
    | cons v vs =>
      rw [expandArgs, if_pos rfl] at hr
      obtain ⟨o, s1, _, hr⟩ := M.bind_ok hr
      obtain ⟨r', s2, _, hr⟩ := M.bind_ok hr
      obtain ⟨rfl, _⟩ : SVal.obj o :: r' = r ∧ s2 = s' := by simpa [M.pure] using hr
      intro w hw
      exact ⟨o, by simpa using hw.symm⟩

namespace Witness

def host : HostDesc :=
  { sents := [{ id := 1, attrs := [("pub", .int 5), ("_priv", .str "SECRET"), ("_w", .int 6)], meths := [] }] }
def locals : Env CV := [("x", .sent 1)]
def globals : Env CV := defaultGlobals.map fun n => (n, CV.builtin n)
def opNamed (n : String) : Tok := match lookupOp n with | some s => .op s | none => .other n

/-- RPN of `x.pub` as produced by the real parser -/
def tokPub : List Tok := [.ident "x" 1, .ident "pub" 5, opNamed "MEMBER_ACCESS"]
/-- RPN of `x._priv` -/
def tokPriv : List Tok := [.ident "x" 1, .ident "_priv" 7, opNamed "MEMBER_ACCESS"]
/-- RPN of `'{0._priv}'.format(x)` as produced by the real parser -/
def tokFormat : List Tok :=
  [.str "{0._priv}", .ident "format" 17, opNamed "MEMBER_ACCESS", .ident "x" 19, .fsc 1 .tuple, opNamed "FUNCTION_CALL"]

def isStr (r : Except Exc (SVal CV)) (s : String) : Bool :=
  match r with | .ok (.obj (.str t)) => t == s | _ => false
def isInt (r : Except Exc (SVal CV)) (i : Int) : Bool :=
  match r with | .ok (.obj (.int t)) => t == i | _ => false
def isExc (r : Except Exc (SVal CV)) (e : String) : Bool :=
  match r with | .error t => t == e | _ => false
def readNames (r : Except Exc (SVal CV) × ES CState CV) : List String := (attrReads r).map (·.2)

/-- non-vacuity: `x.pub` evaluates to 5 and the evaluator's log contains exactly the read of `pub` -/
example : let r := eval (concreteHost host) locals globals tokPub []
    (isInt r.1 5 && readNames r == ["pub"] && namesResolved r == ["x"]) = true := by decide +kernel

/-- the guarded path: `x._priv` is refused with ParseError and nothing is read -/
example : let r := eval (concreteHost host) locals globals tokPriv []
    (isExc r.1 "ParseError" && readNames r == [] && r.2.hs == []) = true := by decide +kernel

/-- The RPN of `'{0._priv}'.format(x)` is refused: `get_member` hands out `_safe_format`
    (no `getattr` is issued at all), whose `get_field` raises `ParseError` before anything is looked up. -/
theorem format_refused_witness : let r := eval (concreteHost host) locals globals tokFormat []
    (isExc r.1 "ParseError" && readNames r == [] && r.2.hs == []) = true := by decide +kernel

/-- With a formatter that lacks the refusal in `get_field` (`concreteHostWith false`, i.e. what `str.format` does;
    D15), the same token list returns the private value, and the underscore read
    happens inside the HOST operation `call` while the evaluator's own log stays clean.  This is why
    `no_underscore_getattr` alone does not give C19 and the host contract is needed. -/
theorem prefix_format_bypass_witness : let r := eval (concreteHostWith false host) locals globals tokFormat []
    (isStr r.1 "SECRET" && readNames r == [] && r.2.hs == [(1, "_priv")]) = true := by decide +kernel

/-- RPN of `'{0:>{1._w}}'.format('ab', x)`: the underscore attribute sits in a field NESTED in the format spec. -/
def tokNested : List Tok :=
  [.str "{0:>{1._w}}", .ident "format" 19, opNamed "MEMBER_ACCESS", .str "ab", .ident "x" 27, .fsc 2 .tuple,
   opNamed "FUNCTION_CALL"]

/-- `string.Formatter` recurses into the format spec, so `_SafeFormatter.get_field` also vets nested fields. -/
theorem nested_spec_refused_witness : let r := eval (concreteHost host) locals globals tokNested []
    (isExc r.1 "ParseError" && readNames r == [] && r.2.hs == []) = true := by decide +kernel

/-- Without the refusal the nested field is traversed: `_w = 6` becomes the width. -/
theorem prefix_nested_spec_witness : let r := eval (concreteHostWith false host) locals globals tokNested []
    (isStr r.1 "    ab" && r.2.hs == [(1, "_w")]) = true := by decide +kernel

/-- a host with a generator `g` whose frame's globals hold `__builtins__` (the builtins dict) and a private `_REC` -/
def hostG : HostDesc :=
  { sents := [], ns := { globals := ["__builtins__", "__name__", "_REC"], locals := [], builtins := ["getattr", "open"],
                         gbIsBuiltins := true } }
def localsG : Env CV := [("g", .gen)]
def tokFmtG (fmt : String) : List Tok :=
  [.str fmt, .ident "format" 40, opNamed "MEMBER_ACCESS", .ident "g" 48, .fsc 1 .tuple, opNamed "FUNCTION_CALL"]
def isOStr (r : Except Exc (SVal CV)) : Bool :=
  match r with | .ok (.obj .ostr) => true | _ => false

/-- `g.gi_frame` is refused by `get_member` … -/
theorem member_of_generator_refused_witness :
    let r := eval (concreteHost hostG) localsG globals [.ident "g" 0, .ident "gi_frame" 2, opNamed "MEMBER_ACCESS"] []
    (isExc r.1 "ParseError" && readNames r == [] && r.2.hs == []) = true := by decide +kernel

/-- … and so is the same walk written as a replacement field
    `'{0.gi_frame.f_globals[__builtins__][getattr]}'.format(g)`: the first attribute step on the generator is refused
    and nothing is read. -/
theorem format_traverses_reflective_witness :
    let r := eval (concreteHost hostG) localsG globals (tokFmtG "{0.gi_frame.f_globals[__builtins__][getattr]}") []
    (isExc r.1 "ParseError" && readNames r == [] && r.2.hs == []) = true := by decide +kernel

/-- likewise for a module-private global (`[_REC]` is an index step, not an attribute step, but the walk never gets
    past the generator) -/
theorem format_reads_private_global_witness :
    let r := eval (concreteHost hostG) localsG globals (tokFmtG "{0.gi_frame.f_globals[_REC]}") []
    (isExc r.1 "ParseError" && r.2.hs == []) = true := by decide +kernel

/-- an underscore ATTRIBUTE step is refused before anything is looked up -/
theorem format_underscore_attribute_of_frame_refused_witness :
    let r := eval (concreteHost hostG) localsG globals (tokFmtG "{0.gi_frame._x}") []
    (isExc r.1 "ParseError" && r.2.hs == []) = true := by decide +kernel

/-- every attribute of a generator is out of reach of a replacement field, public or not -/
example : let r := eval (concreteHost hostG) localsG globals (tokFmtG "{0.gi_code.nope}") []
    isExc r.1 "ParseError" = true := by decide +kernel
example : let r := eval (concreteHost hostG) localsG globals (tokFmtG "{0.gi_running}") []
    isExc r.1 "ParseError" = true := by decide +kernel
/-- the generator itself can still be formatted (no attribute step) -/
example : let r := eval (concreteHost hostG) localsG globals (tokFmtG "{0}") []
    isExc r.1 "ParseError" = false := by decide +kernel

/-- non-vacuity of `host_never_asked_underscore` / `ghost_log_faithful`: on the recording wrapper of the concrete
    host, `x.pub` asks the host for exactly `pub`, and `x._priv` asks for nothing -/
example : let r := eval (spy (concreteHost host)) locals globals tokPub ([], [])
    (isInt r.1 5 && r.2.hs.2 == ["pub"] && (attrReads r).map (·.2) == ["pub"]) = true := by decide +kernel
example : let r := eval (spy (concreteHost host)) locals globals tokPriv ([], [])
    (isExc r.1 "ParseError" && r.2.hs.2 == []) = true := by decide +kernel

end Witness

/-- `get_member` never issues a `getattr` on an object of `_REFLECTIVE_TYPES` and always raises. -/
theorem reflective_member_refused (h : Host σ Obj) (a : Obj) (name : String) (off : Nat) (s : ES σ Obj)
    (hr : h.isReflective a = true) :
    (getMember h a (.tok (.ident name off)) s).2.reads = s.reads ∧
    ∃ e, (getMember h a (.tok (.ident name off)) s).1 = .error e := by
  unfold getMember
  by_cases hu : name.startsWith "_" = true
  · simp only [hu, if_true, M.bind, M.lift, M.throw]
    split <;> (rename_i heq; simp only [Prod.mk.injEq] at heq; obtain ⟨_, rfl⟩ := heq; exact ⟨rfl, _, rfl⟩)
  · simp [hu, hr, M.throw]

/-- For the names of `_SAFE_STR_METHODS`, `get_member` on the type `str` returns the safe function and on a
    str instance the safe partial, without issuing any `getattr` (the real `str.format` is unreachable). -/
theorem safe_method_intercepted (h : Host σ Obj) (a : Obj) (name : String) (off : Nat) (s : ES σ Obj)
    (hn : name ∈ safeStrMethods) (hu : ¬ (name.startsWith "_" = true)) (hr : h.isReflective a = false) :
    (h.isStrType a = true → getMember h a (.tok (.ident name off)) s = (.ok (h.safeFn name), s)) ∧
    (h.isStrType a = false → h.isStrInst a = true →
      getMember h a (.tok (.ident name off)) s = (.ok (h.mkPartial name a), s)) := by
  constructor
  · intro ht; simp [getMember, hu, hr, hn, ht, M.pure]
  · intro ht hi; simp [getMember, hu, hr, hn, ht, hi, M.pure]

/-- the intercepted names are public, so the hypothesis `hu` above is satisfiable for each of them -/
example : ∀ n ∈ safeStrMethods, ¬ (n.startsWith "_" = true) := by decide +kernel

/-- On the concrete host of the correspondence stream — sentinel objects with private attributes, callable
    attributes, a generator with its frame / code object / namespaces, and the model of `_safe_format` /
    `_safe_format_map` with field traversal — every ATTRIBUTE read on a sentinel or a reflective object, whether issued
    by the evaluator (`evalGetattr`) or inside the host operation `call` (format traversal, `hostGetattr`), is recorded
    in the host state, and none has an underscore name: C19's "never reads an underscore attribute" for this host, for
    every token list and every environment.  (Index steps of format fields — `[__builtins__]`, `[_name]` on a
    namespace — are not attribute reads and are not recorded.) -/
theorem concrete_host_no_underscore (d : HostDesc) (locals globals : Env CV) (tokens : List Tok) :
    ∀ p ∈ (eval (concreteHost d) locals globals tokens []).2.hs, ¬ (p.2.startsWith "_" = true) :=
  (inv_eval (R := fun _ => True) (N := fun _ => True) (concreteHost_ok d)
    ⟨fun _ _ _ => trivial, fun _ => trivial, fun _ _ _ => trivial⟩ tokens [] (fun _ hp => nomatch hp)).host

end GtModel.C19
