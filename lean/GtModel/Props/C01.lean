/-
  C01 "The edit script turns the first document into the second: discarding everything marked inserted reproduces
  the first document and discarding everything marked removed reproduces the second; the sub-edits of every
  compound edit account for every element of the first container exactly once and every element of the second
  exactly once, at every nesting level, and keep the relative order of list elements."

  Model: `GtModel.edits` (validated against the real engine by stream `script`).  Index bookkeeping:
    `fromIdx subs`        from-index (`fi`) of every sub-edit that is not an Insert, in script order;
    `toIdx resolve subs`  to-index of every sub-edit that is not a Remove: `ti`, for an Insert its `fi` (an Insert's
                          from_node IS the inserted node), for the identity matches `Match(n, n, 0)` of MultiSetEdit
                          (`ti = same`) the index of the pair with the same key in the to-mapping (`keyResolve`);
    `ixRange n`           `[at 0, …, at (n-1)]`.
  Per node (`*_accounts`): for the ordered kinds (`ed` = EditDistance, `fixed` = FixedLengthSequenceEdit, `str` =
  StringEdit over characters, `kvp` = KeyValuePairEdit over [key, value]) both index lists EQUAL the range (each child
  exactly once, in order); for `ms` (MultiSetEdit) and `fk` (FixedKeyDictNodeEdit) they are PERMUTATIONS of the range,
  for EVERY oracle answer (`sanitize_partial_injection`: whatever the assignment solver returned is cut down to a
  partial injection with in-range components before use).
  All levels (`script_accounts`): `Accounts a b s` = `Walk LocalAcc a b s` (Proofs/EditsWalk.lean): the root satisfies
  the per-node statement for the node pair (a, b), every sub-edit that itself has sub-edits carries indices (i, j) that
  name existing children a.children[i], b.children[j], and `Accounts` holds for it on those children (key/value
  pairs: children [key, value]; strings: their characters).

  Whole documents, second sentence of the property (`project_from`, `project_to`): `projectFrom a b s` / `projectTo a b s`
  (Proofs/EditsProject.lean, whose head says how a script is read) REBUILD a document from the script; the documents are
  consulted only to look a node up by a recorded index, never compared.  Proved for every oracle, all options, trees
  with distinct keys:
      projectFrom f t (edits … f t) = some f'  with  f'.Sim f        projectTo f t (edits … f t) = some t'  with  t'.Sim t
  where `Tree.Sim` = equal up to the ORDER of the pairs of mappings at every depth; for documents without mappings it is
  equality (`project_from_mapFree`, `project_to_mapFree`).  What this does NOT cover: the marks on the real
  `EditedTreeNode`s (`removed` / `inserted` / `edit.to_node`) are tied to the model's script by the `script` stream's
  monitor, not by a theorem; `keep_reproduces` below is the PER-NODE statement (it re-reads `LocalAcc` for one compound
  edit and does not mention `edits`; `pick` / `pick_ixRange` are also used by C01x and Proofs/RenderEdits.lean).

  Hypothesis `Tree.KeysDistinct` (no mapping holds a key twice; true of every tree `build` makes from a Python dict,
  `build_keysDistinct`) is needed for the TO side of the two mapping edits only: with a duplicated key the model
  (like the Python code, which looks pairs up by key) would account one to-pair twice.
-/
import GtModel.Proofs.EditsBuild
import GtModel.Proofs.EditsProject

namespace GtModel.C01
open GtModel

/-- whatever the assignment solver answered, the model continues from a partial injection with in-range,
    pairwise distinct components -/
theorem sanitize_partial_injection (nf nt : Nat) (answer : List (Nat × Nat)) :
    PInj nf nt (sanitize nf nt [] answer) :=
  sanitize_pinj nf nt answer [] ⟨by simp, by simp, by simp⟩

theorem oracle_partial_injection (orc : Oracle) (fps tps : List (List Nat)) :
    PInj fps.length tps.length (orc.lookup fps tps) := lookup_pinj orc fps tps

/-- FixedLengthSequenceEdit: each element of both lists exactly once, in order -/
theorem fixed_accounts (o : Opts) (orc : Oracle) (fp tp : List Nat) (fcs tcs : List Tree) (r : Ix → Ix) :
    fromIdx (fixedScript fcs tcs (listTbl o orc fp tp fcs tcs)).subs = ixRange fcs.length ∧
    toIdx r (fixedScript fcs tcs (listTbl o orc fp tp fcs tcs)).subs = ixRange tcs.length :=
  fixedScript_idx r fcs tcs _ (listTbl_top o orc fp tp fcs tcs)

/-- EditDistance over list elements: each element of both lists exactly once, in order -/
theorem ed_accounts (o : Opts) (orc : Oracle) (fp tp : List Nat) (fcs tcs : List Tree) (pen : Nat) (r : Ix → Ix) :
    fromIdx (edScript fcs tcs pen (listTbl o orc fp tp fcs tcs)).subs = ixRange fcs.length ∧
    toIdx r (edScript fcs tcs pen (listTbl o orc fp tp fcs tcs)).subs = ixRange tcs.length :=
  edScript_idx r fcs tcs pen _ (listTbl_top o orc fp tp fcs tcs)

/-- StringEdit: each character of both strings exactly once, in order -/
theorem str_accounts (a b : Str) (r : Ix → Ix) :
    fromIdx (strSubs a b).1 = ixRange a.length ∧ toIdx r (strSubs a b).1 = ixRange b.length :=
  strSubs_idx r a b

/-- KeyValuePairEdit: exactly two parts, the key edit labelled (0,0) and the value edit labelled (1,1) -/
theorem kvp_accounts (o : Opts) (orc : Oracle) (fp tp : List Nat) (k k' : Str) (v v' : Tree) (r : Ix → Ix) :
    (kvpScript k k' (v.eq v') (edits o orc fp tp v v')).subs.length = 2 ∧
    fromIdx (kvpScript k k' (v.eq v') (edits o orc fp tp v v')).subs = [.at 0, .at 1] ∧
    toIdx r (kvpScript k k' (v.eq v') (edits o orc fp tp v v')).subs = [.at 0, .at 1] :=
  ⟨rfl, kvpScript_idx r k k' _ _ (edits_kind_top o orc fp tp v v')⟩

/-- FixedKeyDictNodeEdit: every pair of both mappings exactly once -/
theorem fk_accounts (fkv tkv : List (Str × Tree)) (vtbl : List (List Script)) (r : Ix → Ix)
    (hf : (keys fkv).Nodup) (ht : (keys tkv).Nodup) :
    (fromIdx (fkScript fkv tkv vtbl).subs).Perm (ixRange fkv.length) ∧
    (toIdx r (fkScript fkv tkv vtbl).subs).Perm (ixRange tkv.length) :=
  ⟨fkScript_fromIdx fkv tkv vtbl, fkScript_toIdx r fkv tkv vtbl hf ht⟩

/-- MultiSetEdit, from side: every pair of the first mapping exactly once — for every oracle, no hypothesis -/
theorem ms_accounts_from (amk : Bool) (orc : Oracle) (fp tp : List Nat) (fkv tkv : List (Str × Tree))
    (vtbl : List (List Script)) :
    (fromIdx (msScript amk orc fp tp fkv tkv vtbl).subs).Perm (ixRange fkv.length) :=
  msScript_fromIdx amk orc fp tp fkv tkv vtbl

/-- MultiSetEdit: every pair of both mappings exactly once, for every oracle -/
theorem ms_accounts (amk : Bool) (orc : Oracle) (fp tp : List Nat) (fkv tkv : List (Str × Tree))
    (vtbl : List (List Script)) (hf : (Tree.dict fkv).KeysDistinct) (ht : (Tree.dict tkv).KeysDistinct) :
    (fromIdx (msScript amk orc fp tp fkv tkv vtbl).subs).Perm (ixRange fkv.length) ∧
    (toIdx (keyResolve fkv tkv) (msScript amk orc fp tp fkv tkv vtbl).subs).Perm (ixRange tkv.length) := by
  rw [kd_dict] at hf ht
  exact ⟨msScript_fromIdx amk orc fp tp fkv tkv vtbl,
    msScript_toIdx amk orc fp tp fkv tkv vtbl hf.1 ht.1
      (kvSymm_of_eqSymm _ _ (fun x hx y hy => Tree.eq_symm _ _ (hf.2 x hx) (ht.2 y hy)))⟩

/-- C01: the script accounts for both documents at every nesting level -/
theorem script_accounts (o : Opts) (orc : Oracle) (fp tp : List Nat) (f t : Tree)
    (hf : f.KeysDistinct) (ht : t.KeysDistinct) :
    Accounts (.tree f) (.tree t) (edits o orc fp tp f t) :=
  accounts_edits o orc fp tp f t hf ht

/-- trees built from documents (Python dicts cannot hold a key twice) have distinct keys -/
theorem build_keysDistinct (o : Opts) (d : Doc) (h : d.KeysDistinct) : (build o d).KeysDistinct := build_kd o d h

/-- C01 for whole documents -/
theorem script_accounts_docs (o : Opts) (orc : Oracle) (f t : Doc) (hf : f.KeysDistinct) (ht : t.KeysDistinct) :
    Accounts (.tree (build o f)) (.tree (build o t)) (diffDocs o orc f t) :=
  script_accounts o orc [] [] _ _ (build_kd o f hf) (build_kd o t ht)

/-- the from-children a compound edit keeps when everything inserted is discarded -/
def keepFrom (a : Nd) (subs : List Script) : List Nd := pick a.children (fromIdx subs)
/-- the to-children a compound edit keeps when everything removed is discarded -/
def keepTo (a b : Nd) (subs : List Script) : List Nd := pick b.children (toIdx (resolveSame a b) subs)

/-- PER NODE ONLY: a compound edit that accounts for the children of `a` and `b` keeps exactly the children of the first
    node when the insertions are discarded and exactly the children of the second when the removals are discarded (in
    order for sequences, as multisets for mappings) -/
theorem keep_reproduces {a b : Nd} {k : Kind} {subs : List Script} (h : LocalAcc a b k subs)
    (hk : k.hasSubs = true) :
    (k.ordered = true → keepFrom a subs = a.children ∧ keepTo a b subs = b.children) ∧
    (k.ordered = false → (keepFrom a subs).Perm a.children ∧ (keepTo a b subs).Perm b.children) := by
  have h := (h hk).2
  constructor
  · intro ho
    simp only [ho, if_true] at h
    simp only [keepFrom, keepTo, h.1, h.2, pick_ixRange, and_self]
  · exact fun _ => ⟨pick_perm a.children (perm_of_ite h).1, pick_perm b.children (perm_of_ite h).2⟩

/-- the root of the script satisfies the premise of `keep_reproduces` (and so does every node below, by `script_accounts`) -/
theorem keep_root (o : Opts) (orc : Oracle) (fp tp : List Nat) (f t : Tree) (hf : f.KeysDistinct) (ht : t.KeysDistinct) :
    LocalAcc (.tree f) (.tree t) (edits o orc fp tp f t).kind (edits o orc fp tp f t).subs :=
  ((walk_iff _ _ _).1 (script_accounts o orc fp tp f t hf ht)).1

theorem nd_sim_tree {a : Nd} {f : Tree} (h : a.Sim (.tree f)) : ∃ f', a = .tree f' ∧ f'.Sim f := by
  cases a with
  | tree f' => exact ⟨f', rfl, h⟩
  | kv _ _ => exact absurd h (by simp [Nd.Sim])
  | chr _ => exact absurd h (by simp [Nd.Sim])

/-- C01, sentence 2, for EVERY script that accounts for both nodes at every level (`Accounts`): discarding what is
    marked inserted rebuilds the first node, discarding what is marked removed rebuilds the second (mappings up to
    the order of their pairs) -/
theorem project_of_accounts (a b : Nd) (s : Script) (h : Accounts a b s) :
    (∃ a', projectFrom a b s = some a' ∧ a'.Sim a) ∧ (∃ b', projectTo a b s = some b' ∧ b'.Sim b) :=
  ⟨projectFrom_ok a b s h, projectTo_ok a b s h⟩

/-- C01, sentence 2, first half: rebuilding a document from the engine's script without everything marked inserted
    gives the FIRST document (mappings up to the order of their pairs), for every oracle and all options -/
theorem project_from (o : Opts) (orc : Oracle) (fp tp : List Nat) (f t : Tree) (hf : f.KeysDistinct) (ht : t.KeysDistinct) :
    ∃ f', projectFrom (.tree f) (.tree t) (edits o orc fp tp f t) = some (.tree f') ∧ f'.Sim f := by
  obtain ⟨a', h1, h2⟩ := projectFrom_ok _ _ _ (script_accounts o orc fp tp f t hf ht)
  obtain ⟨f', rfl, h3⟩ := nd_sim_tree h2
  exact ⟨f', h1, h3⟩

/-- C01, sentence 2, second half: … without everything marked removed gives the SECOND document -/
theorem project_to (o : Opts) (orc : Oracle) (fp tp : List Nat) (f t : Tree) (hf : f.KeysDistinct) (ht : t.KeysDistinct) :
    ∃ t', projectTo (.tree f) (.tree t) (edits o orc fp tp f t) = some (.tree t') ∧ t'.Sim t := by
  obtain ⟨b', h1, h2⟩ := projectTo_ok _ _ _ (script_accounts o orc fp tp f t hf ht)
  obtain ⟨t', rfl, h3⟩ := nd_sim_tree h2
  exact ⟨t', h1, h3⟩

theorem project_from_docs (o : Opts) (orc : Oracle) (f t : Doc) (hf : f.KeysDistinct) (ht : t.KeysDistinct) :
    ∃ f', projectFrom (.tree (build o f)) (.tree (build o t)) (diffDocs o orc f t) = some (.tree f') ∧
      f'.Sim (build o f) :=
  project_from o orc [] [] _ _ (build_kd o f hf) (build_kd o t ht)

theorem project_to_docs (o : Opts) (orc : Oracle) (f t : Doc) (hf : f.KeysDistinct) (ht : t.KeysDistinct) :
    ∃ t', projectTo (.tree (build o f)) (.tree (build o t)) (diffDocs o orc f t) = some (.tree t') ∧
      t'.Sim (build o t) :=
  project_to o orc [] [] _ _ (build_kd o f hf) (build_kd o t ht)

/-! `Tree.Sim` identifies nothing but the order of mapping pairs: on trees without mappings it is equality -/

mutual
/-- no DictNode / FixedKeyDictNode anywhere (lists of lists of leaves: CSV tables, JSON arrays) -/
def mapFree : Tree → Bool
  | .leaf _ => true
  | .list cs => mapFreeL cs
  | .dict _ => false
  | .fdict _ => false
def mapFreeL : List Tree → Bool
  | [] => true
  | c :: cs => mapFree c && mapFreeL cs
end

mutual
theorem sim_eq_of_mapFree : ∀ (f' f : Tree), f'.Sim f → mapFree f = true → f' = f
  | .leaf a, f, h, _ => by simp only [Tree.Sim] at h; exact h.symm
  | .list as, f, h, hm => by
    simp only [Tree.Sim] at h
    obtain ⟨bs, rfl, h2⟩ := h
    simp only [mapFree] at hm
    rw [simL_eq_of_mapFree as bs h2 hm]
  | .dict as, f, h, hm => by
    simp only [Tree.Sim] at h
    obtain ⟨_, bs, rfl, _⟩ := h
    simp [mapFree] at hm
  | .fdict as, f, h, hm => by
    simp only [Tree.Sim] at h
    obtain ⟨_, bs, rfl, _⟩ := h
    simp [mapFree] at hm
theorem simL_eq_of_mapFree : ∀ (as bs : List Tree), SimL as bs → mapFreeL bs = true → as = bs
  | [], bs, h, _ => by simp only [SimL] at h; exact h.symm
  | a :: as, bs, h, hm => by
    simp only [SimL] at h
    obtain ⟨b, bs', rfl, h1, h2⟩ := h
    simp only [mapFreeL, Bool.and_eq_true] at hm
    rw [sim_eq_of_mapFree a b h1 hm.1, simL_eq_of_mapFree as bs' h2 hm.2]
end

/-- documents without mappings: the projections are the documents themselves -/
theorem project_from_mapFree (o : Opts) (orc : Oracle) (fp tp : List Nat) (f t : Tree)
    (hf : mapFree f = true) (hkf : f.KeysDistinct) (hkt : t.KeysDistinct) :
    projectFrom (.tree f) (.tree t) (edits o orc fp tp f t) = some (.tree f) := by
  obtain ⟨f', h1, h2⟩ := project_from o orc fp tp f t hkf hkt
  rw [h1, sim_eq_of_mapFree f' f h2 hf]

theorem project_to_mapFree (o : Opts) (orc : Oracle) (fp tp : List Nat) (f t : Tree)
    (ht : mapFree t = true) (hkf : f.KeysDistinct) (hkt : t.KeysDistinct) :
    projectTo (.tree f) (.tree t) (edits o orc fp tp f t) = some (.tree t) := by
  obtain ⟨t', h1, h2⟩ := project_to o orc fp tp f t hkf hkt
  rw [h1, sim_eq_of_mapFree t' t h2 ht]

/-! `edits` is defined by well-founded recursion and `Tree.eq` too, so the kernel cannot evaluate them on literals;
  the examples are given for the sub-functions and evaluated by `decide +kernel`, where node equality is involved
  after rewriting it to its structurally recursive twin (`Tree.eq_eqS`); the correspondence stream ties whole scripts
  to the real engine. -/

/-- the hypotheses are satisfiable by non-trivial trees / documents -/
example : (Tree.list [.dict [([107], .leaf (.float [53])), ([108], .list [.fdict [([97], .leaf .null), ([98], .leaf .null)]])]]).KeysDistinct := by
  decide
example : (Doc.obj [([107], .scalar (.int 5)), ([108], .list [.obj [([107], .scalar .null)]])]).KeysDistinct := by decide
/-- … and can fail (a duplicated key, which no Python dict can hold) -/
example : ¬ (Tree.dict [([107], .leaf .null), ([107], .leaf .null)]).KeysDistinct := by decide

/-- an adversarial solver answer (out-of-range indices, a row and a column used twice) is cut down to a partial injection -/
example : sanitize 2 2 [] [(0, 1), (0, 0), (5, 1), (1, 1), (1, 0), (1, 0)] = [(0, 1), (1, 0)] := by decide

/-- "abc" → "axc": match a, insert x, remove b, match c — each character of both strings once, in order -/
example : fromIdx (strSubs [97, 98, 99] [97, 120, 99]).1 = [.at 0, .at 1, .at 2] ∧
    toIdx (fun _ => .same) (strSubs [97, 98, 99] [97, 120, 99]).1 = [.at 0, .at 1, .at 2] ∧
    ((strSubs [97, 98, 99] [97, 120, 99]).1.map Script.kind) = [.match_, .insert, .remove, .match_] := by
  decide +kernel

/-- FixedLengthSequenceEdit of 3 against 1 element: one positional pair, two removals -/
example : fromIdx (fixedScript [.leaf .null, .leaf (.float [49]), .leaf .null] [.leaf (.float [50])] [[mkMatch 1]]).subs
      = [.at 0, .at 1, .at 2] ∧
    toIdx (fun _ => .same) (fixedScript [.leaf .null, .leaf (.float [49]), .leaf .null] [.leaf (.float [50])] [[mkMatch 1]]).subs
      = [.at 0] := by
  decide +kernel

/-- the index bookkeeping notices an element that is accounted twice or not at all -/
example : fromIdx [mkRemove 0 1 1, mkRemove 0 1 1] ≠ ixRange 2 := by decide
example : fromIdx [mkRemove 1 1 1] ≠ ixRange 2 := by decide

/-! Whole-document projections on a concrete 3-level pair (mapping → list → string):
  `{"a":[1,2,"xy"],"b":2,"c":3}` → `{"a":[2,"xzy",3],"c":3,"d":2}` without automatic key matching; the solver pairs
  a↦a and b↦d.  `pScript` IS the model's script for this pair (`pScript_is_model_output`, proved by unfolding
  `edits` level by level: the kernel cannot evaluate the well-founded recursion directly): MultiSetEdit with the
  identity match of c:3, KeyValuePairEdit a/a with an EditDistance over the lists and a StringEdit "xy"→"xzy" inside,
  KeyValuePairEdit b/d.  It satisfies the hypothesis of `project_of_accounts`, and both projections are computed by
  `rfl`. -/

def pF : Tree := .dict [([97], .list [.leaf (.int 1), .leaf (.int 2), .leaf (.str [120, 121])]), ([98], .leaf (.int 2)),
  ([99], .leaf (.int 3))]
def pT : Tree := .dict [([97], .list [.leaf (.int 2), .leaf (.str [120, 122, 121]), .leaf (.int 3)]), ([99], .leaf (.int 3)),
  ([100], .leaf (.int 2))]
def pOrc : Oracle := [{ f := [[0], [1]], t := [[0], [2]], pairs := [(1, 1), (0, 0)] }]
def pScript : Script :=
  .mk .ms .none .none 4 [
    .mk .match_ (.at 2) .same 0 [],
    .mk .kvp (.at 0) (.at 0) 3 [
      .mk .match_ (.at 0) (.at 0) 0 [],
      .mk .ed (.at 1) (.at 1) 3 [
        .mk .remove (.at 0) .none 1 [],
        .mk .match_ (.at 1) (.at 0) 0 [],
        .mk .str (.at 2) (.at 1) 1 [
          .mk .match_ (.at 0) (.at 0) 0 [], .mk .insert (.at 1) .none 1 [], .mk .match_ (.at 1) (.at 2) 0 []],
        .mk .insert (.at 2) .none 1 []]],
    .mk .kvp (.at 1) (.at 2) 1 [.mk .match_ (.at 0) (.at 0) 1 [], .mk .match_ (.at 1) (.at 1) 0 []]]

example : pF.KeysDistinct ∧ pT.KeysDistinct := by decide

/-- the list level: `[1, 2, "xy"]` → `[2, "xzy", 3]` (remove 1, match 2, StringEdit "xy"→"xzy", insert 3) -/
theorem pList_script (fp tp : List Nat) (orc : Oracle) :
    edits {amk := false} orc fp tp (.list [.leaf (.int 1), .leaf (.int 2), .leaf (.str [120, 121])])
        (.list [.leaf (.int 2), .leaf (.str [120, 122, 121]), .leaf (.int 3)]) =
      .mk .ed .none .none 3 [
        .mk .remove (.at 0) .none 1 [],
        .mk .match_ (.at 1) (.at 0) 0 [],
        .mk .str (.at 2) (.at 1) 1 [
          .mk .match_ (.at 0) (.at 0) 0 [], .mk .insert (.at 1) .none 1 [], .mk .match_ (.at 1) (.at 2) 0 []],
        .mk .insert (.at 2) .none 1 []] := by
  -- every child is a leaf: once the table is written out nothing depends on `fp`, `tp`, `orc` and the kernel evaluates
  rw [edits_list_list]
  simp only [listTbl, List.zipIdx_cons, List.zipIdx_nil, List.map_cons, List.map_nil, edits_leaf, eqL_eqLS, edScript,
    trimLens_eqS]
  exact Script.eq_of_beq _ _ (by decide +kernel)

/-- `pScript` is what the model computes for the pair (all three levels) -/
theorem pScript_is_model_output : edits {amk := false} pOrc [] [] pF pT = pScript := by
  -- only the value edit of the pair a/a is consulted (the values of b/d are equal): the list level above
  rw [pF, pT, edits_dict_dict]
  simp only [kvTbl, List.zipIdx_cons, List.zipIdx_nil, List.map_cons, List.map_nil, pList_script, subKV_subKVS, msScript,
    kvEq, Tree.eq_eqS]
  exact Script.eq_of_beq _ _ (by decide +kernel)

/-- `project_from` / `project_to` on the model's own script for this pair: the first document with its pairs in
    script order (identity match c first), the second with the to-key `d` of the pair b↦d -/
example : projectFrom (.tree pF) (.tree pT) (edits {amk := false} pOrc [] [] pF pT) = some (.tree (.dict
    [([99], .leaf (.int 3)), ([97], .list [.leaf (.int 1), .leaf (.int 2), .leaf (.str [120, 121])]),
      ([98], .leaf (.int 2))])) := by rw [pScript_is_model_output]; rfl
example : projectTo (.tree pF) (.tree pT) (edits {amk := false} pOrc [] [] pF pT) = some (.tree (.dict
    [([99], .leaf (.int 3)), ([97], .list [.leaf (.int 2), .leaf (.str [120, 122, 121]), .leaf (.int 3)]),
      ([100], .leaf (.int 2))])) := by rw [pScript_is_model_output]; rfl

/-- the script accounts for both documents at all three levels (the hypothesis of `project_of_accounts`) -/
example : Accounts (.tree pF) (.tree pT) pScript :=
  pScript_is_model_output ▸ script_accounts _ pOrc [] [] pF pT (by decide) (by decide)

/-- discarding the insertions (the inserted `z`, the inserted `3`): the first document, its pairs in script order
    (identity match c first) — the list `[1,2,"xy"]` and the string `"xy"` are rebuilt element by element -/
example : projectFrom (.tree pF) (.tree pT) pScript = some (.tree (.dict
    [([99], .leaf (.int 3)), ([97], .list [.leaf (.int 1), .leaf (.int 2), .leaf (.str [120, 121])]),
      ([98], .leaf (.int 2))])) := rfl

/-- discarding the removals (the removed `1`): the second document; the key of the pair b↦d is the to-key `d` -/
example : projectTo (.tree pF) (.tree pT) pScript = some (.tree (.dict
    [([99], .leaf (.int 3)), ([97], .list [.leaf (.int 2), .leaf (.str [120, 122, 121]), .leaf (.int 3)]),
      ([100], .leaf (.int 2))])) := rfl

/-- … which is `pF` up to the order of its pairs -/
example : Tree.Sim (.dict [([99], .leaf (.int 3)), ([97], .list [.leaf (.int 1), .leaf (.int 2), .leaf (.str [120, 121])]),
    ([98], .leaf (.int 2))]) pF := by
  simp only [Tree.Sim, pF]
  exact ⟨_, _, rfl, SimKV.refl _, (List.Perm.swap _ _ _).trans ((List.Perm.swap _ _ _).cons _)⟩

/-- the projections are NOT insensitive to the script: a sub-edit that names the wrong element, a missing sub-edit, an
    index out of range or an edit kind that does not fit its survivors give another document or none -/
example : projectFrom (.tree (.list [.leaf (.int 1), .leaf (.int 2)])) (.tree (.list [.leaf (.int 1), .leaf (.int 3)]))
      (.mk .fixed .none .none 1 [.mk .match_ (.at 0) (.at 0) 0 [], .mk .match_ (.at 0) (.at 1) 1 []])
    = some (.tree (.list [.leaf (.int 1), .leaf (.int 1)])) := rfl
example : projectTo (.tree (.list [.leaf (.int 1), .leaf (.int 2)])) (.tree (.list [.leaf (.int 1), .leaf (.int 3)]))
      (.mk .fixed .none .none 1 [.mk .match_ (.at 0) (.at 0) 0 []])
    = some (.tree (.list [.leaf (.int 1)])) := rfl
example : projectFrom (.tree (.list [.leaf (.int 1), .leaf (.int 2)])) (.tree (.list [.leaf (.int 1), .leaf (.int 3)]))
      (.mk .fixed .none .none 1 [.mk .match_ (.at 0) (.at 0) 0 [], .mk .match_ (.at 2) (.at 1) 1 []]) = none := rfl
example : projectFrom (.tree (.list [.leaf (.int 1), .leaf (.int 2)])) (.tree (.list [.leaf (.int 1), .leaf (.int 3)]))
      (.mk .ms .none .none 1 [.mk .match_ (.at 0) (.at 0) 0 [], .mk .match_ (.at 1) (.at 1) 1 []]) = none := rfl
/-- … and `Tree.Sim` does not identify a re-ordered list or different leaves -/
example : ¬ Tree.Sim (.list [.leaf (.int 1), .leaf (.int 2)]) (.list [.leaf (.int 2), .leaf (.int 1)]) := by
  simp [Tree.Sim, SimL]
example : ¬ Tree.Sim (.dict [([97], .leaf (.int 1))]) (.dict [([97], .leaf (.int 2))]) := by
  simp [Tree.Sim, SimKV]

def fkvE : List (Str × Tree) := [([97], .leaf (.float [49])), ([98], .leaf .null), ([99], .leaf (.str [120]))]
def tkvE : List (Str × Tree) := [([98], .leaf (.float [50])), ([100], .leaf (.float [49])), ([97], .leaf (.float [49]))]
/-- an adversarial solver answer for the matcher over the nodes left to it (from-pairs 1, 2; to-pairs 0, 1):
    out-of-range indices, a repeated pair, a repeated column -/
def orcE : Oracle := [{ f := [[1], [2]], t := [[0], [1]], pairs := [(7, 0), (1, 1), (1, 1), (1, 5), (0, 1)] }]

example : (Tree.dict fkvE).KeysDistinct ∧ (Tree.dict tkvE).KeysDistinct := by decide

/-- MultiSetEdit without auto key matching on {a:1.0, b:null, c:"x"} → {b:2.0, d:1.0, a:1.0}: the identity match of
    a:1.0 resolves to to-index 2; of the solver's answer only (1,1) survives (c ↦ d), b is removed, b:2.0 inserted;
    both index lists are permutations (neither is the identity) -/
example : fromIdx (msScript false orcE [] [] fkvE tkvE []).subs = [.at 0, .at 2, .at 1] ∧
    toIdx (keyResolve fkvE tkvE) (msScript false orcE [] [] fkvE tkvE []).subs = [.at 2, .at 1, .at 0] ∧
    (msScript false orcE [] [] fkvE tkvE []).subs.map Script.kind = [.match_, .kvp, .remove, .insert] := by
  simp only [msScript, kvEq, Tree.eq_eqS]
  decide +kernel

/-- FixedKeyDictNodeEdit on the same pairs: a↦2, b↦0 by key, c removed, d inserted -/
example : fromIdx (fkScript fkvE tkvE []).subs = [.at 0, .at 1, .at 2] ∧
    toIdx (fun _ => .none) (fkScript fkvE tkvE []).subs = [.at 2, .at 0, .at 1] := by
  simp only [fkScript, kvEq, Tree.eq_eqS]
  decide +kernel

end GtModel.C01
