/-
  C11 "String changes are minimal".  `strScript a b` (Model/EditMatrix.lean) mirrors
  `StringNode(a).edits(StringNode(b))` per character.  For all strings over any alphabet with decidable equality:
  the script spells `a` and `b` (`strScript_reconstructs`) and marks `|a| + |b| - 2·lcs a b` characters
  (`strScript_marks`), while every script for `a → b` keeps a common subsequence and marks the rest (`script_facts`).
  The other statements are arithmetic on these three.
-/
import GtModel.Proofs.EditMatrixScript

namespace GtModel.C11
open GtModel.EditMatrix

variable {α : Type} [DecidableEq α]

/-- The three cases of `StringNode.edits`. -/
theorem strScript_cases (a b : List α) :
    (a = b ∧ strScript a b = a.map CharOp.kept) ∨
    (∃ x y, x ≠ y ∧ a = [x] ∧ b = [y] ∧ strScript a b = [CharOp.subst x y]) ∨
    (a ≠ b ∧ strScript a b = editDistanceScript a b) := by
  by_cases h : a = b
  · exact Or.inl ⟨h, by simp [strScript, h]⟩
  · right
    unfold strScript
    rw [if_neg h]
    split
    · rename_i x y
      exact Or.inl ⟨x, y, fun e => h (by rw [e]), rfl, rfl, rfl⟩
    · exact Or.inr ⟨h, rfl⟩

/-- Dropping the inserted characters gives the source string, dropping the removed characters gives the target. -/
theorem strScript_reconstructs (a b : List α) :
    fromProj (strScript a b) = a ∧ toProj (strScript a b) = b := by
  rcases strScript_cases a b with ⟨rfl, e⟩ | ⟨x, y, _, rfl, rfl, e⟩ | ⟨_, e⟩ <;> rw [e]
  · simp
  · simp [CharOp.fromPart, CharOp.toPart]
  · obtain ⟨n, h, _⟩ := editDistanceScript_isScript a b
    exact ⟨h.fromProj, h.toProj⟩

/-- The marked characters and a longest common subsequence (counted in both strings) make up the two strings. -/
theorem strScript_marks (a b : List α) :
    removed (strScript a b) + inserted (strScript a b) + 2 * lcs a b = a.length + b.length := by
  rcases strScript_cases a b with ⟨rfl, e⟩ | ⟨x, y, hxy, rfl, rfl, e⟩ | ⟨_, e⟩ <;> rw [e]
  · simp [lcs_self]; omega
  · simp [CharOp.nRemoved, CharOp.nInserted, lcs, hxy]
  · obtain ⟨n, h, hn⟩ := editDistanceScript_isScript a b
    rw [h.marks]; exact hn

/-- C11: the characters shown as unchanged form a LONGEST common subsequence of the two strings
    (`lcs a b` is the maximum length of a common subsequence: `lcs_le`, `lcs_attained`). -/
theorem string_edit_minimal (a b : List α) :
    IsCommonSubseq (kept (strScript a b)) a b ∧ (kept (strScript a b)).length = lcs a b := by
  obtain ⟨hc, hm⟩ := script_facts _ (strScript_reconstructs a b).1 (strScript_reconstructs a b).2
  have := strScript_marks a b
  exact ⟨hc, by omega⟩

/-- … and no common subsequence is longer. -/
theorem kept_longest (a b : List α) (s : List α) (h : IsCommonSubseq s a b) :
    s.length ≤ (kept (strScript a b)).length := by
  rw [(string_edit_minimal a b).2]; exact lcs_le a b s h

-- non-vacuity of `kept_longest` on two strings with a shared suffix and repeated characters
example : IsCommonSubseq ['b', 'a'] ['a', 'b', 'c', 'a', 'b'] ['b', 'c', 'a', 'a', 'b'] := ⟨by decide, by decide⟩
example : 2 ≤ (kept (strScript ['a', 'b', 'c', 'a', 'b'] ['b', 'c', 'a', 'a', 'b'])).length :=
  kept_longest _ _ ['b', 'a'] ⟨by decide, by decide⟩
example : strScript ['a', 'b', 'c', 'a', 'b'] ['b', 'c', 'a', 'a', 'b'] =
    [.removed 'a', .kept 'b', .kept 'c', .inserted 'a', .kept 'a', .kept 'b'] := by decide

/-- The number of characters marked removed plus inserted. -/
theorem removed_plus_inserted_eq (a b : List α) :
    removed (strScript a b) + inserted (strScript a b) = a.length + b.length - 2 * lcs a b := by
  have := strScript_marks a b
  omega

/-- A script is valid for `a → b` iff removing its inserted characters spells `a` and removing its removed
    characters spells `b`.  No valid script marks fewer characters than `strScript a b`. -/
theorem removed_plus_inserted_minimal (a b : List α) (s' : List (CharOp α))
    (hfrom : fromProj s' = a) (hto : toProj s' = b) :
    removed (strScript a b) + inserted (strScript a b) ≤ removed s' + inserted s' := by
  obtain ⟨hc, hm⟩ := script_facts s' hfrom hto
  have := lcs_le a b _ hc
  have := strScript_marks a b
  omega

/-- non-vacuity of `removed_plus_inserted_minimal`: a valid (non-optimal) script for "ab" → "ba" -/
example : fromProj [CharOp.removed 'a', CharOp.removed 'b', CharOp.inserted 'b', CharOp.inserted 'a'] = ['a', 'b'] ∧
    toProj [CharOp.removed 'a', CharOp.removed 'b', CharOp.inserted 'b', CharOp.inserted 'a'] = ['b', 'a'] := by
  decide

/-- The matrix never matches two different characters: a substitution only comes from the special case of two
    one-character strings (`StringNode.edits` returns `Match(self, node, 1)`). -/
theorem strScript_no_subst (a b : List α) (h : a.length ≠ 1 ∨ b.length ≠ 1) :
    ∀ op ∈ strScript a b, op.NoSubst := by
  rcases strScript_cases a b with ⟨_, e⟩ | ⟨x, y, _, rfl, rfl, _⟩ | ⟨_, e⟩
  · rw [e]; exact (IsScript.kept a).noSubst
  · simp at h
  · rw [e]; obtain ⟨n, h, _⟩ := editDistanceScript_isScript a b
    exact h.noSubst

/-- The reported cost (`bounds()` of the fully tightened edit) is the number of characters marked removed or
    inserted — except for two different one-character strings, where the cost is 1 but the character is shown
    as one removal plus one insertion. -/
theorem strCost_eq (a b : List α) (h : a.length ≠ 1 ∨ b.length ≠ 1) :
    strCost a b = removed (strScript a b) + inserted (strScript a b) := by
  rcases strScript_cases a b with ⟨hab, e⟩ | ⟨x, y, _, rfl, rfl, _⟩ | ⟨hab, e⟩
  · rw [e]; simp [strCost, hab]
  · simp at h
  · have hc : strCost a b = (solve (ones (middle a (trimLens a b))) (ones (middle b (trimLens a b)))
        (charCells (middle a (trimLens a b)) (middle b (trimLens a b)))).1 := by
      unfold strCost
      rw [if_neg hab]
      split
      · simp at h
      · rfl
    obtain ⟨p, ma, mb, s, rfl, rfl, ht⟩ := trim_decomp a b
    rw [e, hc, editDistanceScript_eq p ma mb s ht, ht, middle_eq, middle_eq, solve_unit_cost,
      ← (matrixScript_isScript ma mb).marks]
    simp

/-- non-vacuity of `strCost_eq` -/
example : (['a', 'b'].length ≠ 1 ∨ ['b'].length ≠ 1) ∧ strCost ['a', 'b'] ['b'] = 1 := by decide

theorem strCost_single (x y : α) (h : x ≠ y) : strCost [x] [y] = 1 := by
  simp [strCost, h]

-- the hypothesis `a.length ≠ 1 ∨ b.length ≠ 1` of `strScript_no_subst` / `strCost_eq` is needed: for two
-- different one-character strings the script is a substitution and the reported cost (1) is NOT the number of
-- characters marked removed plus inserted (2).
example : strScript ['a'] ['b'] = [CharOp.subst 'a' 'b'] ∧ strCost ['a'] ['b'] = 1 ∧
    removed (strScript ['a'] ['b']) + inserted (strScript ['a'] ['b']) = 2 := by decide

/-- non-vacuity of `strScript_no_subst` -/
example : (['a', 'b'].length ≠ 1 ∨ ['b'].length ≠ 1) ∧
    strScript ['a', 'b'] ['b'] = [CharOp.removed 'a', CharOp.kept 'b'] := by decide

theorem lcs_comm (a b : List α) : lcs a b = lcs b a := EditMatrix.lcs_comm a b

/-- Editing `a` into `b` marks as many characters (removed + inserted) as editing `b` into `a`. -/
theorem removed_plus_inserted_symm (a b : List α) :
    removed (strScript a b) + inserted (strScript a b) = removed (strScript b a) + inserted (strScript b a) := by
  rw [removed_plus_inserted_eq, removed_plus_inserted_eq, lcs_comm a b]; omega

/-- Reading both strings backwards does not change the number of characters marked. -/
theorem removed_plus_inserted_reverse (a b : List α) :
    removed (strScript a.reverse b.reverse) + inserted (strScript a.reverse b.reverse) =
      removed (strScript a b) + inserted (strScript a b) := by
  rw [removed_plus_inserted_eq, removed_plus_inserted_eq, lcs_reverse]; simp

/-- No character is marked removed or inserted exactly when the two strings are equal. -/
theorem no_marks_iff_eq (a b : List α) :
    removed (strScript a b) + inserted (strScript a b) = 0 ↔ a = b := by
  have hm := strScript_marks a b
  constructor
  · intro h
    have h1 := lcs_le_left a b
    have h2 := lcs_le_right a b
    obtain ⟨s, hs, hl⟩ := lcs_attained a b
    exact (hs.1.eq_of_length (by omega)).symm.trans (hs.2.eq_of_length (by omega))
  · rintro rfl
    rw [lcs_self] at hm; omega

/-- non-vacuity / direction check of the corollaries on a concrete pair -/
example : removed (strScript ['a', 'b', 'c'] ['b', 'd']) + inserted (strScript ['a', 'b', 'c'] ['b', 'd']) = 3 ∧
    removed (strScript ['b', 'd'] ['a', 'b', 'c']) + inserted (strScript ['b', 'd'] ['a', 'b', 'c']) = 3 := by decide

/-- The property does not depend on HOW ties are broken: every valid script for `a → b` (whatever produced it) whose
    unchanged characters form a longest common subsequence marks exactly as many characters as `strScript a b`, and
    conversely a valid script that marks that few keeps a longest common subsequence.  (A rewrite of the matrix that
    picks another optimal path changes the correspondence, not the truth of C11.) -/
theorem minimal_iff_kept_longest (a b : List α) (s' : List (CharOp α))
    (hfrom : fromProj s' = a) (hto : toProj s' = b) :
    (kept s').length = lcs a b ↔
      removed s' + inserted s' = removed (strScript a b) + inserted (strScript a b) := by
  obtain ⟨_, hm⟩ := script_facts s' hfrom hto
  have := strScript_marks a b
  constructor <;> intro h <;> omega

/-- non-vacuity: another optimal script for "ab" → "ba" (keeps 'a' where the model keeps 'b') -/
example : fromProj [CharOp.inserted 'b', CharOp.kept 'a', CharOp.removed 'b'] = ['a', 'b'] ∧
    toProj [CharOp.inserted 'b', CharOp.kept 'a', CharOp.removed 'b'] = ['b', 'a'] ∧
    (kept [CharOp.inserted 'b', CharOp.kept 'a', CharOp.removed 'b']).length = lcs ['a', 'b'] ['b', 'a'] ∧
    strScript ['a', 'b'] ['b', 'a'] ≠ [CharOp.inserted 'b', CharOp.kept 'a', CharOp.removed 'b'] := by
  refine ⟨by decide, by decide, ?_, by decide⟩
  simp [lcs, kept, CharOp.keptPart]

end GtModel.C11
