/-
  C10 for XML / HTML elements: "With list edits disabled (always, or only for equal-length lists) elements are paired
  strictly by position and only a surplus tail is removed or inserted … at every nesting level" — for the CHILDREN of
  XML elements (`XMLElementChildren`, a `ListNode` that `XMLElement.__init__` builds with the two list options of the
  `BuildOptions`; model `GtModel.Xml.kidsScript o`, exact correspondence: stream `scriptxml`).

  Statements (3x), (4x) and their `_docs` forms are `XWalk P (.elem f) (.elem t) s` (Proofs/XmlOptions.lean): `P` holds for the root edit and the node
  pair it relates, and for every XML sub-edit with sub-edits (`XMLElementEdit` → its children edit → the paired child
  elements → …) on the nodes its indices name: at every nesting level of elements.

  (3x) `xml_no_list_edits_positional`              with `allow_list_edits = False` every edit over two child tuples that
                               is not a plain Match is a FixedLengthSequenceEdit whose sub-edits are (0,0)…(k-1,k-1),
                               k = min n m, followed by the removals of from-children k..n-1 or the insertions of
                               to-children k..m-1.
  (4x) `xml_no_list_edits_same_length_positional`  with `allow_list_edits_when_same_length = False` the same for child
                               tuples of EQUAL length (no surplus tail).
  Read off per element: `xml_no_list_edits_children`, `xml_no_list_edits_same_length_children`; the options matter:
  `xml_list_edits_allowed` (with the defaults the same child tuples are compared by an EditDistance).

  The attribute mapping of an element built by `xbuild` is an L2 tree of strings (no list inside; for an arbitrary
  attribute tree use Props/C10 on it): the L2 theorems of Props/C10.lean about
  the dictionary strategy apply to it unchanged; the list options have nothing to act on there.
-/
import GtModel.Proofs.XmlOptions

namespace GtModel.C10
open GtModel GtModel.Xml

/-- (3x) list edits off: the children of every element are paired by position, plus a surplus tail — at every
    nesting level of elements -/
theorem xml_no_list_edits_positional (o : Opts) (h : o.ale = false) (orc : Oracle) (fp tp : List Nat) (f t : XTree) :
    XWalk (XLocalPos fun _ _ => True) (.elem f) (.elem t) (xmlEdits o orc fp tp f t) :=
  xwalk_pos o _ (fun _ _ _ => by simp [h]) orc fp tp f t

/-- (4x) list edits off for equal lengths: equally many children are paired by position — at every nesting level -/
theorem xml_no_list_edits_same_length_positional (o : Opts) (h : o.alesl = false) (orc : Oracle) (fp tp : List Nat)
    (f t : XTree) :
    XWalk (XLocalPos fun n m => n = m) (.elem f) (.elem t) (xmlEdits o orc fp tp f t) :=
  xwalk_pos o _ (fun n m e => by simp [h, e]) orc fp tp f t

/-- (3x) for whole documents (both built with the same options, as `graphtage` does) -/
theorem xml_no_list_edits_positional_docs (o : Opts) (h : o.ale = false) (orc : Oracle) (f t : XDoc) :
    XWalk (XLocalPos fun _ _ => True) (.elem (xbuild o f)) (.elem (xbuild o t)) (diffXml o orc f t) :=
  xml_no_list_edits_positional o h orc [] [] _ _

/-- (4x) for whole documents -/
theorem xml_no_list_edits_same_length_positional_docs (o : Opts) (h : o.alesl = false) (orc : Oracle) (f t : XDoc) :
    XWalk (XLocalPos fun n m => n = m) (.elem (xbuild o f)) (.elem (xbuild o t)) (diffXml o orc f t) :=
  xml_no_list_edits_same_length_positional o h orc [] [] _ _

/-- (3x) read off for the children of one element pair: two different child tuples under `allow_list_edits = False`
    are edited by a FixedLengthSequenceEdit of positional shape -/
theorem xml_no_list_edits_children (o : Opts) (h : o.ale = false) (fcs tcs : List XTree) (tbl : List (List XScript))
    (hT : XTblTop tbl) (hne : xeqL fcs tcs = false) :
    kidsScript o fcs tcs tbl = kidsFixed fcs tcs tbl ∧
    (kidsScript o fcs tcs tbl).subs.map XScript.shape = positionalShape fcs.length tcs.length := by
  have e := kidsScript_eq_kidsFixed o fcs tcs tbl hne (by simp [h])
  exact ⟨e, e ▸ kidsFixed_shape fcs tcs tbl hT⟩

/-- (4x) read off: two different child tuples of the same length under `allow_list_edits_when_same_length = False` -/
theorem xml_no_list_edits_same_length_children (o : Opts) (h : o.alesl = false) (fcs tcs : List XTree)
    (hlen : fcs.length = tcs.length) (tbl : List (List XScript)) (hT : XTblTop tbl) (hne : xeqL fcs tcs = false) :
    kidsScript o fcs tcs tbl = kidsFixed fcs tcs tbl ∧
    (kidsScript o fcs tcs tbl).subs.map XScript.shape = positionalShape fcs.length tcs.length := by
  have e := kidsScript_eq_kidsFixed o fcs tcs tbl hne (by simp [h, hlen])
  exact ⟨e, e ▸ kidsFixed_shape fcs tcs tbl hT⟩

/-- the options matter: with both list options on, two different child tuples that are not both singletons are
    compared by an EditDistance (penalty 1) -/
theorem xml_list_edits_allowed (o : Opts) (h1 : o.ale = true) (h2 : o.alesl = true) (fcs tcs : List XTree)
    (tbl : List (List XScript)) (hne : xeqL fcs tcs = false) (hlen : ¬(fcs.length = 1 ∧ tcs.length = 1)) :
    kidsScript o fcs tcs tbl = kidsEd fcs tcs 1 tbl := by
  unfold kidsScript
  rw [if_neg (by simp [hne]), if_neg]
  simp only [h1, h2, Bool.not_true, Bool.false_or, Bool.and_eq_true, beq_iff_eq]
  omega

def xa : XTree := .mk [97] (.dict []) none []
def xb : XTree := .mk [98] (.dict []) none []
def xc : XTree := .mk [99] (.dict []) none []

/-- the hypotheses of the read-off theorems hold for `<a/><b/><c/>` against `<b/><c/>` (and the shifted triple) -/
example : xeqL [xa, xb, xc] [xb, xc] = false ∧ xeqL [xa, xb, xc] [xb, xc, xa] = false := by
  simp [xa, xb, xc, XTree.eq_mk]
example : XTblTop [[xMatch 1, xMatch 1], [xMatch 0, xMatch 1], [xMatch 1, xMatch 0]] := by
  intro i j
  match i, j with
  | 0, 0 | 0, 1 | 1, 0 | 1, 1 | 2, 0 | 2, 1 => rfl
  | 0, _ + 2 | 1, _ + 2 | 2, _ + 2 | _ + 3, _ => rfl

/-- three children against two with list edits off: (0,0), (1,1), then child 2 removed — although `<b/>`, `<c/>` occur
    unchanged one position further left -/
example : (kidsFixed [xa, xb, xc] [xb, xc] [[xMatch 1, xMatch 1], [xMatch 0, xMatch 1], [xMatch 1, xMatch 0]]).subs.map XScript.shape
    = [(.pair, .at 0, .at 0), (.pair, .at 1, .at 1), (.rem, .at 2, .none)] := by decide +kernel
example : positionalShape 3 2 = [(.pair, .at 0, .at 0), (.pair, .at 1, .at 1), (.rem, .at 2, .none)] := by decide
/-- the shape predicate rejects the script an EditDistance finds for the same children (remove `<a/>`, match the rest) -/
example : [xRemove 0 1 1, (xMatch 0).relabel (.at 1) (.at 0), (xMatch 0).relabel (.at 2) (.at 1)].map XScript.shape
    ≠ positionalShape 3 2 := by decide

end GtModel.C10
