/-
  C01 for general multisets (`MultiSetNode` of arbitrary nodes WITH duplicates; library API only): the sub-edits of a
  `MultiSetEdit` account for every element of the FIRST multiset exactly as often as it occurs — BY MULTIPLICITY,
  because equal elements of a multiset share one node object (`HashableCounter` key), so an edit can only name "an
  element equal to x", not a position.

  Model: `GtModel.MSet.msGeneral` (Model/MSetEdits.lean), validated by stream `scriptmset`.
  `children()` of a multiset node = `elements()` of its counter; as classes: `(parts fs ts).chF`; the from-index a
  sub-edit carries is the position of the FIRST occurrence of its node object (`chF.idxOf`).

  * `mset_accounts` (both sides) / `mset_accounts_from`: the from-indices of all sub-edits that are not Inserts are a PERMUTATION of
    `children()` with every child replaced by the first occurrence of its object — for EVERY oracle answer, i.e. also
    when the matcher's node-keyed dict collides (D21): a pair dropped by the collision re-appears as a Remove
    (`to_remove - Counter(dict keys)`).  So D21 breaks the cost (C03), not the accounting of the first multiset.
  * `mset_accounts_to`: the same for the SECOND multiset: the to-indices of all sub-edits that are not Removes (an
    Insert names the inserted node; an identity match `Match(n, n, 0)` is resolved by `msResolve` to the equal element of
    the second multiset) are a permutation of its `children()` — again for every oracle answer: a to-node whose pair the
    dict dropped re-appears as an Insert (`to_insert - Counter(matched to-nodes)`).
-/
import GtModel.Proofs.MSetLemmas

namespace GtModel.C01
open GtModel GtModel.MSet

/-- `MultiSetEdit`, from side, by multiplicity; `etbl` = any table of element-to-element scripts (never bare
    Insert / Remove) -/
theorem mset_accounts_from (orc : Oracle) (fp tp : List Nat) (fs ts : List Tree)
    (etbl : Nat → Nat → Script) (hT : ∀ a b, (etbl a b).kind.isTop = true) :
    (fromIdx (msGenScript orc fp tp fs ts (parts fs ts) etbl).subs).Perm
      ((parts fs ts).chF.map fun k => Ix.at ((parts fs ts).chF.idxOf k)) :=
  msGenScript_accounts_from orc fp tp fs ts etbl hT

/-- `MultiSetEdit`, to side, by multiplicity -/
theorem mset_accounts_to (orc : Oracle) (fp tp : List Nat) (fs ts : List Tree)
    (etbl : Nat → Nat → Script) (hT : ∀ a b, (etbl a b).kind.isTop = true) :
    (toIdx (msResolve (parts fs ts)) (msGenScript orc fp tp fs ts (parts fs ts) etbl).subs).Perm
      ((parts fs ts).chT.map fun k => Ix.at ((parts fs ts).chT.idxOf k)) :=
  msGenScript_accounts_to orc fp tp fs ts etbl hT

-- non-vacuity of `mset_accounts_from` / `mset_accounts_to`: the hypothesis `hT` (table entries are never bare
-- Insert / Remove / kvp) holds for a constant table; multisets with a duplicate and a shared element
example := mset_accounts_from [] [] [] [.leaf (.int 1), .leaf (.int 1), .leaf (.int 2)] [.leaf (.int 4), .leaf (.int 2)]
  (fun _ _ => mkMatch 1) (fun _ _ => rfl)
example := mset_accounts_to [] [] [] [.leaf (.int 1), .leaf (.int 1), .leaf (.int 2)] [.leaf (.int 4), .leaf (.int 2)]
  (fun _ _ => mkMatch 1) (fun _ _ => rfl)

/-- `MultiSetNode(fs).edits(MultiSetNode(ts))`: either `Match(…, 0)` without sub-edits (equal counters), or a
    MultiSetEdit whose sub-edits account for BOTH multisets by multiplicity — all options, all oracles -/
theorem mset_accounts (o : Opts) (orc : Oracle) (fp tp : List Nat) (fs ts : List Tree) :
    msGeneral o orc fp tp fs ts = mkMatch 0 ∨
    ((msGeneral o orc fp tp fs ts).kind = .ms ∧
      (fromIdx (msGeneral o orc fp tp fs ts).subs).Perm
        ((parts fs ts).chF.map fun k => Ix.at ((parts fs ts).chF.idxOf k)) ∧
      (toIdx (msResolve (parts fs ts)) (msGeneral o orc fp tp fs ts).subs).Perm
        ((parts fs ts).chT.map fun k => Ix.at ((parts fs ts).chT.idxOf k))) := by
  unfold msGeneral
  simp only []
  by_cases h : ((firstOcc ((parts fs ts).fcls ++ (parts fs ts).tcls)).all
      fun k => (parts fs ts).fcls.count k == (parts fs ts).tcls.count k) = true
  · simp only [h, if_true]; exact Or.inl trivial
  · simp only [h, if_false, Bool.false_eq_true]
    exact Or.inr ⟨rfl, msGenScript_accounts_from orc fp tp fs ts _ (fun _ _ => edits_kind_top ..),
      msGenScript_accounts_to orc fp tp fs ts _ (fun _ _ => edits_kind_top ..)⟩

/-- the number of children = the number of elements (duplicates counted) -/
theorem mset_children_length (fs ts : List Tree) : (parts fs ts).chF.length = fs.length := by
  have h : ∀ (l : List Nat), (elementsOf (firstOcc l) fun k => l.count k).length = l.length := by
    intro l
    have hp : (elementsOf (firstOcc l) fun k => l.count k).Perm l := by
      rw [List.perm_iff_count]
      intro k
      exact count_elementsOf_firstOcc l _ k (fun h => List.count_eq_zero.2 h)
    exact hp.length_eq
  have hl : ∀ (pre l : List Tree), (classesFrom pre l).length = l.length := by
    intro pre l
    induction l generalizing pre with
    | nil => rfl
    | cons x xs ih => simp [classesFrom, ih]
  simp only [parts]
  rw [h, hl]

/-- `[1, 1]` → `[4, 5]` with the dict collision: sub-edits Match(1→5), Remove(1), Insert(4); the two from-indices are
    both 0 (the one shared node `1`), a permutation of children() = [node@0, node@0] -/
example :
    let s := msGenScript [] [] [] [.leaf (.int 1), .leaf (.int 1)] [.leaf (.int 4), .leaf (.int 5)]
      { fcls := [0, 0], tcls := [2, 3], chF := [0, 0], chT := [2, 3], matE := [], remE := [0, 0], insE := [2, 3] }
      (fun _ _ => mkMatch 1)
    fromIdx s.subs = [.at 0, .at 0] ∧ toIdx (fun _ => .none) s.subs = [.at 1, .at 0] := by
  decide +kernel

end GtModel.C01
