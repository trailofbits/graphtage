/-
  C03 on the OPERATIONAL model (L3, Model/Lazy.lean): the cost the lazy engine ENDS WITH equals the sum of the costs
  of the sub-edits it lists, at every nesting level.

  `C03.reported_eq_sum` is about L2's script `edits`, whose compound nodes get their cost from `mkCompound` (a sum by
  definition).  The engine computes it otherwise: `bounds()` of a MultiSetEdit is the matcher's bounds plus the
  automatically matched pairs plus the cheapest / costliest left-overs (`msBounds`), of a FixedKeyDictNodeEdit /
  FixedLengthSequenceEdit the sum of the sub-edits' CURRENT intervals, of an EditDistance the fringe / corner cell.
  The link is `C05.history_independent_docs`: after ANY sequence of public operations, tightening to exhaustion makes
  the engine dump exactly `toD (diffDocs …)`, the interval at every node being what `bounds()` returns there.  (NOT
  `C05.mkEdit_refines_L2`: the ghost cost of a compound machine is again a sum by definition.)

  HYPOTHESES (those of `history_independent_docs`; C03's L2 theorems need none):
    * `OrcFull orc.assign` — every recorded answer of the assignment solver has full size `min(#from, #to)`.  With a
      smaller answer (`pairs := []` on `{"a":1,"b":1} → {"c":1,"d":1}`) L2's script still satisfies `reported_eq_sum`
      (cost 20) but the machine stops with `Err.oracle` and the real code reports 22;
    * distinct keys (Python dicts); without key edits the to-document in the domain `fkOK` (finding D24);
    * ONE solver oracle for all histories (the ASSUMPTION stated at the head of Props/C05.lean).
-/
import GtModel.Props.C03
import GtModel.Props.C05

namespace GtModel.C03
open GtModel GtModel.Lazy

def _root_.GtModel.Lazy.DScript.iv : DScript → Iv | .mk _ _ _ b _ => b
def _root_.GtModel.Lazy.DScript.dkind : DScript → Kind | .mk k _ _ _ _ => k
def _root_.GtModel.Lazy.DScript.dsubs : DScript → List DScript | .mk _ _ _ _ s => s

mutual
/-- a DUMPED script (what the engine lists after tightening, with the interval `bounds()` returns at every node):
    every interval is a single number, and a node with sub-edits reports the sum of the numbers of its sub-edits;
    an edit without sub-edits lists none — at every level -/
def DumpSumOK : DScript → Prop
  | .mk k _ _ b subs =>
      b.lo = b.hi ∧ (if k.hasSubs then b.lo = ((subs.map fun d => d.iv.lo).sum) else subs = []) ∧ DumpSumOKL subs
def DumpSumOKL : List DScript → Prop
  | [] => True
  | d :: ds => DumpSumOK d ∧ DumpSumOKL ds
end

theorem toD_iv (s : Script) : (toD s).iv = Iv.point s.cost := by cases s; rfl

theorem sum_toDL (l : List Script) : sumCosts l = ((toDL l).map fun d => d.iv.lo).sum := by
  rw [sumCosts, toDL_eq_map, List.map_map]
  exact congrArg List.sum (List.map_congr_left fun s _ => (congrArg Iv.lo (toD_iv s)).symm)

mutual
theorem dumpSumOK_toD : ∀ s : Script, s.CostOK → DumpSumOK (toD s)
  | .mk k f t c subs, h => by
    rw [Script.CostOK] at h
    rw [toD, DumpSumOK]
    refine ⟨rfl, ?_, dumpSumOKL_toDL subs h.2⟩
    split
    · rw [if_pos ‹_›] at h
      exact h.1.trans (sum_toDL subs)
    · rw [if_neg ‹_›] at h
      rw [h.1]; rfl
theorem dumpSumOKL_toDL : ∀ l : List Script, CostOKL l → DumpSumOKL (toDL l)
  | [], _ => trivial
  | s :: rest, h => by
    rw [CostOKL] at h
    exact ⟨dumpSumOK_toD s h.1, dumpSumOKL_toDL rest h.2⟩
end

/-- C03 on the engine: for every pair of documents with distinct keys, every option set, every full-size solver
    oracle, both values of `quiet`, every loop bound above the machine's measure: after ANY run `ops` of public
    operations, tightening to exhaustion succeeds and the engine's dump `d` — the sub-edits it lists with the cost
    interval `bounds()` gives each — satisfies "reported = sum of parts" at every level, and its root reports L2's cost
    (so the reported cost is also the sum of the flat edit list: `three_views_agree_docs`). -/
theorem engine_reported_eq_sum_docs (q : Bool) (o : Opts) (orc : Orc) (f t : Doc) (hkf : f.KeysDistinct)
    (hkt : t.KeysDistinct) (horc : OrcFull orc.assign) (hdom : o.ake = false → (build o t).fkOK = true) (F n : Nat)
    (hF : muG C04.noAtoms (mkEdit o orc [] [] (build o f) (build o t)) < F)
    (hn : height (mkEdit o orc [] [] (build o f) (build o t)) ≤ n + 1) (ops : List Op) :
    ∃ m1 rs m2 d, run q F n (mkEdit o orc [] [] (build o f) (build o t)) ops = .ok (m1, rs) ∧
      finish q F n m1 = .ok (m2, d) ∧ DumpSumOK d ∧
      d.iv = Iv.point (diffDocs o orc.assign f t).cost ∧
      (diffDocs o orc.assign f t).cost = flatSum (diffDocs o orc.assign f t) := by
  obtain ⟨m1, rs, m2, _, h1, _, h2, _⟩ :=
    C05.history_independent_docs q q o orc f t hkf hkt horc hdom F n hF hn ops
  exact ⟨m1, rs, m2, _, h1, h2, dumpSumOK_toD _ (reported_eq_sum o orc.assign [] [] _ _), toD_iv _,
    (three_views_agree_docs o orc.assign f t).symm⟩

/-- non-vacuity: a dumped MultiSetEdit reporting 22 over parts that sum to 20 is rejected, an interval that has not
    converged (`[1,9]`) is rejected, the converged sum is accepted -/
example : ¬ DumpSumOK (.mk .ms .none .none (Iv.point 22)
    [.mk .remove (.at 0) .none (Iv.point 10) [], .mk .insert (.at 0) .none (Iv.point 10) []]) :=
  fun h => absurd (h.2.1 : (22 : Nat) = 20) (by decide)
example : ¬ DumpSumOK (.mk .match_ .none .none ⟨1, 9⟩ []) := fun h => absurd (h.1 : (1 : Nat) = 9) (by decide)
example : DumpSumOK (.mk .ms .none .none (Iv.point 20)
    [.mk .remove (.at 0) .none (Iv.point 10) [], .mk .insert (.at 0) .none (Iv.point 10) []]) :=
  ⟨rfl, rfl, ⟨rfl, rfl, trivial⟩, ⟨rfl, rfl, trivial⟩, trivial⟩

/-- the theorem applied to C05's document pair (`{"a":1,"b":[1,2]}` → `{"a":2,"c":[1,3]}`, default options, empty
    oracle: a MultiSetEdit over a matcher, key/value pair edits, an EditDistance) -/
example (q : Bool) (ops : List Op) :
    ∃ m1 rs m2 d,
      run q (muG C04.noAtoms (mkEdit {} {} [] [] (build {} C05.exDocF) (build {} C05.exDocT)) + 1)
        (height (mkEdit {} {} [] [] (build {} C05.exDocF) (build {} C05.exDocT)))
        (mkEdit {} {} [] [] (build {} C05.exDocF) (build {} C05.exDocT)) ops = .ok (m1, rs) ∧
      finish q (muG C04.noAtoms (mkEdit {} {} [] [] (build {} C05.exDocF) (build {} C05.exDocT)) + 1)
        (height (mkEdit {} {} [] [] (build {} C05.exDocF) (build {} C05.exDocT))) m1 = .ok (m2, d) ∧ DumpSumOK d ∧
      d.iv = Iv.point (diffDocs {} ({} : Orc).assign C05.exDocF C05.exDocT).cost ∧
      (diffDocs {} ({} : Orc).assign C05.exDocF C05.exDocT).cost = flatSum (diffDocs {} ({} : Orc).assign C05.exDocF C05.exDocT) :=
  engine_reported_eq_sum_docs q {} {} C05.exDocF C05.exDocT (by decide) (by decide) C05.orcFull_nil
    (fun h => by cases h) _ _ (Nat.lt_succ_self _) (Nat.le_succ _) ops

end GtModel.C03
