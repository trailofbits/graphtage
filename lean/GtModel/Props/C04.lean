/-
  C04 — "Cost bounds only tighten, stay sound, and converge", on the operational model L3 (`GtModel.Lazy`).

  `Protocol ops g` (Proofs/LazyGhost.lean) says, for every machine state `m` with invariant `g.I m`, final value
  `g.fin m`, exposed interval `g.view m` and measure `g.μ m`:
     wf        fin m ∈ view m
     bounds    `bounds()` succeeds, returns `view m`, changes nothing observable and leaves a SETTLED state
     tighten   `tighten_bounds()` succeeds with some `r`; the invariant and the final value are kept; the new interval
               lies in the old one; μ never grows and strictly decreases when r; when ¬r the new interval is a single
               value; and when the state was settled (i.e. an observer has just read `bounds()`), r implies that
               the interval strictly shrank
     complete  succeeds and changes nothing observable;
     onDiff / dump   succeed, keep invariant, final value and script, and may only shrink the interval (dump: once
               definitive, returns `g.script m`).

  FULL STATEMENT (engine_protocol): `∃ F n, Protocol (mkOps q F n) (G noAtoms F n) ∧ invariant of
  mkEdit o orc [] [] f t`, with no hypothesis on the machine.  PROVED here:
    * `engine_protocol` (+ `mkEdit_invariant`, `mkEdit_initial_bounds`): the FULL statement for `from.edits(to)`
      without MultiSetEdit — `f.noDict`, distinct keys, `t.fkOK` (the domain on which FixedKeyDictNodeEdit's static
      upper bound `from.total_size + to.total_size + 1` holds; outside it the statement is FALSE: finding D24).
    * `engine_protocol_every_machine`: UNCONDITIONAL for EVERY machine of the engine — leaves, key/value pairs,
      string edits, positional list edits, fixed-key dictionaries (EditCollection), EditDistance (list alignment,
      string edit distance) AND MultiSetEdit with its WeightedBipartiteMatcher, at any nesting, for every
      `make_distinct` oracle and every admissible solver answer — `Protocol (mkOps q F n) (G noAtoms F n)`, where the
      invariant `(G noAtoms F n).I` = `invG` is the structural one (per EditDistance: `EdInv`, per EditCollection:
      `CollInv`, per MultiSetEdit: `MsInv`/`WmInv`, nesting height ≤ n, loop bounds < F).  No class is an atom
      (`isAtom` is constantly false) and the ghost parameter of `G` is not read: `noAtoms` is a dummy argument.
    * `engine_protocol_docs` (+ `mkEdit_invariant_dict`): the FULL statement for every pair of DOCUMENTS and every
      option set; with key edits (MultiSetEdit) for every solver oracle with full-size answers (`OrcFull`).
  One gap named by the statement itself: "a step that reports progress has strictly shrunk the interval" is only
  true for an observer who read `bounds()` before the step (`Step.strict` needs `g.Q m`): `EditDistance.tighten_bounds`
  on a complete, not yet finalised matrix returns True while `bounds()` before and after is the same single value —
  but reading `bounds()` first finalises the matrix and the step then returns False (see NOTES_C04).
-/
import GtModel.Proofs.EditsBuild
import GtModel.Proofs.LazyMkInvP
import GtModel.Proofs.LazyRun

namespace GtModel.C04
open GtModel.Lazy

/-- the dummy argument for the ghost parameter of `G`, which no ghost function reads -/
def noAtoms : Ghost :=
  { I := fun _ => False, Q := fun _ => True, view := fun _ => ⟨0, 0⟩, fin := fun _ => 0, μ := fun _ => 0,
    script := fun _ => default }

theorem noAtoms_hyp (q : Bool) (F : Nat) : AtomHyp q F noAtoms :=
  atomHyp_trivial q F noAtoms

/-- per class: KeyValuePairEdit (`bounds` adds, `tighten_bounds` is a short-circuit `or`) -/
theorem kvp_protocol {rec : Ops} {g : Ghost} (h : Protocol rec g) (l : Lbl) (k v : M) (hk : g.I k) (hv : g.I v) :
    (∃ k' v', kvpBounds rec l k v = .ok (.kvp l k' v', (g.view k).add (g.view v)) ∧
      Pres g k k' ∧ g.Q k' ∧ Pres g v v' ∧ g.Q v') ∧
    (∃ k' v' r, kvpTighten rec l k v = .ok (.kvp l k' v', r) ∧
      ((r = true ∧ Step g k k' true ∧ v' = v) ∨ (Step g k k' false ∧ Step g v v' r))) :=
  ⟨kvpBounds_ok h l k v hk hv, kvpTighten_ok h l k v hk hv⟩

/-- per class: FixedLengthSequenceEdit with its `repeat_until_tightened` decorator -/
theorem fixedLen_protocol {rec : Ops} {g : Ghost} (h : Protocol rec g) (l : Lbl) (tail : List Script) (n : Nat)
    (ms : List M) (hI : ∀ m ∈ ms, g.I m) :
    ∃ ms' r, fixedTighten rec (n + 1) l ms tail = .ok (.fixed l ms' tail, r) ∧ FixedOut g ms ms' r :=
  fixedTighten_ok h l tail n ms hI

/-- the loop of `repeat_until_tightened` returns in its first iteration (fuel 1 suffices) -/
theorem repeat_until_tightened_terminates {rec : Ops} {g : Ghost} (h : Protocol rec g) (l : Lbl)
    (tail : List Script) (ms : List M) (hI : ∀ m ∈ ms, g.I m) (hnd : sumLo g ms ≠ sumHi g ms) :
    ∃ ms', fixedLoop rec l tail ⟨sumLo g ms + tailCost tail, sumHi g ms + tailCost tail⟩ 1 ms
        = .ok (.fixed l ms' tail, true) ∧ FixedOut g ms ms' true :=
  fixedLoop_ok h l tail 0 ms hI hnd

/-- every machine obeys the protocol, for every ghost parameter `a`; `hA` is always true (`atomHyp_trivial`): no
    machine class is an atom -/
theorem engine_protocol_of_hyp (q : Bool) (F : Nat) (hF : 0 < F) (a : Ghost) (hA : AtomHyp q F a) (n : Nat) :
    Protocol (mkOps q F n) (G a F n) :=
  engine_protocol_all q F hF a n

/-- unconditional: EVERY machine (const, kvp, str, fixed, coll, ed, ms) satisfying the structural invariant -/
theorem engine_protocol_every_machine (q : Bool) (F : Nat) (hF : 0 < F) (n : Nat) :
    Protocol (mkOps q F n) (G noAtoms F n) :=
  engine_protocol_all q F hF noAtoms n

/-- per class: EditCollection (explode_edits = False; FixedKeyDictNodeEdit), generic in the sub-edits' ghost `g`.
    Under the invariant `CollInv` (initial upper bounds of all sub-edits sum to at most the collection's upper bound;
    the `_cost` memo, if set, is the exact definitive value; the collection is not empty):
    `bounds()` succeeds — the collection is NEVER INVALIDATED and the Range it builds is well-formed — and returns
    `collView`; `tighten_bounds()` terminates within `collMu0 + 1` iterations of its `while True` loop, keeps the
    invariant, never widens, returns True only with bounds strictly inside the starting ones and False only on a
    single value. -/
theorem editCollection_protocol {rec : Ops} {g : Ghost} (h : Protocol rec g) (l : Lbl) (n : Nat) (s : CollSt)
    (p q : List M) (inv : CollInv g s p q) (hn : collMu0 g s p q < n) :
    (∃ s' q', collBounds rec l s p q = .ok (.coll l s' p q', collView g s q) ∧ CollKeeps g s p q s' p q' ∧
      collView g s' q' = collView g s q) ∧
    ((collView g s q).lo ≤ sumFin g q + sumFin g p ∧ sumFin g q + sumFin g p ≤ (collView g s q).hi) ∧
    (∃ s' p' q' r, collTighten rec n l s p q = .ok (.coll l s' p' q', r) ∧ CollKeeps g s p q s' p' q' ∧
      (r = true → (collView g s q).lo < (collView g s' q').lo ∨ (collView g s' q').hi < (collView g s q).hi) ∧
      (r = false → (collView g s' q').lo = (collView g s' q').hi)) := by
  obtain ⟨s', q', e, ck, hv, _⟩ := collBounds_keeps h l s p q inv
  exact ⟨⟨s', q', e, ck, hv⟩, collView_wf h inv, collTighten_ok h l n s p q inv hn⟩

/-- per class: EditDistance, generic in the cells' ghost `g` and ops `rec`.  Under the invariant `EdInv` (matrix
    entries of processed diagonals = L2's greedy `EditMatrix.spec` over the cells' final costs; cells compared so far
    are definitive; `freed ↔ script cached`; the cached path is the back-trace; static facts `EdStat`) and a loop
    bound `F` above the measure:
    * the interval `edViewOf` contains the final value `edFinOf` (= the greedy matrix value over `s.rem`, `s.ins`, which include the penalty);
    * `bounds()` succeeds, returns `edViewOf`, keeps the invariant and the interval, and finalises a complete matrix;
    * `tighten_bounds()` succeeds, keeps the invariant (`EdKeeps`: interval only shrinks, cells only refine), the
      measure strictly decreases on True, False ⇒ the interval is a single value and the matrix is complete, and for
      an observer that has read `bounds()` True ⇒ the interval changed;
    * `edits()` (force to completion + back-trace) succeeds and leaves the script cached. -/
theorem editDistance_protocol {rec : Ops} {g : Ghost} (h : Protocol rec g) (q : Bool) (F : Nat) (s : EdSt)
    (cells : List (List M)) (inv : EdInv g s cells) (hmu : edMu0 s + muLLg g cells < F) :
    ((edViewOf s (finM g cells)).lo ≤ edFinOf s (finM g cells) ∧
      edFinOf s (finM g cells) ≤ (edViewOf s (finM g cells)).hi) ∧
    (∃ s' cells', edBounds rec F s cells = .ok (s', cells', edViewOf s (finM g cells)) ∧ EdKeeps g s cells s' cells' ∧
      edViewOf s' (finM g cells) = edViewOf s (finM g cells) ∧
      (edComplete s' = true → s'.cache.isSome = true)) ∧
    (∃ s' cells' r, edTighten rec q F s cells = .ok (s', cells', r) ∧ EdKeeps g s cells s' cells' ∧
      (r = true → edMu0 s' + muLLg g cells' < edMu0 s + muLLg g cells) ∧
      (r = false → (edViewOf s' (finM g cells)).lo = (edViewOf s' (finM g cells)).hi ∧ edComplete s' = true) ∧
      ((edComplete s = true → s.cache.isSome = true) → r = true →
        edViewOf s' (finM g cells) ≠ edViewOf s (finM g cells))) ∧
    (∃ s' cells', edEnsure rec q F s cells = .ok (s', cells') ∧ EdKeeps g s cells s' cells' ∧
      s'.cache.isSome = true) := by
  obtain ⟨s1, c1, e1, k1, hv1, _, hq1, _, _⟩ := edBounds_keeps h F inv (by omega)
  obtain ⟨s2, c2, r, e2, k2, hd, hs, hst, hc⟩ := edTighten_ok h q F inv hmu
  exact ⟨edView_wf inv, ⟨s1, c1, e1, k1, hv1, hq1⟩, ⟨s2, c2, r, e2, k2, hd, fun hr => ⟨hs hr, hc hr⟩, hst⟩,
    edEnsure_ok h q F inv hmu⟩

/-- the final value of an EditDistance is L2's greedy matrix value on the cells' final costs -/
theorem editDistance_final_is_greedy (s : EdSt) (fm : List (List Nat)) :
    edFinOf s fm = (EditMatrix.solve s.rem s.ins fm).1 :=
  edFin_eq_solve s fm

/-- per class: WeightedBipartiteMatcher (with `make_distinct` and the assignment solver as ORACLES), generic in the
    edges' ghost `g`.  `WmInv`: the edge matrix is `nf × nt`; the solver's answer `w.assign` is admissible
    (`AssignOK`: in range, ordered by from-index, injective, of size `min nf nt`); the chosen matching, if any, is that
    answer; the `_bounds` memo, if set, is the single final value and then every matched edge is definitive.
    For EVERY `make_distinct` oracle (`w.mdCounts` arbitrary):
    * the exposed interval `wmViewV` contains the matcher's final value (Σ final costs of the matched edges);
    * `bounds()` succeeds (no `min()`/`max()` of an empty row, no ill-formed Range), returns `wmViewV`, changes no edge
      interval;
    * forcing the matching succeeds (the oracle checks pass) and only shrinks the interval;
    * `tighten_bounds()` — `repeat_until_tightened` around "make distinct / choose the matching / tighten the first
      matched edge that can" — TERMINATES within `wmFlags + Σ μ(edges) + 1` iterations, never widens, returns True
      only with a changed interval and False only on a single value (and then it only read the edges). -/
theorem matcher_protocol {rec : Ops} {g : Ghost} (h : Protocol rec g) (n : Nat) (w : WmSt) (edges : List (List M))
    (inv : WmInv g w edges) (hn : wmFlags w + muLLg g edges < n) :
    ((wmViewV w (viewM g edges)).lo ≤ wmFin g w edges ∧ wmFin g w edges ≤ (wmViewV w (viewM g edges)).hi) ∧
    (∃ w' e', wmBounds rec w edges = .ok (w', e', wmViewV w (viewM g edges)) ∧ PresLL g edges e' ∧ WmInv g w' e' ∧
      wmViewV w' (viewM g e') = wmViewV w (viewM g edges)) ∧
    (∃ w' e', wmMatching rec w edges = .ok (w', e') ∧ KeepsLL g edges e' ∧ WmInv g w' e' ∧
      w'.mtch = some w.assign ∧
      (wmViewV w (viewM g edges)).lo ≤ (wmViewV w' (viewM g e')).lo ∧
      (wmViewV w' (viewM g e')).hi ≤ (wmViewV w (viewM g edges)).hi) ∧
    (∃ w' e' r, wmTighten rec n w edges = .ok (w', e', r) ∧ KeepsLL g edges e' ∧ WmInv g w' e' ∧
      (wmViewV w (viewM g edges)).lo ≤ (wmViewV w' (viewM g e')).lo ∧
      (wmViewV w' (viewM g e')).hi ≤ (wmViewV w (viewM g edges)).hi ∧
      wmFlags w' + muLLg g e' ≤ wmFlags w + muLLg g edges ∧
      (r = true → wmViewV w' (viewM g e') ≠ wmViewV w (viewM g edges)) ∧
      (r = false → (wmViewV w (viewM g edges)).lo = (wmViewV w (viewM g edges)).hi ∧ PresLL g edges e')) := by
  obtain ⟨w1, e1, hb, pp, _, hv, k1⟩ := wmBounds_ok h inv
  obtain ⟨w2, e2, hm, k2, m4, _⟩ := wmMatching_keeps h inv
  obtain ⟨w3, e3, r, ht, k3, hr1, hr0⟩ := wmTighten_keeps h n inv hn
  exact ⟨wmView_wf h inv, ⟨w1, e1, hb, pp, k1.inv, hv⟩, ⟨w2, e2, hm, k2.kl, k2.inv, m4, k2.sub.1, k2.sub.2⟩,
    ⟨w3, e3, r, ht, k3.kl, k3.inv, k3.sub.1, k3.sub.2, k3.fuel, hr1, fun hr => ⟨(hr0 hr).1, (hr0 hr).2.1⟩⟩⟩

/-- per class: MultiSetEdit over its matcher and its auto-matched key/value edits, generic in the children's ghost.
    `MsInv`: the matcher invariant, and as many removal / insertion costs as unmatched from- / to-nodes.
    * `msViewOf` (matcher interval + Σ key/value intervals + the interval of the left-over removals/insertions: the
      k smallest … k largest costs before the matching is known, their exact sum afterwards) contains the final cost;
    * `bounds()` succeeds, returns it, settles the key/value edits, changes nothing observable;
    * `tighten_bounds()` succeeds, never widens, strictly decreases `msBase + width` on True, returns False only on a
      single value, and True after an observation (`Q` of the key/value edits) only with a changed interval. -/
theorem multiset_protocol {rec : Ops} {g : Ghost} (h : Protocol rec g) (n : Nat) (l : Lbl) (s : MsSt) (kvps : List M)
    (w : WmSt) (edges : List (List M)) (inv : MsInv g s kvps w edges) (hn : wmFlags w + muLLg g edges < n) :
    ((msViewOf g s kvps w edges).lo ≤ msFinOf g s kvps w edges ∧
      msFinOf g s kvps w edges ≤ (msViewOf g s kvps w edges).hi) ∧
    (∃ kvps' w' e', msBounds rec l s kvps w edges = .ok (.ms l s kvps' w' e', msViewOf g s kvps w edges) ∧
      PresL g kvps kvps' ∧ PresLL g edges e' ∧ MsInv g s kvps' w' e' ∧
      msViewOf g s kvps' w' e' = msViewOf g s kvps w edges ∧ (∀ m ∈ kvps', g.Q m)) ∧
    (∃ kvps' w' e' r, msTighten rec n l s kvps w edges = .ok (.ms l s kvps' w' e', r) ∧ KeepsL g kvps kvps' ∧
      KeepsLL g edges e' ∧ MsInv g s kvps' w' e' ∧
      (msViewOf g s kvps w edges).lo ≤ (msViewOf g s kvps' w' e').lo ∧
      (msViewOf g s kvps' w' e').hi ≤ (msViewOf g s kvps w edges).hi ∧
      msBase g kvps' w' e' ≤ msBase g kvps w edges ∧
      (r = true → msBase g kvps' w' e' < msBase g kvps w edges ∨
        (msViewOf g s kvps w edges).lo < (msViewOf g s kvps' w' e').lo ∨
        (msViewOf g s kvps' w' e').hi < (msViewOf g s kvps w edges).hi) ∧
      (r = false → (msViewOf g s kvps' w' e').lo = (msViewOf g s kvps' w' e').hi) ∧
      ((∀ m ∈ kvps, g.Q m) → r = true → msViewOf g s kvps' w' e' ≠ msViewOf g s kvps w edges)) := by
  obtain ⟨k1, w1, e1, hb, pk, pp, mk1, hv, _, _, q⟩ := msBounds_keeps h l inv
  obtain ⟨k2, w2, e2, r, ht, kk, mk, hd, hs, hq⟩ := msTighten_ok h n l inv hn
  exact ⟨msView_wf h inv, ⟨k1, w1, e1, hb, pk, pp, mk1.inv, hv, q⟩,
    ⟨k2, w2, e2, r, ht, kk, mk.kl, mk.inv, mk.sub.1, mk.sub.2, mk.base, hd, hs, hq⟩⟩

/-- `mkEdit o orc [] [] f t` SATISFIES the structural invariant, on the fragment without MultiSetEdit:
    `f.noDict` (no `DictNode` on the from-side, i.e. dict strategy `none` / lists / scalars), distinct keys in every
    mapping, and the to-side in the domain `fkOK` on which FixedKeyDictNodeEdit's static upper bound
    `from.total_size + to.total_size + 1` really bounds its sub-edits (every value `v` under key `k` of a fixed-key
    dictionary of `t` has `3 * nw v ≤ 2 * len k + 5`, `nw` = number of `null` leaves reachable through lists only).
    Outside `fkOK` the invariant is FALSE and so is the property: see NOTES_C04 (finding D24). -/
theorem mkEdit_invariant (o : Opts) (orc : Orc) (f t : Tree) (hf : f.noDict = true) (hkf : f.KeysDistinct)
    (hkt : t.KeysDistinct) (ht : t.fkOK = true) (F n : Nat) (hF : muG noAtoms (mkEdit o orc [] [] f t) < F)
    (hn : height (mkEdit o orc [] [] f t) ≤ n) : (G noAtoms F n).I (mkEdit o orc [] [] f t) :=
  ⟨(mkEdit_fresh noAtoms o orc f hf hkf t hkt ht [] []).1.inv F hF, hn⟩

/-- a fresh machine exposes its initial bounds, and the initial upper bound is at most
    `size f + size t + 1 + 3 * nw t` (the `3 * nw t` is needed: `LeafNode("").edits(NullNode)` costs
    `lev("", "None") = 4` while both sizes are 0) -/
theorem mkEdit_initial_bounds (o : Opts) (orc : Orc) (f t : Tree) (hf : f.noDict = true) (hkf : f.KeysDistinct)
    (hkt : t.KeysDistinct) (ht : t.fkOK = true) :
    viewG noAtoms (mkEdit o orc [] [] f t) = initIv (mkEdit o orc [] [] f t) ∧
      (initIv (mkEdit o orc [] [] f t)).hi ≤ f.size + t.size + 1 + 3 * t.nw :=
  ⟨(mkEdit_fresh noAtoms o orc f hf hkf t hkt ht [] []).1.view, (mkEdit_fresh noAtoms o orc f hf hkf t hkt ht [] []).2⟩

/-- FULL STATEMENT for the fragment: the machine of `from.edits(to)` obeys the protocol, with NO hypothesis on the
    machine (loop bound `F` = its measure + 1, nesting depth `n` = its height) -/
theorem engine_protocol (q : Bool) (o : Opts) (orc : Orc) (f t : Tree) (hf : f.noDict = true) (hkf : f.KeysDistinct)
    (hkt : t.KeysDistinct) (ht : t.fkOK = true) :
    ∃ F n, Protocol (mkOps q F n) (G noAtoms F n) ∧ (G noAtoms F n).I (mkEdit o orc [] [] f t) :=
  ⟨muG noAtoms (mkEdit o orc [] [] f t) + 1, height (mkEdit o orc [] [] f t),
    engine_protocol_every_machine q _ (Nat.succ_pos _) _,
    mkEdit_invariant o orc f t hf hkf hkt ht _ _ (Nat.lt_succ_self _) (Nat.le_refl _)⟩

/-- the machine of `from.edits(to)` satisfies the structural invariant also with MultiSetEdits: trees without
    fixed-key dictionaries (the DEFAULT dict strategy builds only `DictNode`s) and a solver oracle whose recorded
    answers have full size (`OrcFull`: every answer pairs `min(nf, nt)` nodes — what a min-weight matching does;
    unrecorded matchers get the identity).  No hypothesis on keys or sizes: the static-bound defect D24 does not
    exist here, a MultiSetEdit has no static upper bound. -/
theorem mkEdit_invariant_dict (o : Opts) (orc : Orc) (f t : Tree) (hf : f.noFdict = true) (horc : OrcFull orc.assign)
    (F n : Nat) (hF : muG noAtoms (mkEdit o orc [] [] f t) < F) (hn : height (mkEdit o orc [] [] f t) ≤ n) :
    (G noAtoms F n).I (mkEdit o orc [] [] f t) :=
  ⟨(mkEdit_invP noAtoms o orc horc f hf t [] []).inv F hF, hn⟩

theorem docs_invariant (o : Opts) (orc : Orc) (f t : Doc) (hkf : f.KeysDistinct) (hkt : t.KeysDistinct)
    (horc : OrcFull orc.assign) (hdom : o.ake = false → (build o t).fkOK = true) (F n : Nat)
    (hF : muG noAtoms (mkEdit o orc [] [] (build o f) (build o t)) < F)
    (hn : height (mkEdit o orc [] [] (build o f) (build o t)) ≤ n) :
    (G noAtoms F n).I (mkEdit o orc [] [] (build o f) (build o t)) := by
  cases hake : o.ake with
  | true => exact mkEdit_invariant_dict o orc _ _ (build_noFdict o hake f) horc F n hF hn
  | false =>
    exact mkEdit_invariant o orc _ _ (build_noDict o hake f) (build_kd o f hkf) (build_kd o t hkt) (hdom hake) F n hF hn

/-- FULL STATEMENT for every pair of DOCUMENTS (as `json.build_tree` builds them): the machine of
    `build o f`.edits(`build o t`) obeys the protocol — with key edits (default, `DictNode` / MultiSetEdit) for every
    full-size solver oracle and every `make_distinct` oracle; without key edits (`FixedKeyDictNode`) for distinct keys
    and `t` in the domain `fkOK` of the static bound (D24). -/
theorem engine_protocol_docs (q : Bool) (o : Opts) (orc : Orc) (f t : Doc) (hkf : f.KeysDistinct) (hkt : t.KeysDistinct)
    (horc : OrcFull orc.assign) (hdom : o.ake = false → (build o t).fkOK = true) :
    ∃ F n, Protocol (mkOps q F n) (G noAtoms F n) ∧
      (G noAtoms F n).I (mkEdit o orc [] [] (build o f) (build o t)) :=
  ⟨muG noAtoms (mkEdit o orc [] [] (build o f) (build o t)) + 1,
    height (mkEdit o orc [] [] (build o f) (build o t)), engine_protocol_every_machine q _ (Nat.succ_pos _) _,
    docs_invariant o orc f t hkf hkt horc hdom _ _ (Nat.lt_succ_self _) (Nat.le_refl _)⟩

section Observed
variable {ops : Ops} {g : Ghost}

/-- what `bounds()` returns contains the final cost -/
theorem bounds_sound (P : Protocol ops g) (m : M) (hI : g.I m) :
    ∃ m' b, ops.bounds m = .ok (m', b) ∧ b.lo ≤ g.fin m ∧ g.fin m ≤ b.hi :=
  let ⟨m', e, _, _⟩ := P.bounds m hI
  ⟨m', g.view m, e, P.wf m hI⟩

/-- an external caller doing `b0 = e.bounds(); r = e.tighten_bounds(); b1 = e.bounds()`: all three calls succeed,
    b1 ⊆ b0, the final cost lies in b1, r ⇒ b1 ≠ b0 (strictly shrunk), ¬r ⇒ b1 is a single value -/
theorem observed_step (P : Protocol ops g) (m : M) (hI : g.I m) :
    ∃ m1 b0 m2 r m3 b1, ops.bounds m = .ok (m1, b0) ∧ ops.tighten m1 = .ok (m2, r) ∧ ops.bounds m2 = .ok (m3, b1) ∧
      b0.lo ≤ b1.lo ∧ b1.hi ≤ b0.hi ∧ b1.lo ≤ g.fin m ∧ g.fin m ≤ b1.hi ∧
      (r = true → b1 ≠ b0) ∧ (r = false → b1.lo = b1.hi) := by
  obtain ⟨m1, e1, p1, q1⟩ := P.bounds m hI
  obtain ⟨m2, r, e2, st⟩ := P.tighten m1 p1.inv
  obtain ⟨m3, e3, p3, _⟩ := P.bounds m2 st.inv
  have wf := P.wf m2 st.inv
  have hs := st.sub
  rw [p1.view] at hs
  refine ⟨m1, _, m2, r, m3, _, e1, e2, e3, hs.1, hs.2, ?_, ?_, ?_, st.stop⟩
  · rw [← p1.fin, ← st.fin]; exact wf.1
  · rw [← p1.fin, ← st.fin]; exact wf.2
  · intro hr; rw [← p1.view]; exact st.strict q1 hr

/-- refinement converges: `while e.tighten_bounds(): pass` stops within `μ m + 1` steps, at the final cost -/
theorem converges (P : Protocol ops g) (m : M) (hI : g.I m) :
    ∃ m', full ops (g.μ m + 1) m = .ok m' ∧ g.I m' ∧ g.view m' = Iv.point (g.fin m) :=
  let ⟨m', e, k, hv⟩ := full_ok P (g.μ m + 1) m hI (Nat.lt_succ_self _)
  ⟨m', e, k.inv, hv⟩

end Observed

/-! ### EditDistance: the static facts its interval rests on (part of `editDistance_protocol`)

While the matrix is being built, `EditDistance.bounds()` is `[max(constant_cost, min cost over the current and
the last fringe diagonal), cost_upper_bound]`.  On the greedy matrix of L2 (`EditMatrix.spec`, which `costs` holds for
the processed diagonals): -/

/-- fringe lower bound monotone: a lower bound for the costs on diagonals k and k-1 is one for k+1 and k -/
theorem editDistance_fringe_lb_monotone (rem ins : List Nat) (cells : List (List Nat)) (m n k x : Nat)
    (h : EditMatrix.FringeLB rem ins cells m n k x) : EditMatrix.FringeLB rem ins cells m n (k + 1) x :=
  EditMatrix.fringeLB_step rem ins cells m n k x h

/-- fringe lower bound sound: it never exceeds the final cost -/
theorem editDistance_fringe_lb_sound (rem ins : List Nat) (cells : List (List Nat)) (k x : Nat)
    (hk : k ≤ ins.length + rem.length) (h : EditMatrix.FringeLB rem ins cells ins.length rem.length k x) :
    x ≤ (EditMatrix.solve rem ins cells).1 :=
  EditMatrix.fringeLB_sound rem ins cells k x hk h

/-- greedy final ≤ Σ removes + Σ inserts (≤ cost_upper_bound) -/
theorem editDistance_final_le_total (rem ins : List Nat) (cells : List (List Nat)) :
    (EditMatrix.solve rem ins cells).1 ≤ rem.sum + ins.sum :=
  EditMatrix.solve_total_le rem ins cells

example : EditMatrix.FringeLB [2, 3] [4] [[1, 9]] 1 2 0 0 := by
  intro r c _ _ _; exact Nat.zero_le _

/-! ### non-vacuity: a concrete machine — `[[1, 2], 7]` → `[[1, 3], 8, 9]` with list edits off -/

def exampleMachine : M :=
  .fixed { kind := .fixed }
    [.fixed { kind := .fixed, fi := .at 0, ti := .at 0 }
        [.const { kind := .match_, fi := .at 0, ti := .at 0 } 0, .const { kind := .match_, fi := .at 1, ti := .at 1 } 1] [],
     .const { kind := .match_, fi := .at 1, ti := .at 1 } 1]
    [mkInsert 2 1 1]

/-- constants and positional lists carry no invariant of their own; the nesting depth is 3 -/
theorem exampleMachine_inv (F : Nat) {n : Nat} (hn : 3 ≤ n) : (G noAtoms F n).I exampleMachine :=
  ⟨⟨⟨trivial, trivial, trivial⟩, trivial, trivial⟩, Nat.le_trans (by decide) hn⟩

example : (G noAtoms 9 3).I exampleMachine := exampleMachine_inv 9 (Nat.le_refl 3)

example : ∃ m', full (mkOps true 9 3) ((G noAtoms 9 3).μ exampleMachine + 1) exampleMachine = .ok m' ∧
    (G noAtoms 9 3).view m' = Iv.point 4 := by
  obtain ⟨m', e, _, hv⟩ := converges (engine_protocol_every_machine true 9 (by decide) 3) exampleMachine
    (exampleMachine_inv 9 (Nat.le_refl 3))
  exact ⟨m', e, by rw [hv]; rfl⟩

/-- a fixed-key dictionary: `{"a": 1, "b": 2}` → `{"a": 3, "c": 2}` under dict strategy `none`: the pending edits are
    the key/value pair edit for "a", Remove("b": 2) and Insert("c": 2); nothing expanded yet.  `ub0` is
    `sizeKV f + 1 + sizeKV t` = 10 + 1 + 10 (a pair counts `len k + size v + 2`, and 1 more in its dictionary); `pinits` are the
    initial upper bounds of the three pending edits: 1 for the value edit `1 → 3`, the pair's size + 1 for the other two -/
def exampleDict : M :=
  .coll { kind := .fk } { ub0 := 21, inits := [], pinits := [1, 5, 5] }
    [.kvp { kind := .kvp, fi := .at 0, ti := .at 0 }
        (.const { kind := .match_, fi := .at 0, ti := .at 0 } 0) (.const { kind := .match_, fi := .at 1, ti := .at 1 } 1),
     .const { kind := .remove, fi := .at 1 } 5, .const { kind := .insert, fi := .at 1 } 5]
    []

theorem exampleDict_inv {F n : Nat} (hF : 4 < F) (hn : 3 ≤ n) : (G noAtoms F n).I exampleDict := by
  refine ⟨?_, Nat.le_trans (by decide) hn⟩
  simp [exampleDict, invG, invL, muL, muG, HiLe, viewOnly, viewG, Iv.add, Iv.point]
  exact hF

example : (G noAtoms 9 3).I exampleDict := exampleDict_inv (by decide) (Nat.le_refl 3)

end GtModel.C04
