/-
  C05 — "Results do not depend on how the edit API is driven or on status settings", on the operational model L3.

  `Op = bounds | tighten | complete | valid | edits | nonzero | onDiff` (the six public operations, plus the
  recursive `on_diff` that `TreeNode.diff` performs); `run quiet F n m ops` applies them to the root machine
  (loops bounded by `F`, nesting by `n`), `finish quiet F n m` = `while e.tighten_bounds(): pass` followed by the script dump.  `quiet` is the
  `DEFAULT_PRINTER.quiet` flag (it decides whether `EditDistance` reads its cells' `bounds()` before tightening them);
  colour never reaches the engine.

  FULL STATEMENTS:
     no_internal_error     ∀ quiet ops, run quiet F n (mkEdit o orc [] [] f t) ops ≠ error
     history_independent   finish q1 F n (run q1 F n m ops) = finish q2 F n m = (cost, script) of L2 `edits`
  PROVED here:
     no_internal_error, observations_nested, history_independent, history_independent_L2,
     observations_contain_L2_cost, mkEdit_refines_L2
                                    the FULL statements, with no hypothesis on the machine, for `from.edits(to)` on the
                                    fragment WITHOUT MultiSetEdit: `f.noDict` (no DictNode on the from side), distinct
                                    keys, to-side in the domain `fkOK` of FixedKeyDictNodeEdit's static upper bound
                                    (outside it the statements are FALSE: finding D24, NOTES_C05).  The result of
                                    finishing after any history, for both values of `quiet`, is L2's `edits` itself.
     *_every_machine                the same for EVERY machine (all seven classes, incl. MultiSetEdit + matcher) that
                                    satisfies the structural invariant `invG`, for every `make_distinct` oracle
     no_internal_error_docs, history_independent_docs
                                    the FULL statements for every pair of DOCUMENTS and every option set; the result
                                    of finishing after any history is `toD (diffDocs o orc.assign f t)`, L2's script.
                                    Hypotheses: distinct keys, `OrcFull` (solver answers of full size), and without
                                    key edits `fkOK` (D24).

  ASSUMPTION built into every `history_independent*` statement: ONE solver oracle `orc` (hence one `orc.assign`) is
  shared by the run after the history (`run q1 … ops`, `finish q1 … m1`) and by the fresh run (`finish q2 … (mkEdit …)`).
  In the code the assignment is computed by scipy from the edges' `bounds().upper_bound` at the moment the matching is
  forced (`matching.py`, after `_make_edges_distinct`), so the solver's answer is a function of the edge bounds AT SOLVE
  TIME — exactly a quantity that another history / `quiet` setting could change; a different full-size answer gives a
  different `diffDocs o orc.assign f t`.  The model takes the answer from the recorded run.  The theorems therefore
  say "results do not depend on the history, GIVEN that the solver answers the same"; that it does is checked per run
  by the `history` stream (both runs are recorded and compared), not proved.
-/
import GtModel.Props.C04
import GtModel.Proofs.LazyEdFreedCached
import GtModel.Proofs.LazyRefines

namespace GtModel.C05
open GtModel.Lazy

/-- unconditional, EVERY machine (const, kvp, str, fixed, coll, ed, ms) satisfying the structural invariant: any
    sequence of public operations succeeds -/
theorem no_internal_error_every_machine (q : Bool) (F : Nat) (hF : 0 < F) (n : Nat) (m : M)
    (hI : (G C04.noAtoms F (n + 1)).I m) (hμ : muG C04.noAtoms m < F) (ops : List Op) (e : Err) :
    run q F n m ops ≠ .error e := by
  obtain ⟨_, _, _, _, h, _⟩ := session_ok q q F hF C04.noAtoms n m hI hμ ops
  rw [h]; intro hc; cases hc

/-- every `bounds()` result of a run is contained in the previous one and contains the final cost -/
theorem observations_nested_every_machine (q : Bool) (F : Nat) (hF : 0 < F) (n : Nat) (m : M)
    (hI : (G C04.noAtoms F (n + 1)).I m) (hμ : muG C04.noAtoms m < F) (ops : List Op) :
    ∃ m' rs, run q F n m ops = .ok (m', rs) ∧ Nested (finG C04.noAtoms m) (viewG C04.noAtoms m) rs :=
  let ⟨m', rs, _, _, h, hn, _⟩ := session_ok q q F hF C04.noAtoms n m hI hμ ops
  ⟨m', rs, h, hn⟩

/-- finishing after ANY history gives the same script (with its costs) as finishing the fresh machine, for any
    two settings `q1`, `q2` of the quiet flag -/
theorem history_independent_every_machine (q1 q2 : Bool) (F : Nat) (hF : 0 < F) (n : Nat) (m : M)
    (hI : (G C04.noAtoms F (n + 1)).I m) (hμ : muG C04.noAtoms m < F) (ops : List Op) :
    ∃ m1 rs m2 m3, run q1 F n m ops = .ok (m1, rs) ∧ finish q1 F n m1 = .ok (m2, scriptG C04.noAtoms m) ∧
      finish q2 F n m = .ok (m3, scriptG C04.noAtoms m) :=
  let ⟨m1, rs, m2, m3, h, _, h2, h3⟩ := session_ok q1 q2 F hF C04.noAtoms n m hI hμ ops
  ⟨m1, rs, m2, m3, h, h2, h3⟩

/-- FULL STATEMENT for the fragment without MultiSetEdit (`f.noDict`, distinct keys, to-side in the domain `fkOK`
    of the static FixedKeyDictNodeEdit bound — see `C04.mkEdit_invariant`): no sequence of public operations on the
    machine of `from.edits(to)` raises, for both values of `quiet`, every loop bound above the machine's measure
    and every nesting bound above its height -/
theorem no_internal_error (q : Bool) (o : Opts) (orc : Orc) (f t : Tree) (hf : f.noDict = true) (hkf : f.KeysDistinct)
    (hkt : t.KeysDistinct) (ht : t.fkOK = true) (F n : Nat) (hF : muG C04.noAtoms (mkEdit o orc [] [] f t) < F)
    (hn : height (mkEdit o orc [] [] f t) ≤ n + 1) (ops : List Op) (e : Err) :
    run q F n (mkEdit o orc [] [] f t) ops ≠ .error e :=
  no_internal_error_every_machine q F (Nat.zero_lt_of_lt hF) n _ (C04.mkEdit_invariant o orc f t hf hkf hkt ht F (n + 1) hF hn) hF ops e

/-- every interval observed during any run on `from.edits(to)` lies in the previous one, starting from the initial
    bounds, and contains the final cost -/
theorem observations_nested (q : Bool) (o : Opts) (orc : Orc) (f t : Tree) (hf : f.noDict = true) (hkf : f.KeysDistinct)
    (hkt : t.KeysDistinct) (ht : t.fkOK = true) (F n : Nat) (hF : muG C04.noAtoms (mkEdit o orc [] [] f t) < F)
    (hn : height (mkEdit o orc [] [] f t) ≤ n + 1) (ops : List Op) :
    ∃ m' rs, run q F n (mkEdit o orc [] [] f t) ops = .ok (m', rs) ∧
      Nested (finG C04.noAtoms (mkEdit o orc [] [] f t)) (initIv (mkEdit o orc [] [] f t)) rs := by
  have := observations_nested_every_machine q F (Nat.zero_lt_of_lt hF) n _
    (C04.mkEdit_invariant o orc f t hf hkf hkt ht F (n + 1) hF hn) hF ops
  rwa [(C04.mkEdit_initial_bounds o orc f t hf hkf hkt ht).1] at this

/-- finishing `from.edits(to)` after ANY history of public operations gives the same script as finishing it at once,
    for any two settings of `quiet` -/
theorem history_independent (q1 q2 : Bool) (o : Opts) (orc : Orc) (f t : Tree) (hf : f.noDict = true)
    (hkf : f.KeysDistinct) (hkt : t.KeysDistinct) (ht : t.fkOK = true) (F n : Nat)
    (hF : muG C04.noAtoms (mkEdit o orc [] [] f t) < F) (hn : height (mkEdit o orc [] [] f t) ≤ n + 1)
    (ops : List Op) :
    ∃ m1 rs m2 m3, run q1 F n (mkEdit o orc [] [] f t) ops = .ok (m1, rs) ∧
      finish q1 F n m1 = .ok (m2, scriptG C04.noAtoms (mkEdit o orc [] [] f t)) ∧
      finish q2 F n (mkEdit o orc [] [] f t) = .ok (m3, scriptG C04.noAtoms (mkEdit o orc [] [] f t)) :=
  history_independent_every_machine q1 q2 F (Nat.zero_lt_of_lt hF) n _
    (C04.mkEdit_invariant o orc f t hf hkf hkt ht F (n + 1) hF hn) hF ops

/-- L3 → L2 refinement: the ghost script and final cost of the fresh machine are L2's `edits` (as the harness dumps
    it: `toD`), for EVERY pair of trees and every oracle — MultiSetEdit included -/
theorem mkEdit_refines_L2 (o : Opts) (orc : Orc) (f t : Tree) :
    scriptG C04.noAtoms (mkEdit o orc [] [] f t) = toD (edits o orc.assign [] [] f t) ∧
      finG C04.noAtoms (mkEdit o orc [] [] f t) = (edits o orc.assign [] [] f t).cost :=
  ⟨(mkEdit_refines C04.noAtoms o orc f t [] []).scr, (mkEdit_refines C04.noAtoms o orc f t [] []).fin⟩

/-- FULL STATEMENT `history_independent` with its last link: finishing `from.edits(to)` after ANY history, with any
    `quiet` setting, yields exactly L2's script `edits o orc.assign [] [] f t` (C01–C03 are theorems about that script) -/
theorem history_independent_L2 (q1 q2 : Bool) (o : Opts) (orc : Orc) (f t : Tree) (hf : f.noDict = true)
    (hkf : f.KeysDistinct) (hkt : t.KeysDistinct) (ht : t.fkOK = true) (F n : Nat)
    (hF : muG C04.noAtoms (mkEdit o orc [] [] f t) < F) (hn : height (mkEdit o orc [] [] f t) ≤ n + 1)
    (ops : List Op) :
    ∃ m1 rs m2 m3, run q1 F n (mkEdit o orc [] [] f t) ops = .ok (m1, rs) ∧
      finish q1 F n m1 = .ok (m2, toD (edits o orc.assign [] [] f t)) ∧
      finish q2 F n (mkEdit o orc [] [] f t) = .ok (m3, toD (edits o orc.assign [] [] f t)) := by
  have := history_independent q1 q2 o orc f t hf hkf hkt ht F n hF hn ops
  rwa [(mkEdit_refines_L2 o orc f t).1] at this

/-- every observed interval contains L2's cost -/
theorem observations_contain_L2_cost (q : Bool) (o : Opts) (orc : Orc) (f t : Tree) (hf : f.noDict = true)
    (hkf : f.KeysDistinct) (hkt : t.KeysDistinct) (ht : t.fkOK = true) (F n : Nat)
    (hF : muG C04.noAtoms (mkEdit o orc [] [] f t) < F) (hn : height (mkEdit o orc [] [] f t) ≤ n + 1)
    (ops : List Op) :
    ∃ m' rs, run q F n (mkEdit o orc [] [] f t) ops = .ok (m', rs) ∧
      Nested (edits o orc.assign [] [] f t).cost (initIv (mkEdit o orc [] [] f t)) rs := by
  have := observations_nested q o orc f t hf hkf hkt ht F n hF hn ops
  rwa [(mkEdit_refines_L2 o orc f t).2] at this

/-- FULL STATEMENT `no_internal_error` for every pair of DOCUMENTS and every option set: no sequence of public
    operations on `build o f`.edits(`build o t`) raises, for both values of `quiet`.  Hypotheses: distinct keys
    (Python dicts), a solver oracle with full-size answers, and — only without key edits — `t` in the domain `fkOK`
    of FixedKeyDictNodeEdit's static bound (outside it the statement is false: D24). -/
theorem no_internal_error_docs (q : Bool) (o : Opts) (orc : Orc) (f t : Doc) (hkf : f.KeysDistinct)
    (hkt : t.KeysDistinct) (horc : OrcFull orc.assign) (hdom : o.ake = false → (build o t).fkOK = true) (F n : Nat)
    (hF : muG C04.noAtoms (mkEdit o orc [] [] (build o f) (build o t)) < F)
    (hn : height (mkEdit o orc [] [] (build o f) (build o t)) ≤ n + 1) (ops : List Op) (e : Err) :
    run q F n (mkEdit o orc [] [] (build o f) (build o t)) ops ≠ .error e :=
  no_internal_error_every_machine q F (Nat.zero_lt_of_lt hF) n _
    (C04.docs_invariant o orc f t hkf hkt horc hdom F (n + 1) hF hn) hF ops e

/-- FULL STATEMENT `history_independent` for every pair of documents: finishing after ANY history gives the same
    script as finishing at once, for any two settings of `quiet`, and that script is L2's `diffDocs o orc.assign f t` (the
    object of C01–C03); every observed interval lies in the previous one and contains L2's cost -/
theorem history_independent_docs (q1 q2 : Bool) (o : Opts) (orc : Orc) (f t : Doc) (hkf : f.KeysDistinct)
    (hkt : t.KeysDistinct) (horc : OrcFull orc.assign) (hdom : o.ake = false → (build o t).fkOK = true) (F n : Nat)
    (hF : muG C04.noAtoms (mkEdit o orc [] [] (build o f) (build o t)) < F)
    (hn : height (mkEdit o orc [] [] (build o f) (build o t)) ≤ n + 1) (ops : List Op) :
    ∃ m1 rs m2 m3, run q1 F n (mkEdit o orc [] [] (build o f) (build o t)) ops = .ok (m1, rs) ∧
      Nested (diffDocs o orc.assign f t).cost
        (viewG C04.noAtoms (mkEdit o orc [] [] (build o f) (build o t))) rs ∧
      finish q1 F n m1 = .ok (m2, toD (diffDocs o orc.assign f t)) ∧
      finish q2 F n (mkEdit o orc [] [] (build o f) (build o t)) = .ok (m3, toD (diffDocs o orc.assign f t)) := by
  have hr := mkEdit_refines C04.noAtoms o orc (build o f) (build o t) [] []
  have := session_ok q1 q2 F (Nat.zero_lt_of_lt hF) C04.noAtoms n _
    (C04.docs_invariant o orc f t hkf hkt horc hdom F (n + 1) hF hn) hF ops
  rwa [hr.scr, hr.fin] at this

/-- EditDistance invariant "matrix freed ⇒ script cached" (the state in which defect D8 dereferenced `None` is
    unreachable): preserved by `bounds()`, `tighten_bounds()` and `on_diff()`/`edits()` WHATEVER the cells do, and true
    of a fresh EditDistance (`edInit_J`).  The only place that reads the matrix after `_cleanup` (`edFinalize`, error
    `Err.freed`) is guarded by `cache = none`, which `J` makes incompatible with `freed`. -/
theorem editDistance_freed_cached (rec : Ops) (q : Bool) (n : Nat) (l : Lbl) (s : EdSt) (cells : List (List M))
    (hj : s.J) :
    (∀ m' b, boundsB rec n (.ed l s cells) = .ok (m', b) → ∃ s' c', m' = .ed l s' c' ∧ s'.J) ∧
    (∀ m' r, tightenB rec q n (.ed l s cells) = .ok (m', r) → ∃ s' c', m' = .ed l s' c' ∧ s'.J) ∧
    (∀ m', onDiffB rec q n (.ed l s cells) = .ok m' → ∃ s' c', m' = .ed l s' c' ∧ s'.J) :=
  ed_freed_cached rec q n l s cells hj

theorem editDistance_fresh_J (ps : Nat × Nat) (fs ts : List Nat) (pen : Nat) : (edInit ps fs ts pen).J :=
  edInit_J ps fs ts pen

/-! non-vacuity: the machines of C04's examples (a nested positional list edit; a lazily expanded fixed-key
    dictionary edit), any operation sequence, loop bound 9 resp. 40, nesting bound 9 -/
example (ops : List Op) (e : Err) : run false 9 9 C04.exampleMachine ops ≠ .error e :=
  no_internal_error_every_machine false 9 (by decide) 9 C04.exampleMachine
    (C04.exampleMachine_inv 9 (by decide)) (by decide) ops e

example (ops : List Op) (e : Err) : run true 40 9 C04.exampleDict ops ≠ .error e :=
  no_internal_error_every_machine true 40 (by decide) 9 C04.exampleDict
    (C04.exampleDict_inv (by decide) (by decide)) (by decide) ops e

/-- non-vacuity of the full statements: a list alignment with a nested fixed-key dictionary and a string edit -/
def exF : Tree := .list [.leaf (.int 1), .fdict [([107], .leaf (.str [97, 98]))], .leaf (.int 2)]
def exT : Tree := .list [.fdict [([107], .leaf (.str [97, 99, 100]))], .leaf .null]

example (q : Bool) (ops : List Op) (e : Err) :
    run q (muG C04.noAtoms (mkEdit {} {} [] [] exF exT) + 1) (height (mkEdit {} {} [] [] exF exT))
      (mkEdit {} {} [] [] exF exT) ops ≠ .error e :=
  no_internal_error q {} {} exF exT (by decide) (by decide) (by decide) (by decide) _ _ (Nat.lt_succ_self _)
    (Nat.le_succ _) ops e

theorem orcFull_nil : OrcFull ([] : Oracle) := by
  intro fps tps
  simp [Oracle.lookup, identityPairs]

/-- non-vacuity of the document-level statement: default options, two objects with a shared key, a removed key, an
    inserted key and a list alignment below — a MultiSetEdit over a matcher, key/value pair edits, an EditDistance -/
def exDocF : Doc := .obj [([97], .scalar (.int 1)), ([98], .list [.scalar (.int 1), .scalar (.int 2)])]
def exDocT : Doc := .obj [([97], .scalar (.int 2)), ([99], .list [.scalar (.int 1), .scalar (.int 3)])]

example (q : Bool) (ops : List Op) (e : Err) :
    run q (muG C04.noAtoms (mkEdit {} {} [] [] (build {} exDocF) (build {} exDocT)) + 1)
      (height (mkEdit {} {} [] [] (build {} exDocF) (build {} exDocT)))
      (mkEdit {} {} [] [] (build {} exDocF) (build {} exDocT)) ops ≠ .error e :=
  no_internal_error_docs q {} {} exDocF exDocT (by decide) (by decide) orcFull_nil (fun h => by cases h) _ _
    (Nat.lt_succ_self _) (Nat.le_succ _) ops e

end GtModel.C05
